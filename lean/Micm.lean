import Micm.Model.BackwardEuler
import Micm.Model.Basic
import Micm.Model.Builder
import Micm.Model.Concurrency
import Micm.Model.Dense
import Micm.Model.Driver
import Micm.Model.Errors
import Micm.Model.FlatKernels
import Micm.Model.FlatKernels2
import Micm.Model.FlatKernels3
import Micm.Model.History
import Micm.Model.JitGuard
import Micm.Model.LU
import Micm.Model.ProcessSet
import Micm.Model.RateConst
import Micm.Model.RateOps
import Micm.Model.Rosenbrock
import Micm.Model.Sparse
import Micm.Model.State
import Micm.Gen.Params
import Micm.Gen.RateFormulas
import Micm.Properties.C01
import Micm.Properties.C02
import Micm.Properties.C03
import Micm.Properties.C03b
import Micm.Properties.C04
import Micm.Properties.C04b
import Micm.Properties.C05
import Micm.Properties.C05b
import Micm.Properties.C06
import Micm.Properties.C06b
import Micm.Properties.C06c
import Micm.Properties.C06d
import Micm.Properties.C06e
import Micm.Properties.C06f
import Micm.Properties.C07
import Micm.Properties.C07b
import Micm.Properties.C07c
import Micm.Properties.C07d
import Micm.Properties.C07e
import Micm.Properties.C08
import Micm.Properties.C08b
import Micm.Properties.C09
import Micm.Properties.C09b
import Micm.Properties.C09c
import Micm.Properties.C10
import Micm.Properties.C10b
import Micm.Properties.C11
import Micm.Properties.C12
import Micm.Properties.C12b
import Micm.Properties.C13
import Micm.Properties.C13b
import Micm.Properties.C13c
import Micm.Properties.C14
import Micm.Properties.C14b
import Micm.Properties.C14c
import Micm.Properties.C15
import Micm.Properties.C15b
import Micm.Properties.C16
import Micm.Properties.C16b
import Micm.Properties.C16c
import Micm.Properties.C17
import Micm.Properties.C17c
import Micm.Properties.C18
import Micm.Properties.C18b
import Micm.Properties.C18c
import Micm.Properties.C18d
import Micm.Properties.C19
import Micm.Properties.C19b
import Micm.Properties.C20
import Micm.Properties.C20b
import Micm.Properties.C20c
