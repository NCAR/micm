import Mathlib.Algebra.BigOperators.Group.Finset.Basic
import Mathlib.Algebra.BigOperators.Intervals
import Mathlib.Algebra.Field.Basic
import Mathlib.Tactic.Ring
import Mathlib.Tactic.FieldSimp
import Mathlib.Tactic.Linarith

/-!
Specification side of C03/C04: dense Doolittle factorisation on total functions `Nat → Nat → K`
(DESIGN.md Appendix A.3), `L·U = A` by a stage invariant, plus the pivot-free structural facts
and the `IsLU` predicate used by the property files.
-/
open Finset

namespace Micm
namespace DenseLU
variable {K : Type} [Field K]

structure LU (K : Type) where
  L : Nat → Nat → K
  U : Nat → Nat → K

def stage (A : Nat → Nat → K) (i : Nat) (s : LU K) : LU K :=
  let U' : Nat → Nat → K := fun r c =>
    if r = i ∧ i ≤ c then A i c - ∑ j ∈ range i, s.L i j * s.U j c else s.U r c
  let L' : Nat → Nat → K := fun r c =>
    if c = i ∧ i < r then (A r i - ∑ j ∈ range i, s.L r j * U' j i) / U' i i
    else if r = i ∧ c = i then 1 else s.L r c
  ⟨L', U'⟩

/-! The defining equations of `stage`; nothing below unfolds it. -/

section stageEqs
variable (A : Nat → Nat → K) (i : Nat) (s : LU K)

theorem stage_U_row {c : Nat} (hc : i ≤ c) :
    (stage A i s).U i c = A i c - ∑ j ∈ range i, s.L i j * s.U j c :=
  if_pos ⟨rfl, hc⟩

theorem stage_U_old {r c : Nat} (h : ¬ (r = i ∧ i ≤ c)) : (stage A i s).U r c = s.U r c :=
  if_neg h

theorem stage_U_ne {r : Nat} (h : r ≠ i) (c : Nat) : (stage A i s).U r c = s.U r c :=
  stage_U_old A i s fun hh => h hh.1

theorem stage_L_col {r : Nat} (hr : i < r) :
    (stage A i s).L r i
      = (A r i - ∑ j ∈ range i, s.L r j * (stage A i s).U j i) / (stage A i s).U i i :=
  if_pos ⟨rfl, hr⟩

theorem stage_L_ii : (stage A i s).L i i = 1 :=
  (if_neg (fun h => Nat.lt_irrefl i h.2)).trans (if_pos ⟨rfl, rfl⟩)

theorem stage_L_old {r c : Nat} (h : ¬ (c = i ∧ i ≤ r)) : (stage A i s).L r c = s.L r c :=
  (if_neg (fun h' => h ⟨h'.1, Nat.le_of_lt h'.2⟩)).trans
    (if_neg (fun h' => h ⟨h'.2, Nat.le_of_eq h'.1.symm⟩))

theorem stage_L_ne {c : Nat} (h : c ≠ i) (r : Nat) : (stage A i s).L r c = s.L r c :=
  stage_L_old A i s fun hh => h hh.1

end stageEqs

def init : LU K := ⟨fun _ _ => 0, fun _ _ => 0⟩

def lu (A : Nat → Nat → K) : Nat → LU K
  | 0 => init
  | i+1 => stage A i (lu A i)

/-- the part of `Inv` that does not need non-zero pivots -/
structure Shape (i : Nat) (s : LU K) : Prop where
  U_low  : ∀ r c, c < r → s.U r c = 0
  U_rows : ∀ r c, i ≤ r → s.U r c = 0
  L_up   : ∀ r c, r < c → s.L r c = 0
  L_cols : ∀ r c, i ≤ c → s.L r c = 0
  L_diag : ∀ r, r < i → s.L r r = 1

theorem shape_init : Shape 0 (init : LU K) where
  U_low := by intros; rfl
  U_rows := by intros; rfl
  L_up := by intros; rfl
  L_cols := by intros; rfl
  L_diag := fun r h => absurd h (Nat.not_lt_zero r)

theorem shape_stage (A : Nat → Nat → K) (i : Nat) (s : LU K) (h : Shape i s) :
    Shape (i+1) (stage A i s) where
  U_low r c hcr := by
    rw [stage_U_old A i s fun hh => Nat.lt_irrefl c (Nat.lt_of_lt_of_le (hh.1 ▸ hcr) hh.2)]
    exact h.U_low r c hcr
  U_rows r c hr := by
    rw [stage_U_ne A i s (Nat.ne_of_gt hr)]; exact h.U_rows r c (Nat.le_of_succ_le hr)
  L_up r c hrc := by
    rw [stage_L_old A i s fun hh => Nat.lt_irrefl r (Nat.lt_of_lt_of_le (hh.1 ▸ hrc) hh.2)]
    exact h.L_up r c hrc
  L_cols r c hc := by
    rw [stage_L_ne A i s (Nat.ne_of_gt hc)]; exact h.L_cols r c (Nat.le_of_succ_le hc)
  L_diag r hr := by
    rcases Nat.lt_succ_iff_lt_or_eq.mp hr with hlt | rfl
    · rw [stage_L_ne A i s hlt.ne]; exact h.L_diag r hlt
    · exact stage_L_ii A r s

theorem lu_shape (A : Nat → Nat → K) (n : Nat) : Shape n (lu A n) := by
  induction n with
  | zero => exact shape_init
  | succ n ih => exact shape_stage A n _ ih

structure Inv (A : Nat → Nat → K) (i : Nat) (s : LU K) : Prop where
  U_low  : ∀ r c, c < r → s.U r c = 0
  U_rows : ∀ r c, i ≤ r → s.U r c = 0
  L_up   : ∀ r c, r < c → s.L r c = 0
  L_cols : ∀ r c, i ≤ c → s.L r c = 0
  L_diag : ∀ r, r < i → s.L r r = 1
  prod   : ∀ r c, (r < i ∨ c < i) → ∑ j ∈ range i, s.L r j * s.U j c = A r c

theorem Inv.shape {A : Nat → Nat → K} {i : Nat} {s : LU K} (h : Inv A i s) : Shape i s :=
  ⟨h.U_low, h.U_rows, h.L_up, h.L_cols, h.L_diag⟩

theorem inv_init (A : Nat → Nat → K) : Inv A 0 (init : LU K) :=
  ⟨shape_init.U_low, shape_init.U_rows, shape_init.L_up, shape_init.L_cols, shape_init.L_diag,
    fun r c h => h.elim (fun h => absurd h (Nat.not_lt_zero r)) fun h => absurd h (Nat.not_lt_zero c)⟩

theorem inv_stage (A : Nat → Nat → K) (i : Nat) (s : LU K) (h : Inv A i s)
    (hp : (stage A i s).U i i ≠ 0) : Inv A (i+1) (stage A i s) := by
  have sh := shape_stage A i s h.shape
  refine ⟨sh.U_low, sh.U_rows, sh.L_up, sh.L_cols, sh.L_diag, ?_⟩
  intro r c hrc
  -- the terms `j < i` are those of the old product
  have hsum : ∑ j ∈ range i, (stage A i s).L r j * (stage A i s).U j c
      = ∑ j ∈ range i, s.L r j * s.U j c := sum_congr rfl fun j hj => by
    have := mem_range.mp hj
    rw [stage_L_ne A i s this.ne, stage_U_ne A i s this.ne]
  rw [sum_range_succ, hsum]
  by_cases hold : r < i ∨ c < i
  · -- old entry: the new term vanishes
    rw [h.prod r c hold]
    rcases hold with hr | hc
    · rw [sh.L_up r i hr]; ring
    · rw [sh.U_low i c hc]; ring
  · -- new entry: `min r c = i`
    rcases Nat.lt_or_ge i r with hir | hri
    · obtain rfl : c = i := by omega
      have hs2 : ∑ j ∈ range c, s.L r j * (stage A c s).U j c = ∑ j ∈ range c, s.L r j * s.U j c :=
        sum_congr rfl fun j hj => by
          rw [stage_U_ne A c s (mem_range.mp hj).ne]
      rw [stage_L_col A c s hir, hs2, div_mul_cancel₀ _ hp]
      ring
    · obtain rfl : r = i := by omega
      rw [stage_L_ii, stage_U_row A r s (Nat.not_lt.mp fun hc => hold (Or.inr hc))]
      ring

theorem lu_inv (A : Nat → Nat → K) (n : Nat)
    (hp : ∀ i, i < n → (lu A (i+1)).U i i ≠ 0) : Inv A n (lu A n) := by
  induction n with
  | zero => exact inv_init A
  | succ n ih =>
    exact inv_stage A n (lu A n) (ih fun i hi => hp i (Nat.lt_succ_of_lt hi)) (hp n (Nat.lt_succ_self n))

theorem lu_correct (A : Nat → Nat → K) (n : Nat)
    (hp : ∀ i, i < n → (lu A (i+1)).U i i ≠ 0) (r c : Nat) (hr : r < n) (_hc : c < n) :
    ∑ j ∈ range n, (lu A n).L r j * (lu A n).U j c = A r c :=
  (lu_inv A n hp).prod r c (Or.inl hr)

/-- in particular the pivot `(lu A (i+1)).U i i` is the final `(lu A n).U i i` for every `n > i` -/
theorem lu_U_stable (A : Nat → Nat → K) {i m n : Nat} (him : i < m) (hmn : m ≤ n) (c : Nat) :
    (lu A n).U i c = (lu A m).U i c := by
  induction n, hmn using Nat.le_induction with
  | base => rfl
  | succ n hmn ih => exact (stage_U_ne A n _ (Nat.ne_of_lt (Nat.lt_of_lt_of_le him hmn)) c).trans ih

theorem lu_L_stable (A : Nat → Nat → K) {i m n : Nat} (him : i < m) (hmn : m ≤ n) (r : Nat) :
    (lu A n).L r i = (lu A m).L r i := by
  induction n, hmn using Nat.le_induction with
  | base => rfl
  | succ n hmn ih => exact (stage_L_ne A n _ (Nat.ne_of_lt (Nat.lt_of_lt_of_le him hmn)) r).trans ih

theorem lu_U_eq (A : Nat → Nat → K) (n i c : Nat) (hi : i < n) (hic : i ≤ c) :
    (lu A n).U i c = A i c - ∑ j ∈ range i, (lu A n).L i j * (lu A n).U j c := by
  rw [lu_U_stable A (Nat.lt_succ_self i) hi c]
  refine (stage_U_row A i _ hic).trans (congrArg _ (sum_congr rfl fun j hj => ?_))
  have hj' := mem_range.mp hj
  rw [lu_L_stable A hj' (Nat.le_of_lt hi) i, lu_U_stable A hj' (Nat.le_of_lt hi) c]

theorem lu_L_eq (A : Nat → Nat → K) (n i r : Nat) (hi : i < n) (hir : i < r) :
    (lu A n).L r i
      = (A r i - ∑ j ∈ range i, (lu A n).L r j * (lu A n).U j i) / (lu A n).U i i := by
  rw [lu_L_stable A (Nat.lt_succ_self i) hi r, lu_U_stable A (Nat.lt_succ_self i) hi i]
  refine (stage_L_col A i _ hir).trans ?_
  congr 2
  refine sum_congr rfl fun j hj => ?_
  have hj' := mem_range.mp hj
  rw [lu_L_stable A hj' (Nat.le_of_lt hi) r, lu_U_stable A (Nat.lt_succ_of_lt hj') hi i]
  rfl

structure IsLU (n : Nat) (A L U : Nat → Nat → K) : Prop where
  L_diag : ∀ i, i < n → L i i = 1
  L_up   : ∀ r c, r < n → c < n → r < c → L r c = 0
  U_low  : ∀ r c, r < n → c < n → c < r → U r c = 0
  prod   : ∀ r c, r < n → c < n → ∑ j ∈ range n, L r j * U j c = A r c

theorem lu_isLU (A : Nat → Nat → K) (n : Nat)
    (hp : ∀ i, i < n → (lu A n).U i i ≠ 0) : IsLU n A (lu A n).L (lu A n).U := by
  have hp' : ∀ i, i < n → (lu A (i+1)).U i i ≠ 0 := by
    intro i hi; rw [← lu_U_stable A (Nat.lt_succ_self i) hi i]; exact hp i hi
  have hs := lu_shape A n
  exact ⟨fun i hi => hs.L_diag i hi, fun r c _ _ h => hs.L_up r c h,
    fun r c _ _ h => hs.U_low r c h, fun r c hr hc => lu_correct A n hp' r c hr hc⟩

end DenseLU
end Micm
