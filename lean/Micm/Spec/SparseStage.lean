import Micm.Spec.DenseLU

/-!
C03 core (DESIGN.md Appendix A.5): a pattern-restricted Doolittle stage equals the dense stage
for every fill-closed pattern triple.  The dense stage is `DenseLU.stage` itself; every index is
bounded by the block size `n` (a real sparse pattern has no entries outside the `n × n` block, so an
unbounded `diagU : ∀ i, Up i i` would be unsatisfiable); the relation also tracks the unit diagonal of
`L`.  The kernel proofs (`Micm/Lemmas/LUCell.lean`) use `dense_off` only: off a fill-closed pattern the
dense factors vanish.
-/
open Finset
namespace Micm
namespace SparseLU
open DenseLU (LU stage)
variable {K : Type} [Field K]

/-- sparse stage: only pattern entries are computed, sums skip pairs outside the patterns,
    `A` is read only where its own pattern `Ap` says so (else 0) — as the index streams do. -/
def sstage (A : Nat → Nat → K) (Ap Lp Up : Nat → Nat → Bool) (i : Nat) (s : LU K) : LU K :=
  let av : Nat → Nat → K := fun r c => if Ap r c then A r c else 0
  let U' : Nat → Nat → K := fun r c =>
    if r = i ∧ i ≤ c ∧ Up i c then
      av i c - ∑ j ∈ range i, (if Lp i j ∧ Up j c then s.L i j * s.U j c else 0)
    else s.U r c
  let L' : Nat → Nat → K := fun r c =>
    if c = i ∧ i < r ∧ Lp r i then
      (av r i - ∑ j ∈ range i, (if Lp r j ∧ Up j i then s.L r j * U' j i else 0)) / U' i i
    else if r = i ∧ c = i then 1 else s.L r c
  ⟨L', U'⟩

def slu (A : Nat → Nat → K) (Ap Lp Up : Nat → Nat → Bool) (s0 : LU K) : Nat → LU K
  | 0 => s0
  | i+1 => sstage A Ap Lp Up i (slu A Ap Lp Up s0 i)

section sstageEqs
variable (Am : Nat → Nat → K) (Ap Lb Ub : Nat → Nat → Bool) (i : Nat) (s : LU K)

theorem sstage_U_row (c : Nat) (hc : i ≤ c) (hu : Ub i c = true) :
    (sstage Am Ap Lb Ub i s).U i c = (if Ap i c then Am i c else 0)
        - ∑ j ∈ range i, (if Lb i j ∧ Ub j c then s.L i j * s.U j c else 0) :=
  if_pos ⟨rfl, hc, hu⟩

theorem sstage_U_old (r c : Nat) (h : ¬ (r = i ∧ i ≤ c)) :
    (sstage Am Ap Lb Ub i s).U r c = s.U r c :=
  if_neg fun h' => h ⟨h'.1, h'.2.1⟩

theorem sstage_U_ne (r c : Nat) (h : r ≠ i) : (sstage Am Ap Lb Ub i s).U r c = s.U r c :=
  sstage_U_old Am Ap Lb Ub i s r c fun hh => h hh.1

theorem sstage_L_col (r : Nat) (hr : i < r) (hl : Lb r i = true) :
    (sstage Am Ap Lb Ub i s).L r i = ((if Ap r i then Am r i else 0)
        - ∑ j ∈ range i, (if Lb r j ∧ Ub j i then s.L r j * (sstage Am Ap Lb Ub i s).U j i else 0))
          / (sstage Am Ap Lb Ub i s).U i i :=
  if_pos ⟨rfl, hr, hl⟩

theorem sstage_L_ii : (sstage Am Ap Lb Ub i s).L i i = 1 :=
  (if_neg fun h => Nat.lt_irrefl i h.2.1).trans (if_pos ⟨rfl, rfl⟩)

theorem sstage_L_old (r c : Nat) (h : ¬ (c = i ∧ i ≤ r)) :
    (sstage Am Ap Lb Ub i s).L r c = s.L r c :=
  (if_neg fun h' => h ⟨h'.1, Nat.le_of_lt h'.2.1⟩).trans
    (if_neg fun h' => h ⟨h'.2, Nat.le_of_eq h'.1.symm⟩)

theorem sstage_L_ne (r c : Nat) (h : c ≠ i) : (sstage Am Ap Lb Ub i s).L r c = s.L r c :=
  sstage_L_old Am Ap Lb Ub i s r c fun hh => h hh.1

end sstageEqs

theorem ite_support {A : Nat → Nat → K} {Ap : Nat → Nat → Bool}
    (hA : ∀ r c, Ap r c = false → A r c = 0) (r c : Nat) :
    (if Ap r c then A r c else 0) = A r c := by
  cases ha : Ap r c
  · exact (if_neg Bool.false_ne_true).trans (hA r c ha).symm
  · exact if_pos rfl

/-- what the symbolic factorisation must guarantee: on the `n × n` block the diagonal of `U` is
    present, the patterns contain the support of `A` and are closed under the two fill rules. -/
structure Closed (n : Nat) (Ap Lp Up : Nat → Nat → Bool) : Prop where
  diagU : ∀ i, i < n → Up i i = true
  supU : ∀ r c, r ≤ c → c < n → Ap r c = true → Up r c = true
  supL : ∀ r c, c < r → r < n → Ap r c = true → Lp r c = true
  fillU : ∀ i j k, j < i → i ≤ k → k < n → Lp i j = true → Up j k = true → Up i k = true
  fillL : ∀ i j k, j < i → i < k → k < n → Lp k j = true → Up j i = true → Lp k i = true

structure Rel (n : Nat) (Lp Up : Nat → Nat → Bool) (i : Nat) (d s : LU K) : Prop where
  U_on  : ∀ r c, r < i → r ≤ c → c < n → Up r c = true → s.U r c = d.U r c
  U_off : ∀ r c, r < i → r ≤ c → c < n → Up r c = false → d.U r c = 0
  L_on  : ∀ r c, c < i → c < r → r < n → Lp r c = true → s.L r c = d.L r c
  L_off : ∀ r c, c < i → c < r → r < n → Lp r c = false → d.L r c = 0
  L_diag : ∀ r, r < i → s.L r r = 1

theorem rel_zero (n : Nat) (Lp Up : Nat → Nat → Bool) (d s : LU K) : Rel n Lp Up 0 d s :=
  ⟨fun _ _ h => absurd h (Nat.not_lt_zero _), fun _ _ h => absurd h (Nat.not_lt_zero _),
    fun _ _ h => absurd h (Nat.not_lt_zero _), fun _ _ h => absurd h (Nat.not_lt_zero _),
    fun _ h => absurd h (Nat.not_lt_zero _)⟩

theorem sum_restrict (i : Nat) (f g : Nat → K) (p : Nat → Prop) [DecidablePred p]
    (hon : ∀ j, j < i → p j → f j = g j) (hoff : ∀ j, j < i → ¬ p j → g j = 0) :
    ∑ j ∈ range i, (if p j then f j else 0) = ∑ j ∈ range i, g j := by
  apply sum_congr rfl
  intro j hj
  have hj' := mem_range.mp hj
  by_cases h : p j
  · simp [h, hon j hj' h]
  · simp [h, hoff j hj' h]

theorem rel_stage (n : Nat) (A : Nat → Nat → K) (Ap Lp Up : Nat → Nat → Bool)
    (hc : Closed n Ap Lp Up)
    (hA : ∀ r c, Ap r c = false → A r c = 0) (i : Nat) (hin : i < n) (d s : LU K)
    (h : Rel n Lp Up i d s) :
    Rel n Lp Up (i+1) (stage A i d) (sstage A Ap Lp Up i s) := by
  -- one product `L r j · U j c`, `j < i`: where both patterns have the factor the sparse and the
  -- dense product agree, elsewhere the dense product vanishes
  have term_on : ∀ r c j, j < i → j < r → r < n → j ≤ c → c < n → Lp r j = true → Up j c = true →
      s.L r j * s.U j c = d.L r j * d.U j c := by
    intro r c j hj hjr hr hjc hcn h1 h2
    rw [h.L_on r j hj hjr hr h1, h.U_on j c hj hjc hcn h2]
  have term_off : ∀ r c j, j < i → j < r → r < n → j ≤ c → c < n →
      ¬ (Lp r j = true ∧ Up j c = true) → d.L r j * d.U j c = 0 := by
    intro r c j hj hjr hr hjc hcn hp
    cases h1 : Lp r j
    · rw [h.L_off r j hj hjr hr h1, zero_mul]
    · cases h2 : Up j c
      · rw [h.U_off j c hj hjc hcn h2, mul_zero]
      · exact absurd ⟨h1, h2⟩ hp
  have sU : ∀ c, i ≤ c → c < n → Up i c = true →
      (sstage A Ap Lp Up i s).U i c = (stage A i d).U i c := by
    intro c hic hcn hu
    rw [sstage_U_row A Ap Lp Up i s c hic hu, ite_support hA, DenseLU.stage_U_row A i d hic]
    exact congrArg _ (sum_restrict i _ _ _
      (fun j hj hp => term_on i c j hj hj hin (hj.trans_le hic).le hcn hp.1 hp.2)
      (fun j hj hp => term_off i c j hj hj hin (hj.trans_le hic).le hcn hp))
  have dU_off : ∀ c, i ≤ c → c < n → Up i c = false → (stage A i d).U i c = 0 := by
    intro c hic hcn hu
    have hAp : Ap i c = false := by
      cases ha : Ap i c
      · rfl
      · rw [hc.supU i c hic hcn ha] at hu; cases hu
    rw [DenseLU.stage_U_row A i d hic, hA i c hAp, sub_eq_zero, eq_comm]
    exact sum_eq_zero fun j hj => term_off i c j (mem_range.mp hj) (mem_range.mp hj) hin
      ((mem_range.mp hj).trans_le hic).le hcn
      (fun hp => by rw [hc.fillU i j c (mem_range.mp hj) hic hcn hp.1 hp.2] at hu; cases hu)
  -- column `i` of `L`; rows `j < i` of `U` are untouched by this stage
  have sL : ∀ r, i < r → r < n → Lp r i = true →
      (sstage A Ap Lp Up i s).L r i = (stage A i d).L r i := by
    intro r hir hrn hl
    rw [sstage_L_col A Ap Lp Up i s r hir hl, ite_support hA, DenseLU.stage_L_col A i d hir,
      sU i (le_refl i) hin (hc.diagU i hin)]
    congr 2
    refine sum_restrict i _ _ _ (fun j hj hp => ?_) (fun j hj hp => ?_)
    · rw [sstage_U_ne A Ap Lp Up i s j i hj.ne, DenseLU.stage_U_ne A i d hj.ne]
      exact term_on r i j hj (hj.trans hir) hrn hj.le hin hp.1 hp.2
    · rw [DenseLU.stage_U_ne A i d hj.ne]
      exact term_off r i j hj (hj.trans hir) hrn hj.le hin hp
  have dL_off : ∀ r, i < r → r < n → Lp r i = false → (stage A i d).L r i = 0 := by
    intro r hir hrn hl
    have hAp : Ap r i = false := by
      cases ha : Ap r i
      · rfl
      · rw [hc.supL r i hir hrn ha] at hl; cases hl
    have hz : ∑ j ∈ range i, d.L r j * (stage A i d).U j i = 0 := sum_eq_zero fun j hj => by
      have hj' := mem_range.mp hj
      rw [DenseLU.stage_U_ne A i d hj'.ne]
      exact term_off r i j hj' (hj'.trans hir) hrn hj'.le hin
        (fun hp => by rw [hc.fillL i j r hj' hir hrn hp.1 hp.2] at hl; cases hl)
    rw [DenseLU.stage_L_col A i d hir, hA r i hAp, hz, sub_zero, zero_div]
  refine ⟨?_, ?_, ?_, ?_, ?_⟩
  · intro r c hr hrc hcn hu
    rcases Nat.lt_succ_iff_lt_or_eq.mp hr with hlt | rfl
    · rw [sstage_U_ne A Ap Lp Up i s r c hlt.ne, DenseLU.stage_U_ne A i d hlt.ne]
      exact h.U_on r c hlt hrc hcn hu
    · exact sU c hrc hcn hu
  · intro r c hr hrc hcn hu
    rcases Nat.lt_succ_iff_lt_or_eq.mp hr with hlt | rfl
    · rw [DenseLU.stage_U_ne A i d hlt.ne]; exact h.U_off r c hlt hrc hcn hu
    · exact dU_off c hrc hcn hu
  · intro r c hc' hcr hrn hl
    rcases Nat.lt_succ_iff_lt_or_eq.mp hc' with hlt | rfl
    · rw [sstage_L_ne A Ap Lp Up i s r c hlt.ne, DenseLU.stage_L_ne A i d hlt.ne]
      exact h.L_on r c hlt hcr hrn hl
    · exact sL r hcr hrn hl
  · intro r c hc' hcr hrn hl
    rcases Nat.lt_succ_iff_lt_or_eq.mp hc' with hlt | rfl
    · rw [DenseLU.stage_L_ne A i d hlt.ne]; exact h.L_off r c hlt hcr hrn hl
    · exact dL_off r hcr hrn hl
  · intro r hr
    rcases Nat.lt_succ_iff_lt_or_eq.mp hr with hlt | rfl
    · rw [sstage_L_ne A Ap Lp Up i s r r hlt.ne]; exact h.L_diag r hlt
    · exact sstage_L_ii A Ap Lp Up r s

/-- from *any* initial state `s0`: the prior contents of the sparse storage do not matter -/
theorem rel_slu (n : Nat) (A : Nat → Nat → K) (Ap Lp Up : Nat → Nat → Bool)
    (hc : Closed n Ap Lp Up) (hA : ∀ r c, Ap r c = false → A r c = 0) (s0 : LU K)
    (m : Nat) (hm : m ≤ n) :
    Rel n Lp Up m (DenseLU.lu A m) (slu A Ap Lp Up s0 m) := by
  induction m with
  | zero => exact rel_zero n Lp Up _ _
  | succ m ih => exact rel_stage n A Ap Lp Up hc hA m hm _ _ (ih (Nat.le_of_succ_le hm))

theorem dense_off {n : Nat} {Ap Lp Up : Nat → Nat → Bool} (hc : Closed n Ap Lp Up)
    (A : Nat → Nat → K) (hA : ∀ r c, Ap r c = false → A r c = 0) :
    (∀ r c, r ≤ c → c < n → Up r c = false → (DenseLU.lu A n).U r c = 0) ∧
    (∀ r c, c < r → r < n → Lp r c = false → (DenseLU.lu A n).L r c = 0) :=
  have h := rel_slu n A Ap Lp Up hc hA DenseLU.init n (le_refl n)
  ⟨fun r c hrc hcn hu => h.U_off r c (Nat.lt_of_le_of_lt hrc hcn) hrc hcn hu,
    fun r c hcr hrn hl => h.L_off r c (hcr.trans hrn) hcr hrn hl⟩

end SparseLU
end Micm
