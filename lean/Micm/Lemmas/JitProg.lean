/-
Helper lemmas for `Properties/C18b.lean` and `C18c.lean`: a lane loop changes exactly one of the four arrays of the
memory (`JLoop.run_eq`), so does a segment of loops with the same destination array (`JProg.run_map_arr`); how runs
of generated segments compose.
-/
import Micm.Model.JitProg
import Micm.Lemmas.ArrayFold
namespace Micm
set_option linter.unusedSectionVars false

section
variable {α : Type} [OfNat α 0] [Add α] [Sub α] [Mul α] [Div α]

theorem JProg.run_append (L : Nat) (p q : JProg α) (m : JMem α) :
    JProg.run L (p ++ q) m = JProg.run L q (JProg.run L p m) := by
  simp [JProg.run, List.foldl_append]

theorem JProg.run_cons (L : Nat) (lp : JLoop α) (p : JProg α) (m : JMem α) :
    JProg.run L (lp :: p) m = JProg.run L p (lp.run L m) := rfl

theorem JProg.run_nil (L : Nat) (m : JMem α) : JProg.run L ([] : JProg α) m = m := rfl

theorem JProg.run_map {β : Type} (L : Nat) (f : β → JLoop α) (l : List β) (m : JMem α) :
    JProg.run L (l.map f) m = l.foldl (fun m b => (f b).run L m) m := by
  simp [JProg.run, List.foldl_map]

theorem JProg.run_singleton (L : Nat) (lp : JLoop α) (m : JMem α) : JProg.run L [lp] m = lp.run L m := rfl

theorem JProg.run_flatMap {β : Type} (L : Nat) (f : β → JProg α) (l : List β) (m : JMem α) :
    JProg.run L (l.flatMap f) m = l.foldl (fun m b => JProg.run L (f b) m) m := by
  induction l generalizing m with
  | nil => rfl
  | cons b l ih => rw [List.flatMap_cons, JProg.run_append, ih]; rfl

inductive JArr | a0 | a1 | a2 | buf

/-- the argument number decoded as `JMem.load`/`JMem.store` do -/
def JLoc.arr : JLoc → JArr
  | .arg 0 _ => .a0
  | .arg 1 _ => .a1
  | .arg _ _ => .a2
  | .buf => .buf

def JLoc.idx : JLoc → Nat → Nat
  | .arg _ off, i => i + off
  | .buf, i => i

def JMem.get (m : JMem α) : JArr → Array α
  | .a0 => m.a0
  | .a1 => m.a1
  | .a2 => m.a2
  | .buf => m.buf

def JMem.set (m : JMem α) : JArr → Array α → JMem α
  | .a0, b => { m with a0 := b }
  | .a1, b => { m with a1 := b }
  | .a2, b => { m with a2 := b }
  | .buf, b => { m with buf := b }

theorem JMem.store_eq (m : JMem α) (i : Nat) (v : α) (l : JLoc) :
    m.store i v l = m.set l.arr (wr (m.get l.arr) (l.idx i) v) := by
  rcases l with ⟨_ | _ | a, off⟩ | _ <;> rfl

theorem JMem.set_get (m : JMem α) (A : JArr) : m.set A (m.get A) = m := by cases A <;> rfl

theorem JMem.set_set (m : JMem α) (A : JArr) (b c : Array α) : (m.set A b).set A c = m.set A c := by
  cases A <;> rfl

theorem JMem.get_set (m : JMem α) (A : JArr) (b : Array α) : (m.set A b).get A = b := by cases A <;> rfl

/-- what one lane loop does to its destination array (array `A` of the memory, currently `arr`; the
    other arrays are those of `m`) -/
def JLoop.lanes (L : Nat) (lp : JLoop α) (A : JArr) (m : JMem α) (arr : Array α) : Array α :=
  (List.range L).foldl (fun arr i => wr arr (lp.dst.idx i) (lp.e.eval (m.set A arr) i)) arr

theorem JLoop.run_eq (L : Nat) (lp : JLoop α) (m : JMem α) :
    lp.run L m = m.set lp.dst.arr (lp.lanes L lp.dst.arr m (m.get lp.dst.arr)) := by
  unfold JLoop.run JLoop.lanes
  generalize List.range L = ls
  induction ls generalizing m with
  | nil => exact (m.set_get _).symm
  | cons i ls ih =>
    rw [List.foldl_cons, ih, JMem.store_eq, List.foldl_cons]
    simp only [JMem.set_set, JMem.get_set, JMem.set_get]

theorem JProg.run_map_arr {β : Type} (L : Nat) (A : JArr) (f : β → JLoop α) (hA : ∀ b, (f b).dst.arr = A)
    (l : List β) (m : JMem α) :
    JProg.run L (l.map f) m = m.set A (l.foldl (fun arr b => (f b).lanes L A m arr) (m.get A)) := by
  induction l generalizing m with
  | nil => exact (m.set_get A).symm
  | cons b l ih =>
    rw [List.map_cons, JProg.run_cons, JLoop.run_eq, hA b, ih, List.foldl_cons]
    simp only [JLoop.lanes, JMem.set_set, JMem.get_set]

/-- the generated code addresses lane `l` of element `a` as `l + a`, the CPU kernels as `offset + a + l` -/
theorem laneAddr_eq (a l : Nat) : 0 + a + l = l + a := by omega

/-- a JIT solver has exactly `L` cells: one group -/
theorem ceilDiv_self {L : Nat} (hL : 0 < L) : (L + L - 1) / L = 1 := by
  rw [show L + L - 1 = L * 1 + (L - 1) by omega, Nat.mul_add_div hL, Nat.div_eq_of_lt (by omega)]

/-- whatever the buffer held: the `alloca` of the generated code is uninitialised -/
theorem fold_wr_range (f : Nat → α) (n : Nat) (b : Array α) (hb : b.size = n) :
    (List.range n).foldl (fun b i => wr b i (f i)) b = ((List.range n).map f).toArray := by
  have hs : ∀ k, ((List.range k).foldl (fun b i => wr b i (f i)) b).size = n := fun k =>
    (foldl_wr_size (fun i => i) (fun _ i => f i) _ b).trans hb
  have key : ∀ j, j < n → rd ((List.range n).foldl (fun b i => wr b i (f i)) b) j = f j := fun j hj => by
    rw [foldl_rmw_rd (fun i _ => f i) (List.range n) b List.nodup_range j,
      if_pos ⟨List.mem_range.mpr hj, hb ▸ hj⟩]
  apply Array.ext
  · rw [hs n, List.size_toArray, List.length_map, List.length_range]
  · intro j h1 h2
    have hj : j < n := hs n ▸ h1
    have h := key j hj
    rw [rd, Array.getD_eq_getD_getElem?, Array.getElem?_eq_getElem h1, Option.getD_some] at h
    rw [h, List.getElem_toArray, List.getElem_map, List.getElem_range]

end
end Micm
