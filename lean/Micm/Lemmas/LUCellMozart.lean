import Micm.Lemmas.LUCell

/-!
C03, Mozart (right-looking) variants.  Invariant after stage `i`: the rows `< i` of `U` and the
columns `< i` of `L` are final (equal to the dense Doolittle factors), and every working entry
`(r,c)` with `min r c ≥ i` holds the Schur complement `A r c − Σ_{m<i} L r m · U m c`.
-/
open Finset
namespace Micm
open DenseLU (LU)
open SparseLU (Closed)
variable {K : Type} [Field K]

def schur (Am : Nat → Nat → K) (d : LU K) (i r c : Nat) : K :=
  Am r c - ∑ m ∈ range i, d.L r m * d.U m c

theorem schur_zero (Am : Nat → Nat → K) (d : LU K) (r c : Nat) : schur Am d 0 r c = Am r c := by
  simp [schur]

theorem schur_succ (Am : Nat → Nat → K) (d : LU K) (i r c : Nat) :
    schur Am d (i + 1) r c = schur Am d i r c - d.L r i * d.U i c := by
  simp only [schur, Finset.sum_range_succ]; ring

theorem lu_U_schur (Am : Nat → Nat → K) (n i c : Nat) (hi : i < n) (hic : i ≤ c) :
    (DenseLU.lu Am n).U i c = schur Am (DenseLU.lu Am n) i i c :=
  DenseLU.lu_U_eq Am n i c hi hic

theorem lu_L_schur (Am : Nat → Nat → K) (n i r : Nat) (hi : i < n) (hir : i < r) :
    (DenseLU.lu Am n).L r i
      = schur Am (DenseLU.lu Am n) i r i * (1 / schur Am (DenseLU.lu Am n) i i i) := by
  rw [DenseLU.lu_L_eq Am n i r hi hir, ← lu_U_schur Am n i i hi (le_refl i)]
  unfold schur
  rw [mul_one_div]

def colPairs (T X : Pattern) (lo hi i k : Nat) : List (Nat × Nat) :=
  (rangeFrom lo hi).filterMap fun j => if X.zero? j i then none else some (T.rk j k, X.rk j i)

/-- `T(j,k) -= F (X.rk j i)` for the rows of `colPairs`; the subtrahend may read the current
    array anywhere but in the part of column `k` the loop writes -/
theorem colUpdate {n : Nat} {T : Pattern} (g : GoodPattern n T) (X : Pattern)
    (F : Array K → Nat → K) (M : Array K) (hM : M.size = T.nnz) (lo hi i k : Nat) (hk : k < n)
    (hhi : hi ≤ n) (hjk : ∀ j, lo ≤ j → j < hi → X.zero? j i = false → T.zero? j k = false)
    (hF : ∀ M', M'.size = T.nnz →
      (∀ r c, r < n → c < n → ¬ (c = k ∧ lo ≤ r ∧ r < hi ∧ X.zero? r i = false) →
        view T M' r c = view T M r c) →
      ∀ j, lo ≤ j → j < hi → X.zero? j i = false → F M' (X.rk j i) = F M (X.rk j i)) :
    ((colPairs T X lo hi i k).foldl (fun M p => wr M p.1 (rd M p.1 - F M p.2)) M).size = T.nnz ∧
    (∀ j, lo ≤ j → j < hi → X.zero? j i = false →
      view T ((colPairs T X lo hi i k).foldl (fun M p => wr M p.1 (rd M p.1 - F M p.2)) M) j k
        = view T M j k - F M (X.rk j i)) ∧
    (∀ r c, r < n → c < n → ¬ (c = k ∧ lo ≤ r ∧ r < hi ∧ X.zero? r i = false) →
      view T ((colPairs T X lo hi i k).foldl (fun M p => wr M p.1 (rd M p.1 - F M p.2)) M) r c
        = view T M r c) := by
  have hsome : ∀ j p, (if X.zero? j i then none else some (T.rk j k, X.rk j i)) = some p →
      X.zero? j i = false ∧ p = (T.rk j k, X.rk j i) := by
    intro j p hp
    cases hz : X.zero? j i <;> simp [hz] at hp
    exact ⟨rfl, hp.symm⟩
  obtain ⟨g1, g2, g3⟩ := phase_slots g lo hi
    (fun j => if X.zero? j i then none else some (T.rk j k, X.rk j i))
    (fun M p => wr M p.1 (rd M p.1 - F M p.2)) M hM (fun j => j) (fun _ => k)
    (fun j => X.zero? j i = false) (fun j => view T M j k - F M (X.rk j i))
    (fun j p _ _ hp => (hsome j p hp).1)
    (fun j h1 h2 hp => ⟨Nat.lt_of_lt_of_le h2 hhi, hk, hjk j h1 h2 hp⟩)
    (fun j j' _ _ hr _ => hr)
    (by
      intro M' j p h1 h2 hp hMs' hM' hown
      obtain ⟨hpj, rfl⟩ := hsome j p hp
      show wr M' (T.rk j k) (rd M' (T.rk j k) - F M' (X.rk j i)) = _
      rw [← view_present _ _ _ _ (hjk j h1 h2 hpj), hown,
        hF M' hMs' (fun r c hr hc hne => hM' r c hr hc fun j' a1 a2 a3 heq =>
          hne ⟨heq.2, heq.1 ▸ a1, heq.1 ▸ a2, heq.1 ▸ a3⟩) j h1 h2 hpj])
  exact ⟨g1, fun j h1 h2 hp => g3 j (T.rk j k, X.rk j i) h1 h2 (by simp [hp]),
    fun r c hr hc hne => g2 r c hr hc fun j a1 a2 a3 heq =>
      hne ⟨heq.2, heq.1 ▸ a1, heq.1 ▸ a2, heq.1 ▸ a3⟩⟩

def miPairs (P : Pattern) (n i k : Nat) : List (Nat × Nat) :=
  (rangeFrom (i + 1) n).filterMap fun j => if P.zero? j i then none else some (P.rk j k, P.rk j i)

def miAji (P : Pattern) (i j : Nat) : Option Nat := if P.zero? j i then none else some (P.rk j i)

def miK (P : Pattern) (n i k : Nat) : Option MIK :=
  if P.zero? i k then none else some ⟨P.rk i k, miPairs P n i k⟩

def miRow (P : Pattern) (n i : Nat) : MIRow :=
  { aii := P.rk i i, aji := (rangeFrom (i + 1) n).filterMap (miAji P i),
    ks := (rangeFrom (i + 1) n).filterMap (miK P n i) }

theorem mozartInPlaceRows_eq (P : Pattern) :
    mozartInPlaceRows P = (List.range P.n).map (miRow P P.n) := rfl

def miStepK (M : Array K) (k : MIK) : Array K :=
  let aik := rd M k.aik
  k.pairs.foldl (fun M p => wr M p.1 (rd M p.1 - rd M p.2 * aik)) M

def miStep (M : Array K) (r : MIRow) : Array K :=
  let inv : K := 1 / rd M r.aii
  let M := r.aji.foldl (fun M i => wr M i (rd M i * inv)) M
  r.ks.foldl miStepK M

theorem mozartInPlaceCell_eq (rows : List MIRow) (M : Array K) :
    mozartInPlaceCell rows M = rows.foldl miStep M := rfl

section mip
variable {n : Nat} {P : Pattern}

theorem miPhase1 (g : GoodPattern n P) (M : Array K) (inv : K) (i : Nat) (hi : i < n)
    (hMs : M.size = P.nnz) :
    (((rangeFrom (i + 1) n).filterMap (miAji P i)).foldl
        (fun M t => wr M t (rd M t * inv)) M).size = P.nnz ∧
    (∀ j, i < j → j < n →
      view P (((rangeFrom (i + 1) n).filterMap (miAji P i)).foldl
        (fun M t => wr M t (rd M t * inv)) M) j i = view P M j i * inv) ∧
    (∀ r c, r < n → c < n → ¬ (c = i ∧ i < r) →
      view P (((rangeFrom (i + 1) n).filterMap (miAji P i)).foldl
        (fun M t => wr M t (rd M t * inv)) M) r c = view P M r c) := by
  have hsome : ∀ j t, miAji P i j = some t → P.zero? j i = false ∧ t = P.rk j i := by
    intro j t ht
    unfold miAji at ht
    cases hz : P.zero? j i <;> simp [hz] at ht
    exact ⟨rfl, ht.symm⟩
  obtain ⟨g1, g2, g3⟩ := phase_slots g (i + 1) n (miAji P i)
    (fun M t => wr M t (rd M t * inv)) M hMs (fun j => j) (fun _ => i)
    (fun j => P.zero? j i = false) (fun j => view P M j i * inv)
    (fun j t _ _ ht => (hsome j t ht).1) (fun j h1 h2 hp => ⟨h2, hi, hp⟩)
    (fun j j' _ _ hr _ => hr)
    (by
      intro M' j t h1 h2 ht hMs' hM hown
      obtain ⟨hp, rfl⟩ := hsome j t ht
      show wr M' (P.rk j i) (rd M' (P.rk j i) * inv) = _
      rw [← view_present _ _ _ _ hp, hown])
  refine ⟨g1, fun j h1 h2 => ?_, fun r c hr hc hne => g2 r c hr hc fun j a1 _ _ hh =>
    hne ⟨hh.2, hh.1 ▸ a1⟩⟩
  cases hp : P.zero? j i
  · exact g3 j (P.rk j i) h1 h2 (by simp [miAji, hp])
  · rw [view_absent _ _ _ _ hp, view_absent _ _ _ _ hp, zero_mul]

/-- the rank-one update of the trailing block: where `(r,i)` or `(i,c)` is absent the product is `0` and
    nothing is written -/
theorem miPhase2 (h : IPSetup n P) (M : Array K) (i : Nat) (hi : i < n) (hMs : M.size = P.nnz) :
    (((rangeFrom (i + 1) n).filterMap (miK P n i)).foldl miStepK M).size = P.nnz ∧
    (∀ r c, i < r → r < n → i < c → c < n →
      view P (((rangeFrom (i + 1) n).filterMap (miK P n i)).foldl miStepK M) r c
        = view P M r c - view P M r i * view P M i c) ∧
    (∀ r c, r < n → c < n → ¬ (i < r ∧ i < c) →
      view P (((rangeFrom (i + 1) n).filterMap (miK P n i)).foldl miStepK M) r c
        = view P M r c) := by
  have hsome : ∀ k e, miK P n i k = some e →
      P.zero? i k = false ∧ e = ⟨P.rk i k, miPairs P n i k⟩ := by
    intro k e he
    unfold miK at he
    cases hz : P.zero? i k <;> simp [hz] at he
    exact ⟨rfl, he.symm⟩
  obtain ⟨g1, g2, g3⟩ := phase_blocks (fun (M : Array K) (x : Nat × Nat) => view P M x.1 x.2)
    (fun M => M.size = P.nnz) (fun x => x.1 < n ∧ x.2 < n) (i + 1) n (miK P n i)
    miStepK M hMs (fun k j => (j, k))
    (fun k j => i < j ∧ j < n ∧ P.zero? j i = false ∧ P.zero? i k = false)
    (fun k j => view P M j k - view P M j i * view P M i k)
    (fun k j _ h2 hq => ⟨hq.2.1, h2⟩)
    (fun k k' j j' _ _ _ _ _ _ heq => (Prod.mk.inj heq).2)
    (by
      intro M' k e h1 h2 he hMs' hM hown
      obtain ⟨hpk, rfl⟩ := hsome k e he
      -- column `i` and row `i` are outside all blocks
      have hcol : ∀ j, j < n → view P M' j i = view P M j i := fun j hj =>
        hM (j, i) ⟨hj, hi⟩ fun k' j' a1 _ _ heq => Nat.lt_irrefl i ((Prod.mk.inj heq).2 ▸ a1)
      have hrow : view P M' i k = view P M i k :=
        hM (i, k) ⟨hi, h2⟩ fun k' j' _ _ hq heq => Nat.lt_irrefl i ((Prod.mk.inj heq).1 ▸ hq.1)
      obtain ⟨c1, c2, c3⟩ := colUpdate h.g P (fun M x => rd M x * rd M' (P.rk i k)) M' hMs'
        (i + 1) n i k h2 (le_refl n)
        (fun j h1' h2' hp => h.fill j k i h2' h2 h1' h1 hp hpk)
        (fun M'' _ hfr j h1' h2' hp => by
          show rd M'' (P.rk j i) * _ = rd M' (P.rk j i) * _
          rw [← view_present _ _ _ _ hp, ← view_present _ _ _ _ hp,
            hfr j i h2' hi fun hh => Nat.lt_irrefl i (hh.1 ▸ h1)])
      refine ⟨c1, fun j hq => ?_, fun x hx hne => c3 x.1 x.2 hx.1 hx.2 fun hh =>
        hne x.1 ⟨hh.2.1, hh.2.2.1, hh.2.2.2, hpk⟩ (Prod.ext rfl hh.1)⟩
      show view P ((colPairs P P (i + 1) n i k).foldl _ M') j k = _
      rw [c2 j hq.1 hq.2.1 hq.2.2.1, hown j hq, ← view_present _ _ _ _ hq.2.2.1,
        ← view_present _ _ _ _ hpk, hcol j hq.2.1, hrow])
  refine ⟨g1, fun r c hir hr hic hc => ?_, fun r c hr hc hne => g2 (r, c) ⟨hr, hc⟩
    fun k j a1 _ hq heq => hne ⟨(Prod.mk.inj heq).1 ▸ hq.1, (Prod.mk.inj heq).2 ▸ a1⟩⟩
  by_cases ht : P.zero? r i = false ∧ P.zero? i c = false
  · exact g3 c ⟨P.rk i c, miPairs P n i c⟩ r hic hc (by simp [miK, ht.2])
      ⟨hir, hr, ht.1, ht.2⟩
  · have hz : view P M r i * view P M i c = 0 := by
      cases h1 : P.zero? r i
      · cases h2 : P.zero? i c
        · exact absurd ⟨h1, h2⟩ ht
        · rw [view_absent _ _ _ _ h2, mul_zero]
      · rw [view_absent _ _ _ _ h1, zero_mul]
    rw [hz, sub_zero]
    exact g2 (r, c) ⟨hr, hc⟩ fun k j _ _ hq heq => by
      obtain ⟨rfl, rfl⟩ := Prod.mk.inj heq
      exact ht ⟨hq.2.2.1, hq.2.2.2⟩

theorem miStep_final (h : IPSetup n P) (Am : Nat → Nat → K) (M : Array K) (i : Nat) (hi : i < n)
    (hMs : M.size = P.nnz)
    (hf : FinalIP n P (DenseLU.lu Am n) (schur Am (DenseLU.lu Am n) i) i M) :
    (miStep M (miRow P n i)).size = P.nnz ∧
    FinalIP n P (DenseLU.lu Am n) (schur Am (DenseLU.lu Am n) (i + 1)) (i + 1)
      (miStep M (miRow P n i)) := by
  simp only [miStep, miRow]
  obtain ⟨p1, p2, p3⟩ := miPhase1 h.g M (1 / rd M (P.rk i i)) i hi hMs
  generalize ((rangeFrom (i + 1) n).filterMap (miAji P i)).foldl
    (fun M' t => wr M' t (rd M' t * (1 / rd M (P.rk i i)))) M = M1 at p1 p2 p3
  obtain ⟨q1, q2, q3⟩ := miPhase2 h M1 i hi p1
  generalize ((rangeFrom (i + 1) n).filterMap (miK P n i)).foldl miStepK M1 = M2 at q1 q2 q3
  have hLi : ∀ r, i < r → r < n → view P M1 r i = (DenseLU.lu Am n).L r i := by
    intro r hir hr
    rw [p2 r hir hr, hf.rest r i hir.le hr (le_refl i) hi, ← view_present _ _ _ _ (h.diag i hi),
      hf.rest i i (le_refl i) hi (le_refl i) hi, lu_L_schur Am n i r hi hir]
  have hUi : ∀ c, i ≤ c → c < n → view P M1 i c = (DenseLU.lu Am n).U i c := by
    intro c hic hc
    rw [p3 i c hi hc fun hh => Nat.lt_irrefl i hh.2, hf.rest i c (le_refl i) hi hic hc,
      lu_U_schur Am n i c hi hic]
  refine ⟨q1, ⟨fun r c hr hrc hc => ?_, fun r c hc hcr hr => ?_, fun r c hir hr hic hc => ?_⟩⟩
  · rw [q3 r c (Nat.lt_of_le_of_lt hrc hc) hc fun hh => Nat.lt_irrefl r (Nat.lt_of_lt_of_le hr hh.1)]
    rcases Nat.lt_succ_iff_lt_or_eq.mp hr with hlt | rfl
    · rw [p3 r c (hlt.trans hi) hc fun hh => Nat.lt_asymm hlt hh.2]; exact hf.U_fin r c hlt hrc hc
    · exact hUi c hrc hc
  · rw [q3 r c hr (hcr.trans hr) fun hh => Nat.lt_irrefl c (Nat.lt_of_lt_of_le hc hh.2)]
    rcases Nat.lt_succ_iff_lt_or_eq.mp hc with hlt | rfl
    · rw [p3 r c hr (hlt.trans hi) fun hh => hlt.ne hh.1]; exact hf.L_fin r c hlt hcr hr
    · exact hLi r hcr hr
  · rw [q2 r c hir hr hic hc, hLi r hir hr, hUi c (Nat.le_of_succ_le hic) hc,
      p3 r c hr hc fun hh => Nat.ne_of_gt hic hh.1,
      hf.rest r c (Nat.le_of_succ_le hir) hr (Nat.le_of_succ_le hic) hc, schur_succ]

/-- C03 core for `mozartInPlaceCell` -/
theorem mozartInPlaceCell_view (h : IPSetup n P) (hn : P.n = n) (m0 : Array K)
    (hMs : m0.size = P.nnz) (r c : Nat) (hr : r < n) (hc : c < n) :
    view P (mozartInPlaceCell (mozartInPlaceRows P) m0) r c
      = if c < r then (DenseLU.lu (view P m0) n).L r c else (DenseLU.lu (view P m0) n).U r c := by
  rw [mozartInPlaceCell_eq, mozartInPlaceRows_eq, hn]
  obtain ⟨_, hfin⟩ := foldl_rows_induct (fun i M => M.size = P.nnz ∧
      FinalIP n P (DenseLU.lu (view P m0) n) (schur (view P m0) (DenseLU.lu (view P m0) n) i) i M)
    (miRow P n) miStep m0 n
    ⟨hMs, ⟨fun _ _ h => absurd h (Nat.not_lt_zero _), fun _ _ h => absurd h (Nat.not_lt_zero _),
      fun r c _ _ _ _ => (schur_zero _ _ r c).symm⟩⟩
    (fun i hi M hM => miStep_final h (view P m0) M i hi hM.1 hM.2)
  split
  · next hcr => exact hfin.L_fin r c hc hcr hr
  · next hcr => exact hfin.U_fin r c hr (Nat.not_lt.mp hcr) hc

end mip

def applyWrites (ws : List (Nat × K)) (M : Array K) : Array K :=
  ws.foldl (fun M w => wr M w.1 w.2) M

theorem applyWrites_spec (ws : List (Nat × K)) (M : Array K) :
    (applyWrites ws M).size = M.size ∧
    (∀ x, (∀ w ∈ ws, w.1 ≠ x) → rd (applyWrites ws M) x = rd M x) ∧
    (∀ x v, x < M.size → (∃ w ∈ ws, w.1 = x) → (∀ w ∈ ws, w.1 = x → w.2 = v) →
      rd (applyWrites ws M) x = v) := by
  induction ws generalizing M with
  | nil => exact ⟨rfl, fun _ _ => rfl, by intro x v _ ⟨w, hw, _⟩; cases hw⟩
  | cons w ws ih =>
    obtain ⟨g1, g2, g3⟩ := ih (wr M w.1 w.2)
    have e : applyWrites (w :: ws) M = applyWrites ws (wr M w.1 w.2) := rfl
    rw [e]
    refine ⟨by rw [g1, wr_size], ?_, ?_⟩
    · intro x hx
      rw [g2 x (fun w' hw' => hx w' (List.mem_cons_of_mem _ hw')),
        rd_wr_ne _ _ _ _ (hx w List.mem_cons_self)]
    · intro x v hlt hex hall
      by_cases hlater : ∃ w' ∈ ws, w'.1 = x
      · exact g3 x v (by rw [wr_size]; exact hlt) hlater
          (fun w' hw' => hall w' (List.mem_cons_of_mem _ hw'))
      · have hnot : ∀ w' ∈ ws, w'.1 ≠ x := fun w' hw' heq => hlater ⟨w', hw', heq⟩
        obtain ⟨w0, hw0, hx0⟩ := hex
        rcases List.mem_cons.mp hw0 with h | h
        · subst h
          rw [g2 x hnot, ← hx0, rd_wr_same _ _ _ (by rw [hx0]; exact hlt)]
          exact hall w0 List.mem_cons_self hx0
        · exact absurd hx0 (hnot w0 h)

def mzInit (A Lp Up : Pattern) (n i : Nat) : MInit :=
  { lii := Lp.rk i i
    ujiAji := (List.range (i + 1)).filterMap fun j =>
      if A.zero? j i then none else some (Up.rk j i, A.rk j i)
    fillU := (List.range (i + 1)).filterMap fun j =>
      if A.zero? j i && !Up.zero? j i then some (Up.rk j i) else none
    ljiAji := (rangeFrom (i + 1) n).filterMap fun j =>
      if A.zero? j i then none else some (Lp.rk j i, A.rk j i)
    fillL := (rangeFrom (i + 1) n).filterMap fun j =>
      if A.zero? j i && !Lp.zero? j i then some (Lp.rk j i) else none }

theorem mozartInit_eq (A Lp Up : Pattern) :
    mozartInit A Lp Up = (List.range A.n).map (mzInit A Lp Up A.n) := rfl

def mzWritesU (a : Array K) (ini : List MInit) : List (Nat × K) :=
  (ini.flatMap fun r => r.ujiAji.map fun p => (p.1, rd a p.2)) ++
  (ini.flatMap fun r => r.fillU.map fun t => (t, (0 : K)))

def mzWritesL (a : Array K) (ini : List MInit) : List (Nat × K) :=
  (ini.flatMap fun r => (r.lii, (1 : K)) :: r.ljiAji.map fun p => (p.1, rd a p.2)) ++
  (ini.flatMap fun r => r.fillL.map fun t => (t, (0 : K)))

def mzStepK (LU : Array K × Array K) (k : MK) : Array K × Array K :=
  let U := k.ujk.foldl (fun U p => wr U p.1 (rd U p.1 - rd LU.1 p.2 * rd U k.uik)) LU.2
  let L := k.ljk.foldl (fun L p => wr L p.1 (rd L p.1 - rd L p.2 * rd U k.uik)) LU.1
  (L, U)

def mzStep (LU : Array K × Array K) (r : MRow) : Array K × Array K :=
  let inv : K := 1 / rd LU.2 r.uii
  let L := r.lji.foldl (fun L i => wr L i (rd L i * inv)) LU.1
  r.ks.foldl mzStepK (L, LU.2)

/-- The initialisation reads `a` only, never `L` or `U`: the values it writes are known beforehand, so it is
    two lists of constant writes, one per array; a slot all of whose writes carry the same value then holds
    that value (`applyWrites_spec`). -/
theorem mozartCell_eq (ini : List MInit) (rows : List MRow) (a : Array K) (l0 u0 : Array K) :
    mozartCell ini rows a (l0, u0)
      = rows.foldl mzStep (applyWrites (mzWritesL a ini) l0, applyWrites (mzWritesU a ini) u0) := by
  have h1 : ini.foldl (fun (LU : Array K × Array K) r =>
      let U := r.ujiAji.foldl (fun U p => wr U p.1 (rd a p.2)) LU.2
      let L := wr LU.1 r.lii 1
      let L := r.ljiAji.foldl (fun L p => wr L p.1 (rd a p.2)) L
      (L, U)) (l0, u0)
      = (ini.foldl (fun L r => r.ljiAji.foldl (fun L p => wr L p.1 (rd a p.2)) (wr L r.lii 1)) l0,
         ini.foldl (fun U r => r.ujiAji.foldl (fun U p => wr U p.1 (rd a p.2)) U) u0) :=
    foldl_prod (fun (L : Array K) (r : MInit) =>
        r.ljiAji.foldl (fun L p => wr L p.1 (rd a p.2)) (wr L r.lii 1))
      (fun (U : Array K) (r : MInit) => r.ujiAji.foldl (fun U p => wr U p.1 (rd a p.2)) U) ini (l0, u0)
  unfold mozartCell
  simp only [h1, applyWrites, mzWritesL, mzWritesU, List.foldl_append, List.foldl_flatMap,
    List.foldl_map, List.foldl_cons]
  rfl

/-- hypotheses for the Mozart variant: as `LUSetup` without minimality (Mozart zero-fills every
    fill-in slot, so patterns larger than the fill closure are fine) -/
structure MozSetup (n : Nat) (A Lp Up : Pattern) : Prop where
  gL : GoodPattern n Lp
  gU : GoodPattern n Up
  closed : Closed n (pres A) (pres Lp) (pres Up)
  diagL : ∀ i, i < n → Lp.zero? i i = false
  lowL : ∀ r c, r < n → c < n → Lp.zero? r c = false → c ≤ r
  uppU : ∀ r c, r < n → c < n → Up.zero? r c = false → r ≤ c

theorem LUSetup.toMoz {n : Nat} {A Lp Up : Pattern} (h : LUSetup n A Lp Up) :
    MozSetup n A Lp Up :=
  ⟨h.gL, h.gU, h.closed, h.diagL, h.lowL, h.uppU⟩

section mzinit
variable {n : Nat} {A Lp Up : Pattern}

theorem mem_mzWritesU (h : MozSetup n A Lp Up) (a : Array K) (w : Nat × K)
    (hw : w ∈ mzWritesU a ((List.range n).map (mzInit A Lp Up n))) :
    ∃ r c, c < n ∧ r ≤ c ∧ Up.zero? r c = false ∧ w = (Up.rk r c, view A a r c) := by
  unfold mzWritesU at hw
  rw [List.mem_append] at hw
  rcases hw with hw | hw
  · rw [List.mem_flatMap] at hw
    obtain ⟨ri, hri, hw⟩ := hw
    rw [List.mem_map] at hri hw
    obtain ⟨i, hi, rfl⟩ := hri
    obtain ⟨p, hp, rfl⟩ := hw
    have hi' := List.mem_range.mp hi
    obtain ⟨j, hj, hg⟩ := mem_filterMap_range _ _ _ hp
    cases hz : A.zero? j i <;> simp [hz] at hg
    subst hg
    refine ⟨j, i, hi', Nat.le_of_lt_succ hj, ?_, ?_⟩
    · exact (pres_true _ _ _).mp (h.closed.supU j i (Nat.le_of_lt_succ hj) hi'
        ((pres_true _ _ _).mpr hz))
    · simp [view, hz]
  · rw [List.mem_flatMap] at hw
    obtain ⟨ri, hri, hw⟩ := hw
    rw [List.mem_map] at hri hw
    obtain ⟨i, hi, rfl⟩ := hri
    obtain ⟨t, ht, rfl⟩ := hw
    have hi' := List.mem_range.mp hi
    obtain ⟨j, hj, hg⟩ := mem_filterMap_range _ _ _ ht
    cases hz : A.zero? j i <;> cases hu : Up.zero? j i <;> simp [hz, hu] at hg
    subst hg
    exact ⟨j, i, hi', Nat.le_of_lt_succ hj, hu, by simp [view, hz]⟩

theorem mzWritesU_covers (a : Array K) (r c : Nat) (hc : c < n) (hrc : r ≤ c)
    (hp : Up.zero? r c = false) :
    ∃ w ∈ mzWritesU a ((List.range n).map (mzInit A Lp Up n)), w.1 = Up.rk r c := by
  unfold mzWritesU
  cases hz : A.zero? r c
  · refine ⟨(Up.rk r c, rd a (A.rk r c)), ?_, rfl⟩
    rw [List.mem_append]; left
    rw [List.mem_flatMap]
    refine ⟨mzInit A Lp Up n c, List.mem_map.mpr ⟨c, List.mem_range.mpr hc, rfl⟩, ?_⟩
    rw [List.mem_map]
    refine ⟨(Up.rk r c, A.rk r c), ?_, rfl⟩
    show _ ∈ (List.range (c + 1)).filterMap _
    rw [List.mem_filterMap]
    exact ⟨r, List.mem_range.mpr (Nat.lt_succ_of_le hrc), by simp [hz]⟩
  · refine ⟨(Up.rk r c, 0), ?_, rfl⟩
    rw [List.mem_append]; right
    rw [List.mem_flatMap]
    refine ⟨mzInit A Lp Up n c, List.mem_map.mpr ⟨c, List.mem_range.mpr hc, rfl⟩, ?_⟩
    rw [List.mem_map]
    refine ⟨Up.rk r c, ?_, rfl⟩
    show _ ∈ (List.range (c + 1)).filterMap _
    rw [List.mem_filterMap]
    exact ⟨r, List.mem_range.mpr (Nat.lt_succ_of_le hrc), by simp [hz, hp]⟩

theorem mem_mzWritesL (h : MozSetup n A Lp Up) (a : Array K) (w : Nat × K)
    (hw : w ∈ mzWritesL a ((List.range n).map (mzInit A Lp Up n))) :
    ∃ r c, r < n ∧ c ≤ r ∧ Lp.zero? r c = false ∧
      w = (Lp.rk r c, if r = c then 1 else view A a r c) := by
  unfold mzWritesL at hw
  rw [List.mem_append] at hw
  rcases hw with hw | hw
  · rw [List.mem_flatMap] at hw
    obtain ⟨ri, hri, hw⟩ := hw
    rw [List.mem_map] at hri
    obtain ⟨i, hi, rfl⟩ := hri
    have hi' := List.mem_range.mp hi
    rcases List.mem_cons.mp hw with hw | hw
    · subst hw
      exact ⟨i, i, hi', le_refl i, h.diagL i hi', by simp [mzInit]⟩
    · rw [List.mem_map] at hw
      obtain ⟨p, hp, rfl⟩ := hw
      obtain ⟨j, hj1, hj2, hg⟩ := mem_filterMap_range' _ _ _ _ hp
      have hjn : j < n := by omega
      cases hz : A.zero? j i <;> simp [hz] at hg
      subst hg
      refine ⟨j, i, hjn, Nat.le_of_succ_le hj1, ?_, ?_⟩
      · exact (pres_true _ _ _).mp (h.closed.supL j i hj1 hjn ((pres_true _ _ _).mpr hz))
      · simp [view, hz, Nat.ne_of_gt hj1]
  · rw [List.mem_flatMap] at hw
    obtain ⟨ri, hri, hw⟩ := hw
    rw [List.mem_map] at hri hw
    obtain ⟨i, hi, rfl⟩ := hri
    obtain ⟨t, ht, rfl⟩ := hw
    have hi' := List.mem_range.mp hi
    obtain ⟨j, hj1, hj2, hg⟩ := mem_filterMap_range' _ _ _ _ ht
    have hjn : j < n := by omega
    cases hz : A.zero? j i <;> cases hu : Lp.zero? j i <;> simp [hz, hu] at hg
    subst hg
    exact ⟨j, i, hjn, Nat.le_of_succ_le hj1, hu, by simp [view, hz, Nat.ne_of_gt hj1]⟩

theorem mzWritesL_covers (a : Array K) (r c : Nat) (hr : r < n) (hcr : c ≤ r)
    (hp : Lp.zero? r c = false) :
    ∃ w ∈ mzWritesL a ((List.range n).map (mzInit A Lp Up n)), w.1 = Lp.rk r c := by
  unfold mzWritesL
  by_cases hd : r = c
  · subst hd
    refine ⟨(Lp.rk r r, 1), ?_, rfl⟩
    rw [List.mem_append]; left
    rw [List.mem_flatMap]
    exact ⟨mzInit A Lp Up n r, List.mem_map.mpr ⟨r, List.mem_range.mpr hr, rfl⟩,
      List.mem_cons_self⟩
  · have hlt : c < r := Nat.lt_of_le_of_ne hcr (Ne.symm hd)
    cases hz : A.zero? r c
    · refine ⟨(Lp.rk r c, rd a (A.rk r c)), ?_, rfl⟩
      rw [List.mem_append]; left
      rw [List.mem_flatMap]
      refine ⟨mzInit A Lp Up n c, List.mem_map.mpr ⟨c, List.mem_range.mpr (hlt.trans hr), rfl⟩, ?_⟩
      apply List.mem_cons_of_mem
      rw [List.mem_map]
      refine ⟨(Lp.rk r c, A.rk r c), ?_, rfl⟩
      show _ ∈ (rangeFrom (c + 1) n).filterMap _
      rw [List.mem_filterMap]
      exact ⟨r, (List.mem_range'_1).mpr (by omega), by simp [hz]⟩
    · refine ⟨(Lp.rk r c, 0), ?_, rfl⟩
      rw [List.mem_append]; right
      rw [List.mem_flatMap]
      refine ⟨mzInit A Lp Up n c, List.mem_map.mpr ⟨c, List.mem_range.mpr (hlt.trans hr), rfl⟩, ?_⟩
      rw [List.mem_map]
      refine ⟨Lp.rk r c, ?_, rfl⟩
      show _ ∈ (rangeFrom (c + 1) n).filterMap _
      rw [List.mem_filterMap]
      exact ⟨r, (List.mem_range'_1).mpr (by omega), by simp [hz, hp]⟩

theorem mzInit_spec (h : MozSetup n A Lp Up) (a l0 u0 : Array K) (hLs : l0.size = Lp.nnz)
    (hUs : u0.size = Up.nnz) :
    (applyWrites (mzWritesL a ((List.range n).map (mzInit A Lp Up n))) l0).size = Lp.nnz ∧
    (applyWrites (mzWritesU a ((List.range n).map (mzInit A Lp Up n))) u0).size = Up.nnz ∧
    (∀ r c, r < n → c < n → Up.zero? r c = false →
      rd (applyWrites (mzWritesU a ((List.range n).map (mzInit A Lp Up n))) u0) (Up.rk r c)
        = view A a r c) ∧
    (∀ r c, r < n → c < n → Lp.zero? r c = false →
      rd (applyWrites (mzWritesL a ((List.range n).map (mzInit A Lp Up n))) l0) (Lp.rk r c)
        = if r = c then 1 else view A a r c) := by
  obtain ⟨l1, _, l3⟩ := applyWrites_spec (mzWritesL a ((List.range n).map (mzInit A Lp Up n))) l0
  obtain ⟨u1, _, u3⟩ := applyWrites_spec (mzWritesU a ((List.range n).map (mzInit A Lp Up n))) u0
  refine ⟨by rw [l1, hLs], by rw [u1, hUs], ?_, ?_⟩
  · intro r c hr hc hp
    apply u3 _ _ (by rw [hUs]; exact h.gU.rk_lt r c hr hc hp)
      (mzWritesU_covers a r c hc (h.uppU r c hr hc hp) hp)
    intro w hw heq
    obtain ⟨r', c', hc', hrc', hp', rfl⟩ := mem_mzWritesU h a w hw
    obtain ⟨rfl, rfl⟩ := h.gU.rk_inj r' c' r c (Nat.lt_of_le_of_lt hrc' hc') hc' hr hc hp' hp heq
    rfl
  · intro r c hr hc hp
    apply l3 _ _ (by rw [hLs]; exact h.gL.rk_lt r c hr hc hp)
      (mzWritesL_covers a r c hr (h.lowL r c hr hc hp) hp)
    intro w hw heq
    obtain ⟨r', c', hr', hcr', hp', rfl⟩ := mem_mzWritesL h a w hw
    obtain ⟨rfl, rfl⟩ := h.gL.rk_inj r' c' r c hr' (Nat.lt_of_le_of_lt hcr' hr') hr hc hp' hp heq
    rfl

end mzinit

def mzUjk (Lp Up : Pattern) (i k : Nat) : List (Nat × Nat) :=
  (rangeFrom (i + 1) (k + 1)).filterMap fun j =>
    if Lp.zero? j i then none else some (Up.rk j k, Lp.rk j i)

def mzLjk (Lp : Pattern) (n i k : Nat) : List (Nat × Nat) :=
  (rangeFrom (k + 1) n).filterMap fun j =>
    if Lp.zero? j i then none else some (Lp.rk j k, Lp.rk j i)

def mzK (Lp Up : Pattern) (n i k : Nat) : Option MK :=
  if Up.zero? i k then none
  else some { uik := Up.rk i k, ujk := mzUjk Lp Up i k, ljk := mzLjk Lp n i k }

def mzRow (Lp Up : Pattern) (n i : Nat) : MRow :=
  { uii := Up.rk i i, lji := (rangeFrom (i + 1) n).filterMap (miAji Lp i),
    ks := (rangeFrom (i + 1) n).filterMap (mzK Lp Up n i) }

theorem mozartRows_eq (A Lp Up : Pattern) :
    mozartRows A Lp Up = (List.range A.n).map (mzRow Lp Up A.n) := rfl

def viewLU (Lp Up : Pattern) (S : Array K × Array K) : Bool × Nat × Nat → K
  | (true, r, c) => view Up S.2 r c
  | (false, r, c) => view Lp S.1 r c

section mzloop
variable {n : Nat} {A Lp Up : Pattern}

theorem moz_fillU (h : MozSetup n A Lp Up) (i j k : Nat) (hij : i < j) (hjk : j ≤ k) (hk : k < n)
    (h1 : Lp.zero? j i = false) (h2 : Up.zero? i k = false) : Up.zero? j k = false :=
  (pres_true _ _ _).mp (h.closed.fillU j i k hij hjk hk ((pres_true _ _ _).mpr h1)
    ((pres_true _ _ _).mpr h2))

theorem moz_fillL (h : MozSetup n A Lp Up) (i j k : Nat) (hik : i < k) (hkj : k < j) (hj : j < n)
    (h1 : Lp.zero? j i = false) (h2 : Up.zero? i k = false) : Lp.zero? j k = false :=
  (pres_true _ _ _).mp (h.closed.fillL k i j hik hkj hj ((pres_true _ _ _).mpr h1)
    ((pres_true _ _ _).mpr h2))

theorem mzPhase2 (h : MozSetup n A Lp Up) (L1 U0 : Array K) (i : Nat) (hi : i < n)
    (hLs : L1.size = Lp.nnz) (hUs : U0.size = Up.nnz) :
    (((rangeFrom (i + 1) n).filterMap (mzK Lp Up n i)).foldl mzStepK (L1, U0)).1.size = Lp.nnz ∧
    (((rangeFrom (i + 1) n).filterMap (mzK Lp Up n i)).foldl mzStepK (L1, U0)).2.size = Up.nnz ∧
    (∀ r c, i < r → r ≤ c → c < n →
      view Up (((rangeFrom (i + 1) n).filterMap (mzK Lp Up n i)).foldl mzStepK (L1, U0)).2 r c
        = view Up U0 r c - view Lp L1 r i * view Up U0 i c) ∧
    (∀ r c, i < c → c < r → r < n →
      view Lp (((rangeFrom (i + 1) n).filterMap (mzK Lp Up n i)).foldl mzStepK (L1, U0)).1 r c
        = view Lp L1 r c - view Lp L1 r i * view Up U0 i c) ∧
    (∀ r c, r < n → c < n → ¬ (i < r ∧ r ≤ c) →
      view Up (((rangeFrom (i + 1) n).filterMap (mzK Lp Up n i)).foldl mzStepK (L1, U0)).2 r c
        = view Up U0 r c) ∧
    (∀ r c, r < n → c < n → ¬ (i < c ∧ c < r) →
      view Lp (((rangeFrom (i + 1) n).filterMap (mzK Lp Up n i)).foldl mzStepK (L1, U0)).1 r c
        = view Lp L1 r c) := by
  have hK : ∀ k, Up.zero? i k = false → mzK Lp Up n i k
      = some { uik := Up.rk i k, ujk := mzUjk Lp Up i k, ljk := mzLjk Lp n i k } := by
    intro k hq; simp [mzK, hq]
  have hsome : ∀ k e, mzK Lp Up n i k = some e → Up.zero? i k = false ∧
      e = { uik := Up.rk i k, ujk := mzUjk Lp Up i k, ljk := mzLjk Lp n i k } := by
    intro k e he
    unfold mzK at he
    cases hz : Up.zero? i k <;> simp [hz] at he
    exact ⟨rfl, he.symm⟩
  obtain ⟨g1, g2, g3⟩ := phase_blocks (viewLU Lp Up)
    (fun S => S.1.size = Lp.nnz ∧ S.2.size = Up.nnz) (fun x => x.2.1 < n ∧ x.2.2 < n)
    (i + 1) n (mzK Lp Up n i) mzStepK (L1, U0) ⟨hLs, hUs⟩
    (fun k j => (decide (j ≤ k), j, k))
    (fun k j => i < j ∧ j < n ∧ Lp.zero? j i = false ∧ Up.zero? i k = false)
    (fun k j => (if j ≤ k then view Up U0 j k else view Lp L1 j k)
      - view Lp L1 j i * view Up U0 i k)
    (fun k j _ h2 hq => ⟨hq.2.1, h2⟩)
    (fun k k' j j' _ _ _ _ _ _ heq => (Prod.mk.inj (Prod.mk.inj heq).2).2)
    (by
      rintro ⟨L, U⟩ k e h1 h2 he hok hM hown
      obtain ⟨hpk, rfl⟩ := hsome k e he
      have hkn : k < n := h2
      -- row `i` of `U` and column `i` of `L` are outside all blocks
      have hrow : view Up U i k = view Up U0 i k :=
        hM (true, i, k) ⟨hi, hkn⟩ fun k' j' _ _ hq heq =>
          Nat.lt_irrefl i ((Prod.mk.inj (Prod.mk.inj heq).2).1 ▸ hq.1)
      have hcol : ∀ j, j < n → view Lp L j i = view Lp L1 j i := fun j hj =>
        hM (false, j, i) ⟨hj, hi⟩ fun k' j' a1 _ _ heq =>
          Nat.lt_irrefl i ((Prod.mk.inj (Prod.mk.inj heq).2).2 ▸ a1)
      -- the `U` loop: rows `i < j ≤ k` of column `k`
      obtain ⟨a1, a2, a3⟩ := colUpdate h.gU Lp (fun U' x => rd L x * rd U' (Up.rk i k)) U hok.2
        (i + 1) (k + 1) i k hkn hkn
        (fun j c1 c2 c3 => moz_fillU h i j k c1 (Nat.le_of_lt_succ c2) hkn c3 hpk)
        (fun U'' _ hfr j _ _ _ => by
          show rd L _ * rd U'' (Up.rk i k) = rd L _ * rd U (Up.rk i k)
          rw [← view_present _ _ _ _ hpk, ← view_present _ _ _ _ hpk,
            hfr i k hi hkn fun hh => Nat.lt_irrefl i hh.2.1])
      obtain ⟨U', hU'⟩ : ∃ U', U' = (colPairs Up Lp (i + 1) (k + 1) i k).foldl
        (fun U' p => wr U' p.1 (rd U' p.1 - rd L p.2 * rd U' (Up.rk i k))) U := ⟨_, rfl⟩
      rw [← hU'] at a1 a2 a3
      have hpiv : rd U' (Up.rk i k) = view Up U0 i k := by
        rw [← view_present _ _ _ _ hpk, a3 i k hi hkn fun hh => Nat.lt_irrefl i hh.2.1, hrow]
      -- the `L` loop: rows `k < j < n` of column `k`
      obtain ⟨b1, b2, b3⟩ := colUpdate h.gL Lp (fun L' x => rd L' x * rd U' (Up.rk i k)) L hok.1
        (k + 1) n i k hkn (le_refl n)
        (fun j c1 c2 c3 => moz_fillL h i j k h1 c1 c2 c3 hpk)
        (fun L'' _ hfr j c1 c2 c3 => by
          show rd L'' (Lp.rk j i) * _ = rd L (Lp.rk j i) * _
          rw [← view_present _ _ _ _ c3, ← view_present _ _ _ _ c3,
            hfr j i c2 hi fun hh => Nat.lt_irrefl i (hh.1 ▸ h1)])
      have hstepEq : mzStepK (L, U)
          { uik := Up.rk i k, ujk := mzUjk Lp Up i k, ljk := mzLjk Lp n i k }
          = ((colPairs Lp Lp (k + 1) n i k).foldl
              (fun L' p => wr L' p.1 (rd L' p.1 - rd L' p.2 * rd U' (Up.rk i k))) L, U') := by
        rw [hU']; rfl
      rw [hstepEq]
      refine ⟨⟨b1, a1⟩, fun j hq => ?_, ?_⟩
      · have ownj := hown j hq
        by_cases c : j ≤ k
        · rw [decide_eq_true c] at ownj ⊢
          rw [if_pos c]
          show view Up U' j k = _
          rw [a2 j hq.1 (Nat.lt_succ_of_le c) hq.2.2.1, show view Up U j k = view Up U0 j k from ownj,
            ← view_present _ _ _ _ hq.2.2.1, ← view_present _ _ _ _ hpk, hcol j hq.2.1, hrow]
        · rw [decide_eq_false c] at ownj ⊢
          rw [if_neg c]
          show view Lp _ j k = _
          rw [b2 j (Nat.not_le.mp c) hq.2.1 hq.2.2.1, show view Lp L j k = view Lp L1 j k from ownj,
            ← view_present _ _ _ _ hq.2.2.1, hcol j hq.2.1, hpiv]
      · rintro ⟨b, r, c⟩ hx hne
        cases b
        · exact b3 r c hx.1 hx.2 fun hh => hne r ⟨Nat.lt_trans h1 hh.2.1, hh.2.2.1, hh.2.2.2, hpk⟩
            (by rw [hh.1, decide_eq_false (Nat.not_le.mpr hh.2.1)])
        · exact a3 r c hx.1 hx.2 fun hh => hne r ⟨hh.2.1, hx.1, hh.2.2.2, hpk⟩
            (by rw [hh.1, decide_eq_true (Nat.le_of_lt_succ hh.2.2.1)]))
  generalize ((rangeFrom (i + 1) n).filterMap (mzK Lp Up n i)).foldl mzStepK (L1, U0)
    = S at g1 g2 g3
  -- where `(r,i)` or `(i,c)` is absent the product vanishes and nothing is written
  have hz : ∀ r c, ¬ (Lp.zero? r i = false ∧ Up.zero? i c = false) →
      view Lp L1 r i * view Up U0 i c = 0 := by
    intro r c ht
    cases h1 : Lp.zero? r i
    · cases h2 : Up.zero? i c
      · exact absurd ⟨h1, h2⟩ ht
      · rw [view_absent _ _ _ _ h2, mul_zero]
    · rw [view_absent _ _ _ _ h1, zero_mul]
  refine ⟨g1.1, g1.2, fun r c hir hrc hc => ?_, fun r c hic hcr hr => ?_,
    fun r c hr hc hne => g2 (true, r, c) ⟨hr, hc⟩ fun k j _ _ hq heq => ?_,
    fun r c hr hc hne => g2 (false, r, c) ⟨hr, hc⟩ fun k j a1 _ hq heq => ?_⟩
  · by_cases ht : Lp.zero? r i = false ∧ Up.zero? i c = false
    · have := g3 c _ r (hir.trans_le hrc) hc (hK c ht.2) ⟨hir, Nat.lt_of_le_of_lt hrc hc, ht.1, ht.2⟩
      rw [decide_eq_true hrc, if_pos hrc] at this
      exact this
    · rw [hz r c ht, sub_zero]
      exact g2 (true, r, c) ⟨Nat.lt_of_le_of_lt hrc hc, hc⟩ fun k j _ _ hq heq => by
        obtain ⟨rfl, rfl⟩ := Prod.mk.inj (Prod.mk.inj heq).2
        exact ht ⟨hq.2.2.1, hq.2.2.2⟩
  · by_cases ht : Lp.zero? r i = false ∧ Up.zero? i c = false
    · have := g3 c _ r hic (hcr.trans hr) (hK c ht.2) ⟨hic.trans hcr, hr, ht.1, ht.2⟩
      rw [decide_eq_false (Nat.not_le.mpr hcr), if_neg (Nat.not_le.mpr hcr)] at this
      exact this
    · rw [hz r c ht, sub_zero]
      exact g2 (false, r, c) ⟨hr, hcr.trans hr⟩ fun k j _ _ hq heq => by
        obtain ⟨rfl, rfl⟩ := Prod.mk.inj (Prod.mk.inj heq).2
        exact ht ⟨hq.2.2.1, hq.2.2.2⟩
  · obtain ⟨hb, rfl, rfl⟩ : true = decide (j ≤ k) ∧ r = j ∧ c = k :=
      ⟨(Prod.mk.inj heq).1, Prod.mk.inj (Prod.mk.inj heq).2⟩
    exact hne ⟨hq.1, of_decide_eq_true hb.symm⟩
  · obtain ⟨hb, rfl, rfl⟩ : false = decide (j ≤ k) ∧ r = j ∧ c = k :=
      ⟨(Prod.mk.inj heq).1, Prod.mk.inj (Prod.mk.inj heq).2⟩
    exact hne ⟨a1, Nat.not_le.mp (of_decide_eq_false hb.symm)⟩

end mzloop

/-- right-looking invariant for the separate pair `(L, U)` after `i` stages: the finished rows of `U` and
    columns of `L` hold the dense factors, the trailing block the Schur complement (what `FinalIP` with
    `rest := schur …` says of the single array of the in-place kernel) -/
structure MozInvS (n : Nat) (Lp Up : Pattern) (Am : Nat → Nat → K) (d : LU K) (i : Nat)
    (L U : Array K) : Prop where
  U_fin : ∀ r c, r < n → c < n → Up.zero? r c = false → r < i → rd U (Up.rk r c) = d.U r c
  U_rest : ∀ r c, r < n → c < n → Up.zero? r c = false → i ≤ r →
    rd U (Up.rk r c) = schur Am d i r c
  L_fin : ∀ r c, r < n → c < n → Lp.zero? r c = false → c < r → c < i →
    rd L (Lp.rk r c) = d.L r c
  L_rest : ∀ r c, r < n → c < n → Lp.zero? r c = false → c < r → i ≤ c →
    rd L (Lp.rk r c) = schur Am d i r c
  L_diag : ∀ r, r < n → rd L (Lp.rk r r) = 1

section mzrows
variable {n : Nat} {A Lp Up : Pattern}

theorem mzStep_inv (h : MozSetup n A Lp Up) (Am : Nat → Nat → K)
    (hA : ∀ r c, pres A r c = false → Am r c = 0) (L U : Array K) (i : Nat) (hi : i < n)
    (hLs : L.size = Lp.nnz) (hUs : U.size = Up.nnz)
    (hinv : MozInvS n Lp Up Am (DenseLU.lu Am n) i L U) :
    (mzStep (L, U) (mzRow Lp Up n i)).1.size = Lp.nnz ∧
    (mzStep (L, U) (mzRow Lp Up n i)).2.size = Up.nnz ∧
    MozInvS n Lp Up Am (DenseLU.lu Am n) (i + 1) (mzStep (L, U) (mzRow Lp Up n i)).1
      (mzStep (L, U) (mzRow Lp Up n i)).2 := by
  obtain ⟨offU, offL⟩ := closed_dense_off h.closed Am hA
  simp only [mzStep, mzRow]
  obtain ⟨p1, p2, p3⟩ := miPhase1 h.gL L (1 / rd U (Up.rk i i)) i hi hLs
  generalize ((rangeFrom (i + 1) n).filterMap (miAji Lp i)).foldl
    (fun M' t => wr M' t (rd M' t * (1 / rd U (Up.rk i i)))) L = L1 at p1 p2 p3
  obtain ⟨q1, q2, q3, q4, q5, q6⟩ := mzPhase2 h L1 U i hi p1 hUs
  generalize ((rangeFrom (i + 1) n).filterMap (mzK Lp Up n i)).foldl mzStepK (L1, U) = S
    at q1 q2 q3 q4 q5 q6
  have hUii : Up.zero? i i = false := (pres_true _ _ _).mp (h.closed.diagU i hi)
  -- off the patterns both sides vanish
  have hLi : ∀ r, i < r → r < n → view Lp L1 r i = (DenseLU.lu Am n).L r i := by
    intro r hir hr
    rw [p2 r hir hr]
    cases hp : Lp.zero? r i
    · rw [view_present _ _ _ _ hp, hinv.L_rest r i hr hi hp hir (le_refl i),
        hinv.U_rest i i hi hi hUii (le_refl i), lu_L_schur Am n i r hi hir]
    · rw [view_absent _ _ _ _ hp, zero_mul, offL r i hir hr hp]
  have hUi : ∀ c, i ≤ c → c < n → view Up U i c = (DenseLU.lu Am n).U i c := by
    intro c hic hc
    cases hp : Up.zero? i c
    · rw [view_present _ _ _ _ hp, hinv.U_rest i c hi hc hp (le_refl i), lu_U_schur Am n i c hi hic]
    · rw [view_absent _ _ _ _ hp, offU i c hic hc hp]
  refine ⟨q1, q2, ⟨?_, ?_, ?_, ?_, ?_⟩⟩
  · intro r c hr hc hp hri
    rw [← view_present _ _ _ _ hp,
      q5 r c hr hc fun hh => Nat.lt_irrefl r (Nat.lt_of_lt_of_le hri hh.1)]
    rcases Nat.lt_succ_iff_lt_or_eq.mp hri with hlt | rfl
    · rw [view_present _ _ _ _ hp]; exact hinv.U_fin r c hr hc hp hlt
    · exact hUi c (h.uppU r c hr hc hp) hc
  · intro r c hr hc hp hir
    have hrc := h.uppU r c hr hc hp
    rw [← view_present _ _ _ _ hp, q3 r c hir hrc hc, hLi r hir hr,
      hUi c ((Nat.le_of_succ_le hir).trans hrc) hc, view_present _ _ _ _ hp,
      hinv.U_rest r c hr hc hp (Nat.le_of_succ_le hir), schur_succ]
  · intro r c hr hc hp hcr hci
    rw [← view_present _ _ _ _ hp,
      q6 r c hr hc fun hh => Nat.lt_irrefl c (Nat.lt_of_lt_of_le hci hh.1)]
    rcases Nat.lt_succ_iff_lt_or_eq.mp hci with hlt | rfl
    · rw [p3 r c hr hc fun hh => hlt.ne hh.1, view_present _ _ _ _ hp]
      exact hinv.L_fin r c hr hc hp hcr hlt
    · exact hLi r hcr hr
  · intro r c hr hc hp hcr hic
    rw [← view_present _ _ _ _ hp, q4 r c hic hcr hr, hLi r (Nat.lt_trans hic hcr) hr,
      hUi c (Nat.le_of_succ_le hic) hc, p3 r c hr hc fun hh => Nat.ne_of_gt hic hh.1,
      view_present _ _ _ _ hp, hinv.L_rest r c hr hc hp hcr (Nat.le_of_succ_le hic), schur_succ]
  · intro r hr
    rw [← view_present _ _ _ _ (h.diagL r hr), q6 r r hr hr fun hh => Nat.lt_irrefl r hh.2,
      p3 r r hr hr fun hh => Nat.ne_of_gt hh.2 hh.1, view_present _ _ _ _ (h.diagL r hr)]
    exact hinv.L_diag r hr

/-- C03 core for `mozartCell`: same statement as for `doolittleCell` -/
theorem mozartCell_view (h : MozSetup n A Lp Up) (hn : A.n = n) (a l0 u0 : Array K)
    (hLs : l0.size = Lp.nnz) (hUs : u0.size = Up.nnz) (r c : Nat) (hr : r < n) (hc : c < n) :
    view Lp (mozartCell (mozartInit A Lp Up) (mozartRows A Lp Up) a (l0, u0)).1 r c
        = (DenseLU.lu (view A a) n).L r c ∧
    view Up (mozartCell (mozartInit A Lp Up) (mozartRows A Lp Up) a (l0, u0)).2 r c
        = (DenseLU.lu (view A a) n).U r c := by
  rw [mozartCell_eq, mozartInit_eq, mozartRows_eq, hn]
  obtain ⟨i1, i2, i3, i4⟩ := mzInit_spec h a l0 u0 hLs hUs
  generalize applyWrites (mzWritesL a ((List.range n).map (mzInit A Lp Up n))) l0 = L0
    at i1 i3 i4
  generalize applyWrites (mzWritesU a ((List.range n).map (mzInit A Lp Up n))) u0 = U0
    at i2 i3 i4
  obtain ⟨_, _, hinv⟩ := foldl_rows_induct (fun i S => S.1.size = Lp.nnz ∧ S.2.size = Up.nnz ∧
      MozInvS n Lp Up (view A a) (DenseLU.lu (view A a) n) i S.1 S.2) (mzRow Lp Up n) mzStep
    (L0, U0) n
    ⟨i1, i2, ⟨fun _ _ _ _ _ h => absurd h (Nat.not_lt_zero _),
      fun r c hr hc hp _ => by rw [schur_zero]; exact i3 r c hr hc hp,
      fun _ _ _ _ _ _ h => absurd h (Nat.not_lt_zero _),
      fun r c hr hc hp hcr _ => by rw [schur_zero, i4 r c hr hc hp, if_neg hcr.ne'],
      fun r hr => by rw [i4 r r hr hr (h.diagL r hr), if_pos rfl]⟩⟩
    (fun i hi S hS => mzStep_inv h (view A a) (view_support A a) S.1 S.2 i hi hS.1 hS.2.1 hS.2.2)
  obtain ⟨offU, offL⟩ := closed_dense_off h.closed (view A a) (view_support A a)
  refine views_eq_dense (DenseLU.lu_shape _ n) h.lowL h.uppU (fun r c hrc hc => ?_)
    (fun r c hcr hr => ?_) (fun r hr => ?_) r c hr hc
  · cases hp : Up.zero? r c
    · rw [view_present _ _ _ _ hp]
      exact hinv.U_fin r c (Nat.lt_of_le_of_lt hrc hc) hc hp (Nat.lt_of_le_of_lt hrc hc)
    · rw [view_absent _ _ _ _ hp, offU r c hrc hc hp]
  · cases hp : Lp.zero? r c
    · rw [view_present _ _ _ _ hp]; exact hinv.L_fin r c hr (hcr.trans hr) hp hcr (hcr.trans hr)
    · rw [view_absent _ _ _ _ hp, offL r c hcr hr hp]
  · rw [view_present _ _ _ _ (h.diagL r hr)]; exact hinv.L_diag r hr

end mzrows

end Micm
