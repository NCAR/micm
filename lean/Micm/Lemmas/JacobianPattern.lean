/-
C02 composed with C19: the Jacobian theorem on the pattern the builder really constructs,
`Pattern.mk' n csc L (buildJacobianSet n t.nonZeroJacobianElements)` (either storage order, any
group length).  Kept apart from `Properties/C02.lean` because it imports C19's files.
-/
import Micm.Properties.C02
import Micm.Properties.C19

namespace Micm

theorem jac_mem_buildJacobianSet (n : Nat) (elems : List Pair) (x : Pair) :
    x ∈ buildJacobianSet n elems ↔ x ∈ elems ∨ (x.1 = x.2 ∧ x.1 < n) := by
  unfold buildJacobianSet setOfList
  rw [mem_foldl_setInsert (fun i => (i, i)), mem_foldl_setInsert (fun a => a)]
  constructor
  · rintro ((h | ⟨d, hd, rfl⟩) | ⟨i, hi, rfl⟩)
    · cases h
    · exact Or.inl hd
    · exact Or.inr ⟨rfl, List.mem_range.mp hi⟩
  · rintro (h | ⟨h1, h2⟩)
    · exact Or.inl (Or.inr ⟨x, h, rfl⟩)
    · exact Or.inr ⟨x.1, List.mem_range.mpr h2, Prod.ext rfl h1.symm⟩

theorem jac_buildJacobianSet_sorted (n : Nat) (elems : List Pair) :
    PairSorted (buildJacobianSet n elems) := by
  unfold buildJacobianSet setOfList
  exact sorted_foldl_setInsert (fun i => (i, i)) _ _
    (sorted_foldl_setInsert (fun a => a) _ _ List.Pairwise.nil)

theorem jac_buildJacobianSet_WF {α : Type} (procs : List (Process α)) (m : NameMap) (t : PSTables α)
    (hb : ProcessSet.build procs m = .ok t) (n : Nat) (hn : ∀ e ∈ m, e.2 < n) :
    WF n (buildJacobianSet n t.nonZeroJacobianElements) := by
  refine ⟨jac_buildJacobianSet_sorted n _, ?_⟩
  intro x hx
  rcases (jac_mem_buildJacobianSet n _ x).mp hx with h | ⟨h1, h2⟩
  · -- every resolved id is a value of the name map
    obtain ⟨p, _, h2, h1⟩ := (mem_nonZero_of_build procs m t hb x).mp h
    obtain ⟨e₂, he₂, h2⟩ := reactIdsP_mem h2
    refine ⟨?_, h2 ▸ hn e₂ he₂⟩
    rcases h1 with h1 | h1
    · obtain ⟨e₁, he₁, h1⟩ := reactIdsP_mem h1
      exact h1 ▸ hn e₁ he₁
    · obtain ⟨pr, hpr, hx1⟩ := List.mem_map.mp h1
      obtain ⟨e₁, he₁, h1⟩ := prodIdsP_mem hpr
      exact hx1 ▸ h1 ▸ hn e₁ he₁
  · exact ⟨h2, h1 ▸ h2⟩

/-- **C02 end to end.**  For a successfully built process set over a name map with distinct names
    and distinct indices `< n` (parameterized reactants not in the map), on the sparse matrix the
    builder creates — `BuildJacobian` of `NonZeroJacobianElements`, CSR or CSC, standard or vector
    ordering — `SetJacobianFlatIds` succeeds, and `SubtractJacobianTerms` applied to a zero block
    leaves, at every element `(i, j)` of the pattern, minus the formal partial derivative
    `∂f_i/∂y_j` of the mass-action forcing; every other slot stays zero. -/
theorem C02_jacobian_built_pattern {K : Type} [CommRing K] (procs : List (Process K)) (m : NameMap)
    (t : PSTables K) (hb : ProcessSet.build procs m = .ok t)
    (hk : (m.map (·.1)).Nodup) (hv : (m.map (·.2)).Nodup)
    (hparam : ∀ p ∈ procs, ∀ r ∈ p.reactants, r.param = true → nmLookup m r.name = none)
    (n : Nat) (hn : ∀ e ∈ m, e.2 < n) (csc : Bool) (L : Nat) :
    let set := buildJacobianSet n t.nonZeroJacobianElements
    let p := Pattern.mk' n csc L set
    ∃ flat, t.jacobianFlatIds p = .ok flat ∧ p.nnz = set.length ∧
      ∀ k y : Array K,
        (∀ i j, (i, j) ∈ set → ∃ q, p.rank i j = .ok q ∧ q < p.nnz ∧
          rd (t.subtractJacobianCell flat k y (Array.replicate p.nnz 0)) q
            = - (procs.zipIdx.map fun pi =>
                jacNet (specReactIds m pi.1.reactants) (specProdIds m pi.1.products) i
                  * (rd k pi.2 * dMonomial (rd y) (specReactIds m pi.1.reactants) j)).sum) ∧
        (∀ q, q ∉ flat → rd (t.subtractJacobianCell flat k y (Array.replicate p.nnz 0)) q = 0) := by
  intro set p
  have hw : WF n set := jac_buildJacobianSet_WF procs m t hb n hn
  obtain ⟨hnnz, hlt, hinj⟩ := C19_rank_lt_inj hw csc L
  have hpres : ∀ i j, (i, j) ∈ set → ∃ q, p.rank i j = .ok q := by
    intro i j hij
    have hz := (C19_isZero_spec hw csc L i j).1.mpr hij
    unfold Pattern.isZero at hz
    split at hz
    · rename_i q hq; exact ⟨q, hq⟩
    · cases hz
    · cases hz
  obtain ⟨flat, hflat⟩ := C02_flatids_defined procs m t hb hk hparam p (fun x hx =>
    hpres x.1 x.2 ((jac_mem_buildJacobianSet n _ x).mpr (Or.inl hx)))
  refine ⟨flat, hflat, hnnz, fun k y => ⟨?_, ?_⟩⟩
  · intro i j hij
    obtain ⟨q, hq⟩ := hpres i j hij
    exact ⟨q, hq, hlt i j q hq,
      C02_jacobian_zero procs m t hb hk hv hparam p flat hflat hinj k y p.nnz hlt i j q hq⟩
  · intro q hq
    rw [(C02_untouched t flat k y _ q hq).1, rd_replicate_zero]

end Micm

#print axioms Micm.C02_jacobian_built_pattern
