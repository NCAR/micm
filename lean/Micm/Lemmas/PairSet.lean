/-
`std::set<std::pair<size_t,size_t>>` as the model has it: a list kept strictly increasing in the
lexicographic order by `setInsert`.  Inserting adds exactly the new pair and keeps the list sorted,
so a loop of insertions ends with a sorted, duplicate-free list holding what it started with and
what was inserted.  Core Lean only.
-/
import Micm.Model.Basic
namespace Micm

theorem pairLt_iff (a b : Pair) : pairLt a b = true ↔ a.1 < b.1 ∨ (a.1 = b.1 ∧ a.2 < b.2) := by
  simp [pairLt]

theorem pairLt_irrefl (a : Pair) : ¬ pairLt a a = true := by
  rw [pairLt_iff]; omega

theorem pairLt_trans {a b c : Pair} (h1 : pairLt a b = true) (h2 : pairLt b c = true) :
    pairLt a c = true := by
  rw [pairLt_iff] at *; omega

theorem pairLt_of_not {a b : Pair} (h1 : ¬ pairLt a b = true) (h2 : a ≠ b) : pairLt b a = true := by
  rw [pairLt_iff] at *
  have : ¬ (a.1 = b.1 ∧ a.2 = b.2) := fun h => h2 (Prod.ext h.1 h.2)
  omega

def PairSorted (l : List Pair) : Prop := l.Pairwise (fun a b => pairLt a b = true)

theorem PairSorted.nodup {l : List Pair} (h : PairSorted l) : l.Nodup := by
  rw [List.nodup_iff_pairwise_ne]
  refine List.Pairwise.imp ?_ h
  intro a b hab heq
  exact pairLt_irrefl b (heq ▸ hab)

theorem mem_setInsert (a x : Pair) (l : List Pair) : x ∈ setInsert a l ↔ x = a ∨ x ∈ l := by
  induction l with
  | nil => simp [setInsert]
  | cons b l ih =>
    unfold setInsert
    split
    · simp
    · split
      · rename_i h
        have : a = b := by simpa using h
        subst this; simp
      · rw [List.mem_cons, ih, List.mem_cons]
        exact or_left_comm

theorem sorted_setInsert (a : Pair) (l : List Pair) (h : PairSorted l) : PairSorted (setInsert a l) := by
  induction l with
  | nil => simp [setInsert, PairSorted]
  | cons b l ih =>
    unfold PairSorted at h ih ⊢
    rw [List.pairwise_cons] at h
    unfold setInsert
    split
    · rename_i hab
      rw [List.pairwise_cons]
      refine ⟨?_, List.pairwise_cons.mpr h⟩
      intro c hc
      rcases List.mem_cons.mp hc with rfl | hc
      · exact hab
      · exact pairLt_trans hab (h.1 c hc)
    · split
      · exact List.pairwise_cons.mpr h
      · rename_i hab hne
        rw [List.pairwise_cons]
        refine ⟨?_, ih h.2⟩
        intro c hc
        rcases (mem_setInsert a c l).mp hc with rfl | hc
        · exact pairLt_of_not hab (by simpa using hne)
        · exact h.1 c hc

theorem mem_foldl_setInsert {β : Type} (f : β → Pair) (l : List β) (s : List Pair) (x : Pair) :
    x ∈ l.foldl (fun s d => setInsert (f d) s) s ↔ x ∈ s ∨ ∃ d ∈ l, x = f d := by
  induction l generalizing s with
  | nil => simp
  | cons a l ih =>
    rw [List.foldl_cons, ih, mem_setInsert]
    simp only [List.mem_cons, exists_eq_or_imp]
    exact or_assoc.trans or_left_comm

theorem sorted_foldl_setInsert {β : Type} (f : β → Pair) (l : List β) (s : List Pair)
    (h : PairSorted s) : PairSorted (l.foldl (fun s d => setInsert (f d) s) s) := by
  induction l generalizing s with
  | nil => exact h
  | cons a l ih => exact ih _ (sorted_setInsert _ _ h)

theorem sorted_setOfList (l : List Pair) : PairSorted (setOfList l) :=
  sorted_foldl_setInsert (fun a => a) l [] List.Pairwise.nil

theorem mem_setOfList (l : List Pair) (x : Pair) : x ∈ setOfList l ↔ x ∈ l := by
  unfold setOfList
  rw [mem_foldl_setInsert fun a => a]
  simp

end Micm
