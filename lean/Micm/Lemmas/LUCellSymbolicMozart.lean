import Micm.Lemmas.LUCellSymbolic
import Micm.Lemmas.LUCellMozart

/-!
C03, symbolic side for the Mozart variants: `mozartInPlaceSymbolic` and `mozartSymbolic` return
fill-closed patterns (`IPSetup` / `MozSetup`) whenever the input pattern has a full diagonal.
-/
namespace Micm
open SparseLU (Closed)

def mipInit (n : Nat) (az : Nat → Nat → Bool) : List Pair :=
  (List.range n).foldl (fun S i =>
    (List.range n).foldl (fun S j => if !az i j then setInsert (i, j) S else S) S) []

def mipInner (n i k : Nat) (S : List Pair) : List Pair :=
  (rangeFrom (i + 1) n).foldl (fun S j => if setMem (j, i) S then setInsert (j, k) S else S) S

def mipStage (n : Nat) (S : List Pair) (i : Nat) : List Pair :=
  (rangeFrom (i + 1) n).foldl (fun S k => if setMem (i, k) S then mipInner n i k S else S) S

theorem mozartInPlaceSymbolic_eq (n : Nat) (az : Nat → Nat → Bool) :
    mozartInPlaceSymbolic n az = (List.range n).foldl (mipStage n) (mipInit n az) := rfl

theorem mem_mipInit (n : Nat) (az : Nat → Nat → Bool) (r c : Nat) :
    (r, c) ∈ mipInit n az ↔ r < n ∧ c < n ∧ az r c = false := by
  unfold mipInit
  rw [foldl_block (fun (S : List Pair) x => x ∈ S) (List.range n)
    (fun i x => ∃ j, j < n ∧ az i j = false ∧ x = (i, j))
    (fun i x => ∃ j, j < n ∧ az i j = false ∧ x = (i, j)) _ [] (fun _ _ h => h)]
  · constructor
    · rintro (h | ⟨i, hi, j, hj, hz, hx⟩)
      · cases h
      · simp only [Prod.mk.injEq] at hx
        obtain ⟨rfl, rfl⟩ := hx
        exact ⟨List.mem_range.mp hi, hj, hz⟩
    · rintro ⟨hr, hc, hz⟩
      exact Or.inr ⟨r, List.mem_range.mpr hr, c, hc, hz, rfl⟩
  · intro S i _ _ x
    rw [foldl_cond_insert (List.range n) (fun j => (i, j)) (fun _ j => !az i j) S (fun _ _ _ _ => rfl)]
    constructor
    · rintro (h | ⟨j, hj, hc, hx⟩)
      · exact Or.inl h
      · exact Or.inr ⟨j, List.mem_range.mp hj, by simpa using hc, hx⟩
    · rintro (h | ⟨j, hj, hc, hx⟩)
      · exact Or.inl h
      · exact Or.inr ⟨j, List.mem_range.mpr hj, by simpa using hc, hx⟩

theorem mem_mipInner (n i k : Nat) (hik : i ≠ k) (S : List Pair) (x : Pair) :
    x ∈ mipInner n i k S ↔ x ∈ S ∨ ∃ j, i < j ∧ j < n ∧ (j, i) ∈ S ∧ x = (j, k) := by
  unfold mipInner
  rw [foldl_cond_insert_range (i + 1) n (fun j => (j, k)) (fun S j => setMem (j, i) S) S
    fun S' j _ _ hS => setMem_congr _ _ _ (hS _ fun j' _ _ heq => hik (Prod.mk.inj heq).2)]
  simp only [setMem_iff]
  exact Iff.rfl

theorem mem_mipStage (n : Nat) (S : List Pair) (i : Nat) (x : Pair) :
    x ∈ mipStage n S i ↔ x ∈ S ∨ ∃ j k, i < j ∧ j < n ∧ i < k ∧ k < n ∧
      (j, i) ∈ S ∧ (i, k) ∈ S ∧ x = (j, k) := by
  unfold mipStage
  rw [foldl_block (fun (S : List Pair) x => x ∈ S) (rangeFrom (i + 1) n)
    (fun k x => x.2 = k ∧ i < x.1)
    (fun k x => (i, k) ∈ S ∧ ∃ j, i < j ∧ j < n ∧ (j, i) ∈ S ∧ x = (j, k)) _ S]
  · constructor
    · rintro (h | ⟨k, hk, h1, j, h2, h3, h4, h5⟩)
      · exact Or.inl h
      · rw [mem_rangeFrom] at hk
        exact Or.inr ⟨j, k, h2, h3, hk.1, hk.2, h4, h1, h5⟩
    · rintro (h | ⟨j, k, h1, h2, h3, h4, h5, h6, h7⟩)
      · exact Or.inl h
      · exact Or.inr ⟨k, mem_rangeFrom.mpr ⟨h3, h4⟩, h6, j, h1, h2, h5, h7⟩
  · rintro k x ⟨_, j, h1, _, _, rfl⟩
    exact ⟨rfl, h1⟩
  · intro S' k hk hS x
    rw [mem_rangeFrom] at hk
    have e1 : setMem (i, k) S' = setMem (i, k) S := by
      apply setMem_congr
      apply hS
      rintro k' _ ⟨_, h2⟩
      simp at h2
    have e2 : ∀ j, (j, i) ∈ S' ↔ (j, i) ∈ S := by
      intro j
      apply hS
      rintro k' hk' ⟨h1, _⟩
      exact Nat.lt_irrefl i ((mem_rangeFrom.mp hk').1.trans_eq h1.symm)
    cases hm : setMem (i, k) S
    · simp only [e1, hm, Bool.false_eq_true, if_false]
      have : ¬ (i, k) ∈ S := by rw [← setMem_iff]; simp [hm]
      simp [this]
    · simp only [e1, hm, if_true]
      have : (i, k) ∈ S := (setMem_iff _ _).mp hm
      rw [mem_mipInner n i k (Nat.ne_of_lt hk.1)]
      simp only [this, true_and, e2]

theorem mipStages_props (n : Nat) (az : Nat → Nat → Bool) (m : Nat) :
    (∀ r c, (r, c) ∈ (List.range m).foldl (mipStage n) (mipInit n az) → r < n ∧ c < n) ∧
    (∀ r c, r < n → c < n → az r c = false →
      (r, c) ∈ (List.range m).foldl (mipStage n) (mipInit n az)) ∧
    (∀ j r c, j < m → j < r → j < c →
      (r, j) ∈ (List.range m).foldl (mipStage n) (mipInit n az) →
      (j, c) ∈ (List.range m).foldl (mipStage n) (mipInit n az) →
      (r, c) ∈ (List.range m).foldl (mipStage n) (mipInit n az)) := by
  refine foldl_range_induct (fun m T => (∀ r c, (r, c) ∈ T → r < n ∧ c < n) ∧
    (∀ r c, r < n → c < n → az r c = false → (r, c) ∈ T) ∧
    (∀ j r c, j < m → j < r → j < c → (r, j) ∈ T → (j, c) ∈ T → (r, c) ∈ T))
    (mipStage n) (mipInit n az) m ?_ ?_
  · refine ⟨?_, ?_, fun j r c h => absurd h (Nat.not_lt_zero j)⟩
    · intro r c h
      have := (mem_mipInit n az r c).mp h
      exact ⟨this.1, this.2.1⟩
    · intro r c hr hc hz
      exact (mem_mipInit n az r c).mpr ⟨hr, hc, hz⟩
  · rintro m _ T ⟨g1, g2, g3⟩
    have hst := mem_mipStage n T m
    refine ⟨?_, ?_, ?_⟩
    · intro r c h
      rcases (hst (r, c)).mp h with h | ⟨j, k, _, h2, _, h4, _, _, hx⟩
      · exact g1 r c h
      · simp only [Prod.mk.injEq] at hx
        obtain ⟨rfl, rfl⟩ := hx
        exact ⟨h2, h4⟩
    · intro r c hr hc hz
      exact (hst (r, c)).mpr (Or.inl (g2 r c hr hc hz))
    · intro j r c hj hjr hjc h1 h2
      -- stage `m` adds nothing in row or column `j ≤ m`
      have o1 : (r, j) ∈ T := by
        rcases (hst (r, j)).mp h1 with h | ⟨j', k', _, _, h3, _, _, _, hx⟩
        · exact h
        · exact absurd ((Prod.mk.inj hx).2 ▸ h3) (Nat.not_lt.mpr (Nat.le_of_lt_succ hj))
      have o2 : (j, c) ∈ T := by
        rcases (hst (j, c)).mp h2 with h | ⟨j', k', h3, _, _, _, _, _, hx⟩
        · exact h
        · exact absurd ((Prod.mk.inj hx).1 ▸ h3) (Nat.not_lt.mpr (Nat.le_of_lt_succ hj))
      by_cases hjm : j = m
      · subst hjm
        exact (hst (r, c)).mpr (Or.inr ⟨r, c, hjr, (g1 r j o1).1, hjc, (g1 j c o2).2, o1, o2, rfl⟩)
      · exact (hst (r, c)).mpr (Or.inl (g3 j r c (Nat.lt_of_le_of_ne (Nat.le_of_lt_succ hj) hjm)
          hjr hjc o1 o2))

theorem IPSetup_of_symbolic_mozart (n : Nat) (az : Nat → Nat → Bool) (P : Pattern)
    (g : GoodPattern n P) (hdiag : ∀ i, i < n → az i i = false)
    (hP : ∀ r c, r < n → c < n →
      (P.zero? r c = false ↔ (r, c) ∈ mozartInPlaceSymbolic n az)) : IPSetup n P := by
  obtain ⟨_, g2, g3⟩ := mipStages_props n az n
  rw [← mozartInPlaceSymbolic_eq] at g2 g3
  refine ⟨g, ?_, ?_⟩
  · intro i hi
    exact (hP i i hi hi).mpr (g2 i i hi hi (hdiag i hi))
  · intro r c j hr hc hjr hjc h1 h2
    have hj := hjr.trans hr
    exact (hP r c hr hc).mpr (g3 j r c hj hjr hjc ((hP r j hr hj).mp h1) ((hP j c hj hc).mp h2))

theorem mozartInPlaceSymbolic_range (n : Nat) (az : Nat → Nat → Bool) (r c : Nat)
    (h : (r, c) ∈ mozartInPlaceSymbolic n az) : r < n ∧ c < n := by
  rw [mozartInPlaceSymbolic_eq] at h
  exact (mipStages_props n az n).1 r c h

theorem mozartInPlaceSymbolic_support (n : Nat) (az : Nat → Nat → Bool) (r c : Nat)
    (hr : r < n) (hc : c < n) (h : az r c = false) : (r, c) ∈ mozartInPlaceSymbolic n az := by
  rw [mozartInPlaceSymbolic_eq]
  exact (mipStages_props n az n).2.1 r c hr hc h

def msInitL (az : Nat → Nat → Bool) (L : List Pair) (i : Nat) : List Pair :=
  (List.range i).foldl (fun L j => if !az i j then setInsert (i, j) L else L) (setInsert (i, i) L)

def msInitU (n : Nat) (az : Nat → Nat → Bool) (U : List Pair) (i : Nat) : List Pair :=
  (rangeFrom i n).foldl (fun U j => if !az i j then setInsert (i, j) U else U) U

def msL1 (n : Nat) (az : Nat → Nat → Bool) (i : Nat) (L : List Pair) : List Pair :=
  (rangeFrom (i + 1) n).foldl (fun L j => if !az j i then setInsert (j, i) L else L) L

def msK (n i : Nat) (LU : List Pair × List Pair) (k : Nat) : List Pair × List Pair :=
  if !setMem (i, k) LU.2 then LU
  else
    let U := (rangeFrom (i + 1) (k + 1)).foldl
      (fun U j => if setMem (j, i) LU.1 then setInsert (j, k) U else U) LU.2
    let L := (rangeFrom (k + 1) n).foldl
      (fun L j => if setMem (j, i) L then setInsert (j, k) L else L) LU.1
    (L, U)

def msStage (n : Nat) (az : Nat → Nat → Bool) (LU : List Pair × List Pair) (i : Nat) :
    List Pair × List Pair :=
  (rangeFrom (i + 1) n).foldl (msK n i) (msL1 n az i LU.1, LU.2)

theorem mozartSymbolic_eq (n : Nat) (az : Nat → Nat → Bool) :
    mozartSymbolic n az = (List.range n).foldl (msStage n az)
      ((List.range n).foldl (msInitL az) [], (List.range n).foldl (msInitU n az) []) := by
  have h := foldl_prod (msInitL az) (msInitU n az) (List.range n) ([], [])
  unfold mozartSymbolic
  rw [← h]
  rfl

theorem mem_msInitL (n : Nat) (az : Nat → Nat → Bool) (r c : Nat) :
    (r, c) ∈ (List.range n).foldl (msInitL az) [] ↔
      r < n ∧ (c = r ∨ (c < r ∧ az r c = false)) := by
  rw [foldl_block (fun (S : List Pair) x => x ∈ S) (List.range n)
    (fun i x => x.1 = i) (fun i x => x = (i, i) ∨ ∃ j, j < i ∧ az i j = false ∧ x = (i, j)) _ []]
  · constructor
    · rintro (h | ⟨i, hi, h | ⟨j, hj, hz, hx⟩⟩)
      · cases h
      · simp only [Prod.mk.injEq] at h
        obtain ⟨rfl, rfl⟩ := h
        exact ⟨List.mem_range.mp hi, Or.inl rfl⟩
      · simp only [Prod.mk.injEq] at hx
        obtain ⟨rfl, rfl⟩ := hx
        exact ⟨List.mem_range.mp hi, Or.inr ⟨hj, hz⟩⟩
    · rintro ⟨hr, h | ⟨h1, h2⟩⟩
      · subst h; exact Or.inr ⟨c, List.mem_range.mpr hr, Or.inl rfl⟩
      · exact Or.inr ⟨r, List.mem_range.mpr hr, Or.inr ⟨c, h1, h2, rfl⟩⟩
  · rintro i x (h | ⟨j, _, _, h⟩) <;> simp [h]
  · intro S i _ _ x
    unfold msInitL
    rw [foldl_cond_insert (List.range i) (fun j => (i, j)) (fun _ j => !az i j) _ (fun _ _ _ _ => rfl),
      mem_setInsert]
    constructor
    · rintro ((h | h) | ⟨j, hj, hc, hx⟩)
      · exact Or.inr (Or.inl h)
      · exact Or.inl h
      · exact Or.inr (Or.inr ⟨j, List.mem_range.mp hj, by simpa using hc, hx⟩)
    · rintro (h | h | ⟨j, hj, hc, hx⟩)
      · exact Or.inl (Or.inr h)
      · exact Or.inl (Or.inl h)
      · exact Or.inr ⟨j, List.mem_range.mpr hj, by simpa using hc, hx⟩

theorem mem_msInitU (n : Nat) (az : Nat → Nat → Bool) (r c : Nat) :
    (r, c) ∈ (List.range n).foldl (msInitU n az) [] ↔
      r < n ∧ r ≤ c ∧ c < n ∧ az r c = false := by
  rw [foldl_block (fun (S : List Pair) x => x ∈ S) (List.range n)
    (fun i x => x.1 = i) (fun i x => ∃ j, i ≤ j ∧ j < n ∧ az i j = false ∧ x = (i, j)) _ []]
  · constructor
    · rintro (h | ⟨i, hi, j, h1, h2, hz, hx⟩)
      · cases h
      · simp only [Prod.mk.injEq] at hx
        obtain ⟨rfl, rfl⟩ := hx
        exact ⟨List.mem_range.mp hi, h1, h2, hz⟩
    · rintro ⟨hr, h1, h2, hz⟩
      exact Or.inr ⟨r, List.mem_range.mpr hr, c, h1, h2, hz, rfl⟩
  · rintro i x ⟨j, _, _, _, h⟩; simp [h]
  · intro S i _ _ x
    unfold msInitU
    rw [foldl_cond_insert_range i n (fun j => (i, j)) (fun _ j => !az i j) _ (fun _ _ _ _ _ => rfl)]
    simp only [Bool.not_eq_true']

theorem mem_msL1 (n : Nat) (az : Nat → Nat → Bool) (i : Nat) (L : List Pair) (x : Pair) :
    x ∈ msL1 n az i L ↔ x ∈ L ∨ ∃ j, i < j ∧ j < n ∧ az j i = false ∧ x = (j, i) := by
  unfold msL1
  rw [foldl_cond_insert_range (i + 1) n (fun j => (j, i)) (fun _ j => !az j i) _
    (fun _ _ _ _ _ => rfl)]
  simp only [Bool.not_eq_true']
  exact Iff.rfl

/-- the tag makes `(L, U)` one state with one membership predicate, which is the form `foldl_block` takes -/
def memLU (S : List Pair × List Pair) (x : Bool × Pair) : Prop :=
  if x.1 then x.2 ∈ S.2 else x.2 ∈ S.1

theorem mem_msK (n i k : Nat) (hik : i < k) (L U : List Pair) :
    (∀ x, x ∈ (msK n i (L, U) k).2 ↔
      x ∈ U ∨ ((i, k) ∈ U ∧ ∃ j, i < j ∧ j ≤ k ∧ (j, i) ∈ L ∧ x = (j, k))) ∧
    (∀ x, x ∈ (msK n i (L, U) k).1 ↔
      x ∈ L ∨ ((i, k) ∈ U ∧ ∃ j, k < j ∧ j < n ∧ (j, i) ∈ L ∧ x = (j, k))) := by
  unfold msK
  cases hm : setMem (i, k) U
  · have : ¬ (i, k) ∈ U := by rw [← setMem_iff]; simp [hm]
    simp [this]
  · have hin : (i, k) ∈ U := (setMem_iff _ _).mp hm
    simp only [Bool.not_true, Bool.false_eq_true, if_false, hin, true_and]
    constructor
    · intro x
      rw [foldl_cond_insert_range (i + 1) (k + 1) (fun j => (j, k)) (fun _ j => setMem (j, i) L) U
        (fun _ _ _ _ _ => rfl)]
      simp only [setMem_iff, Nat.lt_succ_iff]
      exact Iff.rfl
    · intro x
      rw [foldl_cond_insert_range (k + 1) n (fun j => (j, k)) (fun S j => setMem (j, i) S) L
        fun S' j _ _ hS => setMem_congr _ _ _ (hS _ fun j' _ _ heq =>
          Nat.ne_of_lt hik (Prod.mk.inj heq).2)]
      simp only [setMem_iff]
      exact Iff.rfl

theorem mem_msStage (n : Nat) (az : Nat → Nat → Bool) (i : Nat) (L U : List Pair) :
    (∀ x, x ∈ (msStage n az (L, U) i).2 ↔ x ∈ U ∨ ∃ j k, i < j ∧ j ≤ k ∧ k < n ∧
      (j, i) ∈ msL1 n az i L ∧ (i, k) ∈ U ∧ x = (j, k)) ∧
    (∀ x, x ∈ (msStage n az (L, U) i).1 ↔ x ∈ msL1 n az i L ∨ ∃ j k, i < k ∧ k < j ∧ j < n ∧
      (j, i) ∈ msL1 n az i L ∧ (i, k) ∈ U ∧ x = (j, k)) := by
  unfold msStage
  simp only
  generalize msL1 n az i L = L1
  have key := foldl_block (memLU) (rangeFrom (i + 1) n)
    (fun k (x : Bool × Pair) => x.2.2 = k ∧ i < x.2.1)
    (fun k (x : Bool × Pair) => (i, k) ∈ U ∧ ∃ j, i < j ∧ (j, i) ∈ L1 ∧ x.2 = (j, k) ∧
      ((x.1 = true ∧ j ≤ k) ∨ (x.1 = false ∧ k < j ∧ j < n)))
    (msK n i) (L1, U)
    (by
      rintro k ⟨b, x⟩ ⟨_, j, h1, _, h2, _⟩
      simp only at h2
      subst h2
      exact ⟨rfl, h1⟩)
    (by
      intro S k hk hS x
      obtain ⟨L', U'⟩ := S
      rw [mem_rangeFrom] at hk
      have e1 : (i, k) ∈ U' ↔ (i, k) ∈ U := by
        have := hS (true, (i, k)) (by rintro k' _ ⟨_, h2⟩; simp at h2)
        simpa [memLU] using this
      have e2 : ∀ j, (j, i) ∈ L' ↔ (j, i) ∈ L1 := by
        intro j
        have := hS (false, (j, i)) (by
          rintro k' hk' ⟨h1, _⟩
          exact Nat.lt_irrefl i ((mem_rangeFrom.mp hk').1.trans_eq h1.symm))
        simpa [memLU] using this
      obtain ⟨mU, mL⟩ := mem_msK n i k hk.1 L' U'
      obtain ⟨b, y⟩ := x
      cases b
      · simp only [memLU, Bool.false_eq_true, if_false]
        rw [mL y]
        simp only [e1, e2, false_and, false_or, true_and]
        constructor
        · rintro (h | ⟨h1, j, h2, h3, h4, h5⟩)
          · exact Or.inl h
          · exact Or.inr ⟨h1, j, Nat.lt_trans hk.1 h2, h4, h5, h2, h3⟩
        · rintro (h | ⟨h1, j, h2, h3, h4, h5, h6⟩)
          · exact Or.inl h
          · exact Or.inr ⟨h1, j, h5, h6, h3, h4⟩
      · simp only [memLU, if_true]
        rw [mU y]
        simp only [e1, e2, true_and, Bool.true_eq_false, false_and, or_false]
        constructor
        · rintro (h | ⟨h1, j, h2, h3, h4, h5⟩)
          · exact Or.inl h
          · exact Or.inr ⟨h1, j, h2, h4, h5, h3⟩
        · rintro (h | ⟨h1, j, h2, h3, h4, h5⟩)
          · exact Or.inl h
          · exact Or.inr ⟨h1, j, h2, h5, h3, h4⟩)
  constructor
  · intro x
    have := key (true, x)
    simp only [memLU, if_true, true_and, Bool.true_eq_false, false_and, or_false] at this
    rw [this]
    constructor
    · rintro (h | ⟨k, hk, h1, j, h2, h3, h4, h5⟩)
      · exact Or.inl h
      · rw [mem_rangeFrom] at hk
        exact Or.inr ⟨j, k, h2, h5, hk.2, h3, h1, h4⟩
    · rintro (h | ⟨j, k, h1, h2, h3, h4, h5, h6⟩)
      · exact Or.inl h
      · exact Or.inr ⟨k, mem_rangeFrom.mpr ⟨Nat.lt_of_lt_of_le h1 h2, h3⟩, h5, j, h1, h4,
          h6, h2⟩
  · intro x
    have := key (false, x)
    simp only [memLU, Bool.false_eq_true, if_false, false_and, false_or, true_and] at this
    rw [this]
    constructor
    · rintro (h | ⟨k, hk, h1, j, h2, h3, h4, h5, h6⟩)
      · exact Or.inl h
      · rw [mem_rangeFrom] at hk
        exact Or.inr ⟨j, k, hk.1, h5, h6, h3, h1, h4⟩
    · rintro (h | ⟨j, k, h1, h2, h3, h4, h5, h6⟩)
      · exact Or.inl h
      · exact Or.inr ⟨k, mem_rangeFrom.mpr ⟨h1, h2.trans h3⟩, h5, j, Nat.lt_trans h1 h2,
          h4, h6, h2, h3⟩

structure MsProps (n : Nat) (az : Nat → Nat → Bool) (m : Nat) (L U : List Pair) : Prop where
  L_shape : ∀ r c, (r, c) ∈ L → c ≤ r ∧ r < n
  U_shape : ∀ r c, (r, c) ∈ U → r ≤ c ∧ c < n
  L_sup : ∀ r c, c < r → r < n → az r c = false → (r, c) ∈ L
  L_diag : ∀ i, i < n → (i, i) ∈ L
  U_sup : ∀ r c, r ≤ c → c < n → az r c = false → (r, c) ∈ U
  fillU : ∀ j i k, j < m → j < i → i ≤ k → (i, j) ∈ L → (j, k) ∈ U → (i, k) ∈ U
  fillL : ∀ j i k, j < m → j < i → i < k → (k, j) ∈ L → (j, i) ∈ U → (k, i) ∈ L

theorem msProps_init (n : Nat) (az : Nat → Nat → Bool) :
    MsProps n az 0 ((List.range n).foldl (msInitL az) []) ((List.range n).foldl (msInitU n az) []) where
  L_shape := by
    intro r c h
    obtain ⟨h1, h2 | h2⟩ := (mem_msInitL n az r c).mp h
    · exact ⟨Nat.le_of_eq h2, h1⟩
    · exact ⟨h2.1.le, h1⟩
  U_shape := by
    intro r c h
    obtain ⟨_, h2, h3, _⟩ := (mem_msInitU n az r c).mp h
    exact ⟨h2, h3⟩
  L_sup := fun r c h1 h2 h3 => (mem_msInitL n az r c).mpr ⟨h2, Or.inr ⟨h1, h3⟩⟩
  L_diag := fun i hi => (mem_msInitL n az i i).mpr ⟨hi, Or.inl rfl⟩
  U_sup := fun r c h1 h2 h3 => (mem_msInitU n az r c).mpr ⟨Nat.lt_of_le_of_lt h1 h2, h1, h2, h3⟩
  fillU := fun j i k h => absurd h (Nat.not_lt_zero j)
  fillL := fun j i k h => absurd h (Nat.not_lt_zero j)

theorem msProps_step (n : Nat) (az : Nat → Nat → Bool) (m : Nat) (L U : List Pair)
    (h : MsProps n az m L U) :
    MsProps n az (m + 1) (msStage n az (L, U) m).1 (msStage n az (L, U) m).2 := by
  obtain ⟨mU, mL⟩ := mem_msStage n az m L U
  have hL1 : ∀ x, x ∈ msL1 n az m L ↔ x ∈ L := by
    intro x
    rw [mem_msL1]
    constructor
    · rintro (h1 | ⟨j, h1, h2, h3, rfl⟩)
      · exact h1
      · exact h.L_sup j m h1 h2 h3
    · intro h1; exact Or.inl h1
  simp only [hL1] at mU mL
  generalize (msStage n az (L, U) m).1 = L' at mL
  generalize (msStage n az (L, U) m).2 = U' at mU
  have subL : ∀ x, x ∈ L → x ∈ L' := fun x hx => (mL x).mpr (Or.inl hx)
  have subU : ∀ x, x ∈ U → x ∈ U' := fun x hx => (mU x).mpr (Or.inl hx)
  have oldL : ∀ r j, j ≤ m → (r, j) ∈ L' → (r, j) ∈ L := by
    intro r j hj hm
    rcases (mL _).mp hm with h1 | ⟨j', k', h1, _, _, _, _, hx⟩
    · exact h1
    · exact absurd ((Prod.mk.inj hx).2 ▸ h1) (Nat.not_lt.mpr hj)
  have oldU : ∀ j c, j ≤ m → (j, c) ∈ U' → (j, c) ∈ U := by
    intro j c hj hm
    rcases (mU _).mp hm with h1 | ⟨j', k', h1, _, _, _, _, hx⟩
    · exact h1
    · exact absurd ((Prod.mk.inj hx).1 ▸ h1) (Nat.not_lt.mpr hj)
  refine ⟨?_, ?_, ?_, ?_, ?_, ?_, ?_⟩
  · intro r c hm
    rcases (mL _).mp hm with h1 | ⟨j, k, h1, h2, h3, _, _, hx⟩
    · exact h.L_shape r c h1
    · simp only [Prod.mk.injEq] at hx
      obtain ⟨rfl, rfl⟩ := hx
      exact ⟨h2.le, h3⟩
  · intro r c hm
    rcases (mU _).mp hm with h1 | ⟨j, k, h1, h2, h3, _, _, hx⟩
    · exact h.U_shape r c h1
    · simp only [Prod.mk.injEq] at hx
      obtain ⟨rfl, rfl⟩ := hx
      exact ⟨h2, h3⟩
  · intro r c h1 h2 h3; exact subL _ (h.L_sup r c h1 h2 h3)
  · intro i hi; exact subL _ (h.L_diag i hi)
  · intro r c h1 h2 h3; exact subU _ (h.U_sup r c h1 h2 h3)
  · intro j i k hj hji hik h1 h2
    have o1 := oldL i j (Nat.le_of_lt_succ hj) h1
    have o2 := oldU j k (Nat.le_of_lt_succ hj) h2
    by_cases hjm : j = m
    · subst hjm
      exact (mU _).mpr (Or.inr ⟨i, k, hji, hik, (h.U_shape j k o2).2, o1, o2, rfl⟩)
    · exact subU _ (h.fillU j i k (Nat.lt_of_le_of_ne (Nat.le_of_lt_succ hj) hjm) hji hik o1 o2)
  · intro j i k hj hji hik h1 h2
    have o1 := oldL k j (Nat.le_of_lt_succ hj) h1
    have o2 := oldU j i (Nat.le_of_lt_succ hj) h2
    by_cases hjm : j = m
    · subst hjm
      exact (mL _).mpr (Or.inr ⟨k, i, hji, hik, (h.L_shape k j o1).2, o1, o2, rfl⟩)
    · exact subL _ (h.fillL j i k (Nat.lt_of_le_of_ne (Nat.le_of_lt_succ hj) hjm) hji hik o1 o2)

theorem mozartSymbolic_props (n : Nat) (az : Nat → Nat → Bool) :
    MsProps n az n (mozartSymbolic n az).1 (mozartSymbolic n az).2 := by
  rw [mozartSymbolic_eq]
  exact foldl_range_induct (fun m LU => MsProps n az m LU.1 LU.2) (msStage n az)
    ((List.range n).foldl (msInitL az) [], (List.range n).foldl (msInitU n az) []) n
    (msProps_init n az) fun m _ LU h => msProps_step n az m LU.1 LU.2 h

theorem MozSetup_of_symbolic (n : Nat) (A Lp Up : Pattern) (gL : GoodPattern n Lp)
    (gU : GoodPattern n Up) (hdiag : ∀ i, i < n → A.zero? i i = false)
    (hL : ∀ r c, r < n → c < n →
      (Lp.zero? r c = false ↔ (r, c) ∈ (mozartSymbolic n (fun r c => A.zero? r c)).1))
    (hU : ∀ r c, r < n → c < n →
      (Up.zero? r c = false ↔ (r, c) ∈ (mozartSymbolic n (fun r c => A.zero? r c)).2)) :
    MozSetup n A Lp Up := by
  have hp := mozartSymbolic_props n (fun r c => A.zero? r c)
  have pL : ∀ r c, r < n → c < n → (pres Lp r c = true ↔
      (r, c) ∈ (mozartSymbolic n (fun r c => A.zero? r c)).1) :=
    fun r c hr hc => (pres_true Lp r c).trans (hL r c hr hc)
  have pU : ∀ r c, r < n → c < n → (pres Up r c = true ↔
      (r, c) ∈ (mozartSymbolic n (fun r c => A.zero? r c)).2) :=
    fun r c hr hc => (pres_true Up r c).trans (hU r c hr hc)
  exact
    { gL := gL, gU := gU
      closed :=
        { diagU := fun i hi => (pU i i hi hi).mpr (hp.U_sup i i (le_refl i) hi (hdiag i hi))
          supU := fun r c hrc hc ha => (pU r c (Nat.lt_of_le_of_lt hrc hc) hc).mpr
            (hp.U_sup r c hrc hc ((pres_true A r c).mp ha))
          supL := fun r c hcr hr ha => (pL r c hr (hcr.trans hr)).mpr
            (hp.L_sup r c hcr hr ((pres_true A r c).mp ha))
          fillU := fun i j k hj hik hk h1 h2 =>
            have hi := Nat.lt_of_le_of_lt hik hk
            (pU i k hi hk).mpr (hp.fillU j i k (hj.trans hi) hj hik
              ((pL i j hi (hj.trans hi)).mp h1) ((pU j k (hj.trans hi) hk).mp h2))
          fillL := fun i j k hj hik hk h1 h2 =>
            have hi := hik.trans hk
            (pL k i hk hi).mpr (hp.fillL j i k (hj.trans hi) hj hik
              ((pL k j hk (hj.trans hi)).mp h1) ((pU j i (hj.trans hi) hi).mp h2)) }
      diagL := fun i hi => (hL i i hi hi).mpr (hp.L_diag i hi)
      lowL := fun r c hr hc hm => (hp.L_shape r c ((hL r c hr hc).mp hm)).1
      uppU := fun r c hr hc hm => (hp.U_shape r c ((hU r c hr hc).mp hm)).1 }

end Micm
