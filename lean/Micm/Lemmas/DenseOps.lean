/-
For C19 (whole-matrix operations on the dense containers): `Axpy`/`ForEach` as one
read-modify-write pass (`foldl_rmw_rd`) over the duplicate-free `visitSlots`.  Core Lean only.
-/
import Micm.Lemmas.SparseIndex
namespace Micm

section
variable {α : Type} [OfNat α 0]

/-- apply `h slot old` at every visited slot: linear `mapIdx` for the row-major matrix, the
    two-part loop over `visitSlots` for the grouped one -/
def visitApply (s : DenseShape) (h : Nat → α → α) (t : Array α) : Array α :=
  if s.L = 0 then t.mapIdx fun i ti => h i ti
  else (visitSlots s).foldl (fun t k => wr t k (h k (rd t k))) t

theorem forEach2Flat_eq (s : DenseShape) (f : α → α → α) (t a : Array α) :
    forEach2Flat s f t a = visitApply s (fun k ti => f ti (rd a k)) t := by
  unfold forEach2Flat visitApply visitSlots
  by_cases hL : s.L = 0
  · simp only [hL, if_true]
  · simp only [hL, if_false, List.foldl_append, List.foldl_flatMap, List.foldl_map]

theorem foldl_keep {β γ : Type} (l : List β) (t : γ) : l.foldl (fun t _ => t) t = t := by
  induction l with
  | nil => rfl
  | cons _ l ih => simpa using ih

theorem forEach3Flat_eq (s : DenseShape) (f : α → α → α → α) (t a b : Array α) :
    forEach3Flat s f t a b = visitApply s (fun k ti => f ti (rd a k) (rd b k)) t := by
  unfold forEach3Flat visitApply visitSlots
  by_cases hL : s.L = 0
  · simp only [hL, if_true]
  · simp only [hL, if_false, List.foldl_append, List.foldl_flatMap, List.foldl_map]
    by_cases hm : s.rows % s.L > 0
    · simp only [hm, if_true]
    · have : s.rows % s.L = 0 := by omega
      simp only [this, Nat.lt_irrefl, if_false, List.range_zero, List.foldl_nil]
      exact (foldl_keep _ _).symm

theorem axpyFlat_eq [Add α] [Mul α] (s : DenseShape) (alpha : α) (x y : Array α) :
    axpyFlat s alpha x y = visitApply s (fun k yi => yi + alpha * rd x k) y := by
  unfold axpyFlat visitApply visitSlots
  by_cases hL : s.L = 0
  · simp only [hL, if_true]
  · simp only [hL, if_false, List.foldl_append, List.foldl_flatMap, List.foldl_map]

theorem visitApply_size (s : DenseShape) (h : Nat → α → α) (t : Array α) :
    (visitApply s h t).size = t.size := by
  unfold visitApply
  split
  · simp
  · exact foldl_wr_size (fun k => k) (fun t k => h k (rd t k)) _ t

theorem mem_visitSlots_lt (s : DenseShape) {j : Nat} (hj : j ∈ visitSlots s) : j < s.size := by
  obtain ⟨x, y, hx, hy, rfl⟩ := visitSlots_mem_addr s hj
  exact dense_addr_lt s hx hy

theorem visitApply_rd (s : DenseShape) (h : Nat → α → α) (t : Array α) (ht : t.size = s.size) (j : Nat) :
    rd (visitApply s h t) j = if j ∈ visitSlots s then h j (rd t j) else rd t j := by
  unfold visitApply
  by_cases hL : s.L = 0
  · simp only [hL, if_true]
    have hsz : s.size = s.rows * s.cols := by simp [DenseShape.size, hL]
    have hv : visitSlots s = List.range (s.rows * s.cols) := by simp [visitSlots, hL]
    have hm : j ∈ visitSlots s ↔ j < t.size := by rw [hv, List.mem_range, ← hsz, ← ht]
    by_cases hj : j < t.size
    · rw [if_pos (hm.mpr hj), rd_mapIdx _ _ _ hj]
    · rw [if_neg (fun h' => hj (hm.mp h')), rd_of_ge _ _ (by simpa using Nat.le_of_not_lt hj),
        rd_of_ge _ _ (Nat.le_of_not_lt hj)]
  · simp only [hL, if_false]
    rw [foldl_rmw_rd h _ t (visitSlots_nodup s)]
    by_cases hj : j ∈ visitSlots s
    · have := mem_visitSlots_lt s hj
      simp [hj, ht, this]
    · simp [hj]

theorem visitApply_addr (s : DenseShape) (h : Nat → α → α) (t : Array α) (ht : t.size = s.size)
    {x y : Nat} (hx : x < s.rows) (hy : y < s.cols) :
    rd (visitApply s h t) (s.addr x y) = h (s.addr x y) (rd t (s.addr x y)) := by
  rw [visitApply_rd s h t ht, if_pos (addr_mem_visitSlots s hx hy)]

/-- such `j` are the padding lanes of the last group and the slots out of range -/
theorem visitApply_frame (s : DenseShape) (h : Nat → α → α) (t : Array α) (ht : t.size = s.size)
    {j : Nat} (hj : ∀ x y, x < s.rows → y < s.cols → s.addr x y ≠ j) :
    rd (visitApply s h t) j = rd t j := by
  rw [visitApply_rd s h t ht, if_neg]
  intro hm
  obtain ⟨x, y, hx, hy, he⟩ := visitSlots_mem_addr s hm
  exact hj x y hx hy he

end
end Micm
