/-
Helper lemmas for C10 (second part), loop level: the first iteration of `rosSolve` when the first
attempt's error norm is NaN, or when the first prologue refuses the step size.
Uses `C10_ros_nan_final` of `Properties/C10.lean`.
-/
import Micm.Lemmas.NaNProp
import Micm.Properties.C10
namespace Micm
set_option linter.unusedSectionVars false

section
variable {α : Type} [OfNat α 0] [OfNat α 1] [Add α] [Sub α] [Mul α] [Div α]
variable (o : Ops α) (cs : Consts α) (s : SolverCfg α) (p : RosParams α) (kc : Mat α)
    (atol : Array α) (rtol : α) (timeStep : α) (Y : Mat α) (sc : Scratch α) (fuel : Nat)

def firstAttemptState : RState α :=
  startStep o s kc timeStep (rosInit (initialH o cs p timeStep) Y sc)

theorem firstAttemptState_f0 :
    (firstAttemptState o cs s p kc timeStep Y sc).sc.f0 = s.forcing kc Y (fillM sc.f0 0) := rfl
theorem firstAttemptState_Y : (firstAttemptState o cs s p kc timeStep Y sc).Y = Y := rfl
theorem firstAttemptState_k : (firstAttemptState o cs s p kc timeStep Y sc).sc.k = sc.k := rfl
theorem firstAttemptState_yerr : (firstAttemptState o cs s p kc timeStep Y sc).sc.yerr = sc.yerr := rfl

theorem rosSolve_nan_first (he : LoopEntered o cs p timeStep (initialH o cs p timeStep))
    (hnan : o.isNaN (attError o cs s p kc atol rtol (firstAttemptState o cs s p kc timeStep Y sc)) = true) :
    (rosSolve o cs s p kc atol rtol timeStep Y sc (fuel + 1)).status = .nanDetected := by
  rw [rosSolve_eq]
  simp only []
  have hp := rosPrologue_init o cs s p kc timeStep (initialH o cs p timeStep) Y sc he
  refine C10_ros_nan_final cs s p kc atol rtol timeStep (hmaxEff o p timeStep) o fuel _ rfl ?_ ?_
  · rw [hp]; rfl
  · rw [hp]; exact hnan

theorem rosSolve_first_tooSmall (h1 : o.le (0 - timeStep + p.roundOff) 0 = true)
    (h2 : (o.eq (0 + cs.tenth * initialH o cs p timeStep) 0 ||
           o.le (initialH o cs p timeStep) p.roundOff) = true) :
    (rosSolve o cs s p kc atol rtol timeStep Y sc (fuel + 1)).status = .stepSizeTooSmall := by
  rw [rosSolve_eq]
  simp only []
  have hp : rosPrologue o cs s p kc timeStep (rosInit (initialH o cs p timeStep) Y sc) =
      { rosInit (initialH o cs p timeStep) Y sc with status := .stepSizeTooSmall } := by
    rw [rosPrologue_rosInit o cs s p kc timeStep _ Y sc h1, if_pos h2]
  have hr : (rosInit (initialH o cs p timeStep) Y sc).status = Status.running := rfl
  rw [rosLoop_succ, if_pos hr, rosStep_no_attempt _ _ _ _ _ _ _ _ _ _ (by rw [hp]; simp), hp,
    rosLoop_not_running _ _ _ _ _ _ _ _ _ _ _ (by simp)]

variable {o}

theorem rosPrologue_f0_of_new_step (r : RState α) (hi : r.inStep = false)
    (hrun : (rosPrologue o cs s p kc timeStep r).status = .running) :
    (rosPrologue o cs s p kc timeStep r).sc.f0 = s.forcing kc r.Y (fillM r.sc.f0 0) := by
  have hc := rosPrologue_cases o cs s p kc timeStep r
  generalize rosPrologue o cs s p kc timeStep r = r' at hc hrun ⊢
  cases hc with
  | inStep h => rw [hi] at h; cases h
  | converged => cases hrun
  | maxSteps => cases hrun
  | tooSmall => cases hrun
  | start => rfl

end
end Micm
