/-
For C19 (row operations of the dense containers): row extraction and assignment with the
`min(L, remaining)` stepping, construction from nested vectors.  Core Lean only.
-/
import Micm.Lemmas.DenseOps
namespace Micm

section
variable {α : Type} [OfNat α 0]

theorem addr_stride (s : DenseShape) (hL : s.L ≠ 0) (x y : Nat) :
    s.addr x y = (x / s.L) * s.cols * s.L + x % s.L + y * s.L := by
  simp only [DenseShape.addr, hL, if_false, Nat.add_mul]
  omega

theorem addr_rowmajor (s : DenseShape) (hL : s.L = 0) (x y : Nat) : s.addr x y = x * s.cols + y := by
  simp only [DenseShape.addr, hL, if_true]

/-- so the `min(L, remaining)` step is `L` except after the last element of a row -/
theorem stride_fits (s : DenseShape) (hL : s.L ≠ 0) {x y : Nat} (hx : x < s.rows) (hy : y + 1 < s.cols) :
    s.addr x y + s.L ≤ s.size := by
  have h := dense_addr_lt s hx hy
  rw [addr_stride s hL] at h ⊢
  rw [Nat.succ_mul] at h
  omega

theorem extract_fold (data : Array α) (L start n : Nat) (h : start + n * L ≤ data.size) :
    (List.range n).foldl (fun (st : List α × Nat) _ =>
        (rd data st.2 :: st.1, st.2 + min L (data.size - st.2))) ([], start)
      = (((List.range n).map fun y => rd data (start + y * L)).reverse, start + n * L) := by
  induction n with
  | zero => simp
  | succ n ih =>
    rw [Nat.succ_mul] at h
    rw [List.range_succ, List.foldl_append, ih (by omega)]
    simp only [List.foldl_cons, List.foldl_nil, List.map_append, List.map_cons, List.map_nil,
      List.reverse_append, List.reverse_cons, List.reverse_nil, List.nil_append, List.cons_append,
      Nat.succ_mul]
    have : min L (data.size - (start + n * L)) = L := by omega
    rw [this, Nat.add_assoc]

theorem foldl_zipIdx_wr (g : Nat → Nat) (l : List α) (k0 : Nat) (d : Array α)
    (hinj : ∀ y y', k0 ≤ y → y < k0 + l.length → k0 ≤ y' → y' < k0 + l.length → g y = g y' → y = y') :
    ((l.zipIdx k0).foldl (fun d p => wr d (g p.2) p.1) d).size = d.size ∧
    (∀ y (hy : y < l.length), g (k0 + y) < d.size →
      rd ((l.zipIdx k0).foldl (fun d p => wr d (g p.2) p.1) d) (g (k0 + y)) = l[y]) ∧
    (∀ j, (∀ y, y < l.length → g (k0 + y) ≠ j) →
      rd ((l.zipIdx k0).foldl (fun d p => wr d (g p.2) p.1) d) j = rd d j) := by
  induction l generalizing k0 d with
  | nil => simp
  | cons e l ih =>
    simp only [List.zipIdx_cons, List.foldl_cons]
    have hlen : (e :: l).length = l.length + 1 := rfl
    obtain ⟨h1, h2, h3⟩ := ih (k0 + 1) (wr d (g k0) e) (by
      intro y y' a b c dd; exact hinj y y' (by omega) (by rw [hlen]; omega) (by omega) (by rw [hlen]; omega))
    refine ⟨by rw [h1, wr_size], ?_, ?_⟩
    · intro y hy hlt
      cases y with
      | zero =>
        rw [h3]
        · simp only [Nat.add_zero, List.getElem_cons_zero]
          exact rd_wr_same _ _ _ hlt
        · intro y' hy' heq
          have := hinj (k0 + 1 + y') (k0 + 0) (by omega) (by rw [hlen]; omega) (by omega)
            (by rw [hlen]; omega) heq
          omega
      | succ y =>
        have hy' : y < l.length := by simpa using hy
        have e1 : k0 + (y + 1) = k0 + 1 + y := by omega
        rw [e1] at hlt ⊢
        rw [h2 y hy' (by simpa using hlt)]
        rfl
    · intro j hj
      rw [h3]
      · apply rd_wr_ne
        have := hj 0 (by rw [hlen]; omega)
        simpa using this
      · intro y hy
        have := hj (y + 1) (by rw [hlen]; omega)
        have e1 : k0 + (y + 1) = k0 + 1 + y := by omega
        rwa [e1] at this

/-- write the list `r` into row `x` (the inner loop of row assignment and of the nested-vector
    constructor) -/
def writeRow (s : DenseShape) (x : Nat) (r : List α) (d : Array α) : Array α :=
  (r.zipIdx).foldl (fun d ey => wr d (s.addr x ey.2) ey.1) d

theorem writeRow_spec (s : DenseShape) (x : Nat) (r : List α) (d : Array α) (hr : r.length ≤ s.cols) :
    (writeRow s x r d).size = d.size ∧
    (∀ y (hy : y < r.length), s.addr x y < d.size → rd (writeRow s x r d) (s.addr x y) = r[y]) ∧
    (∀ j, (∀ y, y < r.length → s.addr x y ≠ j) → rd (writeRow s x r d) j = rd d j) := by
  have h := foldl_zipIdx_wr (s.addr x) r 0 d (by
    intro y y' _ hy _ hy' heq
    exact (dense_addr_inj s (by omega) (by omega) heq).2)
  simp only [Nat.zero_add] at h
  exact h

omit [OfNat α 0] in
/-- the grouped layout's assignment loop (position advanced by `min(L, remaining)`) writes
    `l[y]` at `start + y * L` -/
theorem assign_fold (L start : Nat) (l : List α) (k0 : Nat) (d : Array α)
    (h : l = [] ∨ start + (k0 + l.length - 1) * L < d.size) :
    (l.foldl (fun (st : Array α × Nat) e =>
        (wr st.1 st.2 e, st.2 + min L (st.1.size - st.2))) (d, start + k0 * L)).1
      = (l.zipIdx k0).foldl (fun d p => wr d (start + p.2 * L) p.1) d := by
  induction l generalizing k0 d with
  | nil => rfl
  | cons e l ih =>
    simp only [List.foldl_cons, List.zipIdx_cons]
    cases l with
    | nil => rfl
    | cons e' l' =>
      have hh : start + (k0 + (l'.length + 1 + 1) - 1) * L < d.size := by
        rcases h with h | h
        · cases h
        · exact h
      have e1 : k0 + (l'.length + 1 + 1) - 1 = (k0 + 1) + l'.length := by omega
      rw [e1, Nat.add_mul] at hh
      have hmin : min L (d.size - (start + k0 * L)) = L := by
        rw [Nat.add_mul, Nat.one_mul] at hh; omega
      have hpos : start + k0 * L + L = start + (k0 + 1) * L := by
        rw [Nat.add_mul, Nat.one_mul]; omega
      rw [hmin, hpos]
      apply ih
      right
      rw [wr_size]
      have e2 : k0 + 1 + (e' :: l').length - 1 = (k0 + 1) + l'.length := by
        simp only [List.length_cons]; omega
      rw [e2, Nat.add_mul]
      exact hh

omit [OfNat α 0] in
theorem rowAssign_err (s : DenseShape) (data : Array α) (x : Nat) (v : List α) (hv : v.length < s.cols) :
    rowAssign s data x v = .error .rowSizeMismatch := by
  unfold rowAssign
  rw [if_pos hv]

omit [OfNat α 0] in
theorem rowAssign_eq (s : DenseShape) (data : Array α) (hd : data.size = s.size) {x : Nat}
    (hx : x < s.rows) (v : List α) (hv : s.cols ≤ v.length) :
    rowAssign s data x v = .ok (writeRow s x (v.take s.cols) data) := by
  unfold rowAssign writeRow
  rw [if_neg (by omega)]
  by_cases hL : s.L = 0
  · simp only [hL, if_true]
    congr 1
    have : (fun (d : Array α) (p : α × Nat) => wr d (x * s.cols + p.2) p.1)
        = fun d p => wr d (s.addr x p.2) p.1 := by
      funext d p; rw [addr_rowmajor s hL]
    rw [this]
  · simp only [hL, if_false]
    congr 1
    have hlen : (v.take s.cols).length = s.cols := by simp; omega
    have h := assign_fold s.L ((x / s.L) * s.cols * s.L + x % s.L) (v.take s.cols) 0 data (by
      by_cases hc : s.cols = 0
      · left
        apply List.eq_nil_of_length_eq_zero
        rw [hlen, hc]
      · right
        rw [hlen, Nat.zero_add]
        have := dense_addr_lt s hx (show s.cols - 1 < s.cols by omega)
        rw [addr_stride s hL, hd.symm] at this
        exact this)
    simp only [Nat.zero_mul, Nat.add_zero] at h
    rw [h]
    have : (fun (d : Array α) (p : α × Nat) => wr d ((x / s.L) * s.cols * s.L + x % s.L + p.2 * s.L) p.1)
        = fun d p => wr d (s.addr x p.2) p.1 := by
      funext d p; rw [addr_stride s hL]
    rw [this]

theorem nested_fold (s : DenseShape) (m : List (List α)) (k0 : Nat) (d : Array α)
    (hrect : ∀ r ∈ m, r.length = s.cols) (hrows : k0 + m.length ≤ s.rows) (hd : d.size = s.size) :
    ((m.zipIdx k0).foldl (fun d rx => writeRow s rx.2 rx.1 d) d).size = d.size ∧
    (∀ i (hi : i < m.length) y (hy : y < m[i].length),
      rd ((m.zipIdx k0).foldl (fun d rx => writeRow s rx.2 rx.1 d) d) (s.addr (k0 + i) y) = m[i][y]) ∧
    (∀ j, (∀ i y, i < m.length → y < s.cols → s.addr (k0 + i) y ≠ j) →
      rd ((m.zipIdx k0).foldl (fun d rx => writeRow s rx.2 rx.1 d) d) j = rd d j) := by
  induction m generalizing k0 d with
  | nil => simp
  | cons r m ih =>
    simp only [List.zipIdx_cons, List.foldl_cons]
    have hlen : (r :: m).length = m.length + 1 := rfl
    have hr : r.length = s.cols := hrect r List.mem_cons_self
    obtain ⟨w1, w2, w3⟩ := writeRow_spec s k0 r d (by omega)
    obtain ⟨h1, h2, h3⟩ := ih (k0 + 1) (writeRow s k0 r d)
      (fun r' hr' => hrect r' (List.mem_cons_of_mem _ hr')) (by rw [hlen] at hrows; omega)
      (by rw [w1, hd])
    refine ⟨by rw [h1, w1], ?_, ?_⟩
    · intro i hi y hy
      cases i with
      | zero =>
        simp only [List.getElem_cons_zero] at hy ⊢
        rw [Nat.add_zero, h3]
        · apply w2 y hy
          rw [hd]
          exact dense_addr_lt s (by rw [hlen] at hrows; omega) (by omega)
        · intro i' y' _ hy' heq
          have := (dense_addr_inj s hy' (by omega) heq).1
          omega
      | succ i =>
        have hi' : i < m.length := by simpa using hi
        simp only [List.getElem_cons_succ] at hy ⊢
        have e1 : k0 + (i + 1) = k0 + 1 + i := by omega
        rw [e1]
        exact h2 i hi' y hy
    · intro j hj
      rw [h3, w3]
      · intro y hy
        have := hj 0 y (by rw [hlen]; omega) (by omega)
        simpa using this
      · intro i y hi hy
        have := hj (i + 1) y (by rw [hlen]; omega) hy
        have e1 : k0 + (i + 1) = k0 + 1 + i := by omega
        rwa [e1] at this

theorem fromNested_nil (L : Nat) : fromNested L ([] : List (List α)) = .ok (⟨0, 0, L⟩, #[]) := rfl

theorem fromNested_ragged (L : Nat) (r0 : List α) (rest : List (List α))
    (h : ∃ r ∈ r0 :: rest, r.length ≠ r0.length) :
    fromNested L (r0 :: rest) = .error .invalidVector := by
  obtain ⟨r, hr, hne⟩ := h
  unfold fromNested
  have : (r0 :: rest).any (fun r => r.length != r0.length) = true := by
    rw [List.any_eq_true]
    exact ⟨r, hr, by simpa using hne⟩
  simp only [this, if_true]

theorem fromNested_rect (L : Nat) (r0 : List α) (rest : List (List α))
    (h : ∀ r ∈ r0 :: rest, r.length = r0.length) :
    fromNested L (r0 :: rest) = .ok (⟨(r0 :: rest).length, r0.length, L⟩,
      ((r0 :: rest).zipIdx).foldl (fun d rx => writeRow ⟨(r0 :: rest).length, r0.length, L⟩ rx.2 rx.1 d)
        (Array.replicate (DenseShape.size ⟨(r0 :: rest).length, r0.length, L⟩) 0)) := by
  unfold fromNested
  have : (r0 :: rest).any (fun r => r.length != r0.length) = false := by
    rw [List.any_eq_false]
    intro r hr
    simpa using h r hr
  simp only [this, Bool.false_eq_true, if_false]
  rfl

end
end Micm
