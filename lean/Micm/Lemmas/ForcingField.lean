/-
Helper lemmas over a commutative ring for C01 (mass-action closed form of `forcingSpec`) and C09
(weighted sums with `w · S = 0` are preserved by the forcing update).
-/
import Micm.Lemmas.Forcing
import Micm.Lemmas.ArraySum
import Mathlib.Algebra.BigOperators.Group.Finset.Basic
import Mathlib.Algebra.BigOperators.Group.Finset.Piecewise

namespace Micm
variable {K : Type} [CommRing K]

section MassAction

theorem rd_rxnStep (y f : Array K) (k : K) (rx : RRxn K) (i : Nat) (hi : i < f.size) :
    rd (rxnStep y f k rx) i = rd f i + jacNet rx.1 rx.2 i * (k * (rx.1.map (rd y)).prod) := by
  unfold rxnStep rxnRate
  simp only [sub_eq_add_neg]
  rw [rd_foldl_wr_add_smul _ _ _ i (by rw [foldl_wr_size]; exact hi), rd_foldl_wr_add_const _ _ _ i hi,
    foldl_mul_eq, jacNet]
  ring

theorem rd_forcingSpec (y : Array K) (rxns : List (RRxn K)) (ks : List K) (f : Array K) (i : Nat)
    (hi : i < f.size) :
    rd (forcingSpec y rxns ks f) i
      = rd f i + ((rxns.zip ks).map fun rk => jacNet rk.1.1 rk.1.2 i * (rk.2 * (rk.1.1.map (rd y)).prod)).sum := by
  induction rxns generalizing ks f with
  | nil => simp
  | cons rx rest ih =>
    cases ks with
    | nil => simp
    | cons k ks =>
      rw [forcingSpec_cons, ih _ _ (by rw [rxnStep_size]; exact hi), rd_rxnStep _ _ _ _ _ hi]
      simp only [List.zip_cons_cons, List.map_cons, List.sum_cons]
      ring

/-- The mass-action law of C01 on built tables; nothing is ever divided, so any commutative ring
    will do as carrier. -/
theorem rd_built_addForcingCell {m : NameMap} {procs : List (Process K)} {t : PSTables K}
    {rxns : List (RRxn K)} (h : buildForcing m procs = .ok t ∨ ProcessSet.build procs m = .ok t)
    (hr : Resolves m procs rxns) (k y f : Array K) (i : Nat) (hi : i < f.size) :
    rd (t.addForcingCell k y f) i
      = rd f i + ((rxns.zip k.toList).map fun rk =>
          jacNet rk.1.1 rk.1.2 i * (rk.2 * (rk.1.1.map (rd y)).prod)).sum := by
  rw [built_addForcingCell h hr]
  exact rd_forcingSpec y rxns k.toList f i hi

end MassAction

section Conservation
open Finset

theorem wsum_wr (w : Nat → K) (n : Nat) (f : Array K) (hf : f.size = n) (j : Nat) (v : K) (hj : j < n) :
    ∑ i ∈ range n, w i * rd (wr f j v) i = ∑ i ∈ range n, w i * rd f i + w j * (v - rd f j) := by
  have key : ∀ i, w i * rd (wr f j v) i = w i * rd f i + if j = i then w j * (v - rd f j) else 0 := by
    intro i
    rw [rd_wr]
    by_cases h : j = i
    · subst h; simp [hf, hj]; ring
    · simp [h]
  simp only [key, sum_add_distrib, sum_ite_eq, mem_range, hj, if_true]

theorem wsum_foldl_wr_add (w : Nat → K) (n : Nat) {β : Type} (g : β → Nat) (c : β → K) (l : List β)
    (f : Array K) (hf : f.size = n) (hl : ∀ b ∈ l, g b < n) :
    ∑ i ∈ range n, w i * rd (l.foldl (fun f b => wr f (g b) (rd f (g b) + c b)) f) i
      = ∑ i ∈ range n, w i * rd f i + (l.map fun b => w (g b) * c b).sum := by
  induction l generalizing f with
  | nil => simp
  | cons a l ih =>
    simp only [List.foldl_cons, List.map_cons, List.sum_cons]
    rw [ih _ (by simpa using hf) (fun j hj => hl j (List.mem_cons_of_mem _ hj)),
      wsum_wr w n f hf (g a) _ (hl a List.mem_cons_self)]
    ring

theorem wsum_rxnStep (w : Nat → K) (n : Nat) (y f : Array K) (hf : f.size = n) (k : K) (rx : RRxn K)
    (hr : ∀ j ∈ rx.1, j < n) (hp : ∀ p ∈ rx.2, p.1 < n)
    (hbal : (rx.2.map fun p => w p.1 * p.2).sum = (rx.1.map w).sum) :
    ∑ i ∈ range n, w i * rd (rxnStep y f k rx) i = ∑ i ∈ range n, w i * rd f i := by
  unfold rxnStep
  simp only [sub_eq_add_neg]
  rw [wsum_foldl_wr_add w n (fun p : Nat × K => p.1) _ _ _ (by rw [foldl_wr_size]; exact hf) hp,
    wsum_foldl_wr_add w n (fun j : Nat => j) _ _ _ hf hr]
  simp only [← mul_assoc, sum_map_mul_right, hbal]
  ring

theorem wsum_forcingSpec (w : Nat → K) (n : Nat) (y : Array K) (rxns : List (RRxn K)) (ks : List K)
    (f : Array K) (hf : f.size = n)
    (hb : ∀ rx ∈ rxns, (∀ j ∈ rx.1, j < n) ∧ ∀ p ∈ rx.2, p.1 < n)
    (hbal : ∀ rx ∈ rxns, (rx.2.map fun p => w p.1 * p.2).sum = (rx.1.map w).sum) :
    ∑ i ∈ range n, w i * rd (forcingSpec y rxns ks f) i = ∑ i ∈ range n, w i * rd f i := by
  induction rxns generalizing ks f with
  | nil => simp
  | cons rx rest ih =>
    cases ks with
    | nil => simp
    | cons k ks =>
      rw [forcingSpec_cons,
        ih _ _ (by rw [rxnStep_size]; exact hf) (fun r hr => hb r (List.mem_cons_of_mem _ hr))
          (fun r hr => hbal r (List.mem_cons_of_mem _ hr)),
        wsum_rxnStep w n y f hf k rx (hb rx List.mem_cons_self).1 (hb rx List.mem_cons_self).2
          (hbal rx List.mem_cons_self)]

end Conservation
end Micm
