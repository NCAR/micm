/-
  C08 helper (symbolic): the textbook form of the two-stage Rosenbrock set, computed by the very same
  conversion `OrderCond.toTextbookK` that is evaluated on the generated tables, in closed form over an
  arbitrary field, for the formulas of `TwoStageRosenbrockParameters()`:
     a = 1/g,  c = −2/g,  m = (3/(2g), 1/(2g)),  e = (1/(2g), 1/(2g)),  γ = g.
-/
import Micm.Spec.OrderConditions
import Mathlib.Tactic.Ring
import Mathlib.Tactic.FieldSimp
import Mathlib.Algebra.Field.Basic

namespace Micm
namespace OrderCond

theorem range0 : List.range 0 = [] := rfl
theorem range1 : List.range 1 = [0] := rfl
theorem range2 : List.range 2 = [0, 1] := rfl

def ros2Textbook {K : Type} [Field K] (g : K) : Textbook K :=
  toTextbookK 2 [1 / g] [-2 / g] [3 / (2 * g), 1 / (2 * g)] [1 / (2 * g), 1 / (2 * g)] g

theorem ros2Textbook_eq {K : Type} [Field K] (g : K) (hg : g ≠ 0) (h2 : (2 : K) ≠ 0) :
    ros2Textbook g
      = { s := 2, g := g, Gam := [[g, 0], [-2 * g, g]], alpha := [[0, 0], [1, 0]],
          beta := [[0, 0], [1 - 2 * g, 0]], b := [1 / 2, 1 / 2], bh := [1, 0],
          al := [0, 1], be := [0, 1 - 2 * g], gs := [g, -g] } := by
  -- one pass: run the list program, decide the index tests, clear the `0`s and `1`s, cancel `g`
  simp only [ros2Textbook, toTextbookK, lowerInv, matMul, vecMat, mkMat, mkVec, sumTo, mget, vget,
    vsum, GinvEntry, AEntry, lt, range2, range1, range0, List.foldl_cons, List.foldl_nil,
    List.map_cons, List.map_nil, List.nil_append, List.cons_append, List.getD_cons_zero,
    List.getD_cons_succ, List.getD_nil,
    ↓reduceIte, Nat.lt_irrefl, Nat.zero_lt_one, Nat.not_lt_zero, zero_ne_one, one_ne_zero,
    Nat.sub_self, Nat.zero_div,
    sub_zero, zero_add, add_zero, mul_zero, zero_mul, sub_self, zero_sub, one_mul, div_one,
    neg_div, neg_neg, div_mul_cancel₀ _ hg, div_div_eq_mul_div,
    Textbook.mk.injEq, List.cons.injEq, and_true, true_and]
  have hβ : 1 + -2 * g = 1 - 2 * g := by ring
  have hm : 1 / (2 * g) * g = 1 / 2 := by field_simp
  refine ⟨hβ, ⟨?_, hm⟩, ?_, hβ, by ring⟩
  · field_simp; ring
  · field_simp; ring

end OrderCond
end Micm
