import Micm.Lemmas.LUCellBridge

/-!
Helpers for C03b / C04b: the separate-`L`/`U` decompositions when the lower and the upper matrix
use their own storage orders (`LinAlg.buildMixed kind jac cscL cscU`; e.g. `A` in CSR, `L` in CSC,
`U` in CSR).

The cell theorems `doolittleCell_view` / `mozartCell_view` / `solve_of_views` are parametric in the
pattern triple `(A, Lp, Up)`, and the triple built by `buildMixed` satisfies `LUSetup` / `MozSetup`
for every pair of orders (`LUSetup_buildMixed`, `MozSetup_buildMixed`).  `solveCell` is a function
of the logical views of its `L`/`U` arguments (`solveCell_sub`), which gives order-independence of
the solution itself (`solveCell_congr_views`).
-/
open Finset
namespace Micm

theorem buildMixed_of_ne_mozart (kind : LUKind) (hk : kind ≠ .mozart) (jac : Pattern)
    (cscL cscU : Bool) :
    LinAlg.buildMixed kind jac cscL cscU = LinAlg.buildMixed .doolittle jac cscL cscU := by
  cases kind
  · rfl
  · exact absurd rfl hk
  · rfl
  · rfl

theorem buildMixed_doolittle_tables (jac : Pattern) (cscL cscU : Bool) :
    (LinAlg.buildMixed .doolittle jac cscL cscU).kind = .doolittle ∧
    (LinAlg.buildMixed .doolittle jac cscL cscU).A = jac ∧
    (LinAlg.buildMixed .doolittle jac cscL cscU).Lp
      = Pattern.mk' jac.n cscL jac.L (doolittleSymbolic jac.n (fun r c => jac.zero? r c)).1 ∧
    (LinAlg.buildMixed .doolittle jac cscL cscU).Up
      = Pattern.mk' jac.n cscU jac.L (doolittleSymbolic jac.n (fun r c => jac.zero? r c)).2 ∧
    (LinAlg.buildMixed .doolittle jac cscL cscU).dRows
      = doolittleRows jac (LinAlg.buildMixed .doolittle jac cscL cscU).Lp
          (LinAlg.buildMixed .doolittle jac cscL cscU).Up ∧
    ((LinAlg.buildMixed .doolittle jac cscL cscU).fw, (LinAlg.buildMixed .doolittle jac cscL cscU).bw)
      = solverRows (LinAlg.buildMixed .doolittle jac cscL cscU).Lp
          (LinAlg.buildMixed .doolittle jac cscL cscU).Up :=
  ⟨rfl, rfl, rfl, rfl, rfl, rfl⟩

theorem buildMixed_mozart_tables (jac : Pattern) (cscL cscU : Bool) :
    (LinAlg.buildMixed .mozart jac cscL cscU).kind = .mozart ∧
    (LinAlg.buildMixed .mozart jac cscL cscU).A = jac ∧
    (LinAlg.buildMixed .mozart jac cscL cscU).Lp
      = Pattern.mk' jac.n cscL jac.L (mozartSymbolic jac.n (fun r c => jac.zero? r c)).1 ∧
    (LinAlg.buildMixed .mozart jac cscL cscU).Up
      = Pattern.mk' jac.n cscU jac.L (mozartSymbolic jac.n (fun r c => jac.zero? r c)).2 ∧
    (LinAlg.buildMixed .mozart jac cscL cscU).mInit
      = mozartInit jac (LinAlg.buildMixed .mozart jac cscL cscU).Lp
          (LinAlg.buildMixed .mozart jac cscL cscU).Up ∧
    (LinAlg.buildMixed .mozart jac cscL cscU).mRows
      = mozartRows jac (LinAlg.buildMixed .mozart jac cscL cscU).Lp
          (LinAlg.buildMixed .mozart jac cscL cscU).Up ∧
    ((LinAlg.buildMixed .mozart jac cscL cscU).fw, (LinAlg.buildMixed .mozart jac cscL cscU).bw)
      = solverRows (LinAlg.buildMixed .mozart jac cscL cscU).Lp
          (LinAlg.buildMixed .mozart jac cscL cscU).Up :=
  ⟨rfl, rfl, rfl, rfl, rfl, rfl, rfl⟩

theorem buildMixed_same_doolittle (jac : Pattern) :
    LinAlg.buildMixed .doolittle jac jac.csc jac.csc = LinAlg.build .doolittle jac := rfl

theorem buildMixed_same_mozart (jac : Pattern) :
    LinAlg.buildMixed .mozart jac jac.csc jac.csc = LinAlg.build .mozart jac := rfl

theorem buildMixed_Lp_n (kind : LUKind) (jac : Pattern) (cscL cscU : Bool) :
    (LinAlg.buildMixed kind jac cscL cscU).Lp.n = jac.n := by
  cases kind <;> rfl

theorem MozSetup_buildMixed_kind (kind : LUKind) (jac : Pattern) (cscL cscU : Bool)
    (hdiag : kind = .mozart → ∀ i, i < jac.n → jac.zero? i i = false) :
    MozSetup jac.n jac (LinAlg.buildMixed kind jac cscL cscU).Lp
      (LinAlg.buildMixed kind jac cscL cscU).Up := by
  by_cases hk : kind = .mozart
  · subst hk
    exact MozSetup_buildMixed jac cscL cscU (hdiag rfl)
  · rw [buildMixed_of_ne_mozart kind hk]
    exact (LUSetup_buildMixed jac cscL cscU).toMoz

theorem zero?_eq_of_iff {p q : Pattern} {r c : Nat}
    (h : p.zero? r c = false ↔ q.zero? r c = false) : p.zero? r c = q.zero? r c := by
  cases hp : p.zero? r c <;> cases hq : q.zero? r c <;> simp [hp, hq] at h ⊢

theorem buildMixed_zero?_indep (kind : LUKind) (jac : Pattern) (cscL cscU cscL' cscU' : Bool)
    (r c : Nat) :
    (LinAlg.buildMixed kind jac cscL cscU).Lp.zero? r c
        = (LinAlg.buildMixed kind jac cscL' cscU').Lp.zero? r c ∧
    (LinAlg.buildMixed kind jac cscL cscU).Up.zero? r c
        = (LinAlg.buildMixed kind jac cscL' cscU').Up.zero? r c := by
  by_cases hk : kind = .mozart
  · subst hk
    have hm := wf_mozartSymbolic jac.n (fun r c => jac.zero? r c)
    exact ⟨zero?_eq_of_iff ((zero?_mk_iff hm.1 cscL jac.L r c).trans
        (zero?_mk_iff hm.1 cscL' jac.L r c).symm),
      zero?_eq_of_iff ((zero?_mk_iff hm.2 cscU jac.L r c).trans
        (zero?_mk_iff hm.2 cscU' jac.L r c).symm)⟩
  · simp only [buildMixed_of_ne_mozart kind hk]
    have hd := wf_doolittleSymbolic jac.n (fun r c => jac.zero? r c)
    exact ⟨zero?_eq_of_iff ((zero?_mk_iff hd.1 cscL jac.L r c).trans
        (zero?_mk_iff hd.1 cscL' jac.L r c).symm),
      zero?_eq_of_iff ((zero?_mk_iff hd.2 cscU jac.L r c).trans
        (zero?_mk_iff hd.2 cscU' jac.L r c).symm)⟩

theorem buildMixed_nnz_indep (kind : LUKind) (jac : Pattern) (cscL cscU cscL' cscU' : Bool) :
    (LinAlg.buildMixed kind jac cscL cscU).Lp.nnz = (LinAlg.buildMixed kind jac cscL' cscU').Lp.nnz ∧
    (LinAlg.buildMixed kind jac cscL cscU).Up.nnz = (LinAlg.buildMixed kind jac cscL' cscU').Up.nnz := by
  by_cases hk : kind = .mozart
  · subst hk
    have hm := wf_mozartSymbolic jac.n (fun r c => jac.zero? r c)
    exact ⟨(nnz_mk hm.1 cscL jac.L).trans (nnz_mk hm.1 cscL' jac.L).symm,
      (nnz_mk hm.2 cscU jac.L).trans (nnz_mk hm.2 cscU' jac.L).symm⟩
  · simp only [buildMixed_of_ne_mozart kind hk]
    have hd := wf_doolittleSymbolic jac.n (fun r c => jac.zero? r c)
    exact ⟨(nnz_mk hd.1 cscL jac.L).trans (nnz_mk hd.1 cscL' jac.L).symm,
      (nnz_mk hd.2 cscU jac.L).trans (nnz_mk hd.2 cscU' jac.L).symm⟩

section cell
variable {K : Type} [Field K]

theorem buildMixed_doolittle_view (jac : Pattern) (cscL cscU : Bool) (a l0 u0 : Array K)
    (hLs : l0.size = (LinAlg.buildMixed .doolittle jac cscL cscU).Lp.nnz)
    (hUs : u0.size = (LinAlg.buildMixed .doolittle jac cscL cscU).Up.nnz) :
    ∀ r c, r < jac.n → c < jac.n →
      view (LinAlg.buildMixed .doolittle jac cscL cscU).Lp
          (doolittleCell (LinAlg.buildMixed .doolittle jac cscL cscU).dRows a (l0, u0)).1 r c
        = (DenseLU.lu (view jac a) jac.n).L r c ∧
      view (LinAlg.buildMixed .doolittle jac cscL cscU).Up
          (doolittleCell (LinAlg.buildMixed .doolittle jac cscL cscU).dRows a (l0, u0)).2 r c
        = (DenseLU.lu (view jac a) jac.n).U r c :=
  doolittleCell_view (LUSetup_buildMixed jac cscL cscU) rfl a l0 u0 hLs hUs

theorem buildMixed_mozart_view (jac : Pattern) (cscL cscU : Bool)
    (hdiag : ∀ i, i < jac.n → jac.zero? i i = false) (a l0 u0 : Array K)
    (hLs : l0.size = (LinAlg.buildMixed .mozart jac cscL cscU).Lp.nnz)
    (hUs : u0.size = (LinAlg.buildMixed .mozart jac cscL cscU).Up.nnz) :
    ∀ r c, r < jac.n → c < jac.n →
      view (LinAlg.buildMixed .mozart jac cscL cscU).Lp
          (mozartCell (LinAlg.buildMixed .mozart jac cscL cscU).mInit
            (LinAlg.buildMixed .mozart jac cscL cscU).mRows a (l0, u0)).1 r c
        = (DenseLU.lu (view jac a) jac.n).L r c ∧
      view (LinAlg.buildMixed .mozart jac cscL cscU).Up
          (mozartCell (LinAlg.buildMixed .mozart jac cscL cscU).mInit
            (LinAlg.buildMixed .mozart jac cscL cscU).mRows a (l0, u0)).2 r c
        = (DenseLU.lu (view jac a) jac.n).U r c :=
  mozartCell_view (MozSetup_buildMixed jac cscL cscU hdiag) rfl a l0 u0 hLs hUs

/-- the decomposition kernel the record built by `buildMixed kind …` is run with:
    `mozartCell` on the Mozart tables for `.mozart`, `doolittleCell` on the Doolittle tables for
    every other kind (which `buildMixed` maps to Doolittle).  Only an abbreviation for theorem
    statements; it unfolds (`rfl`) to the model kernels, see `mixedCell_mozart`/`mixedCell_doolittle`. -/
@[reducible] def mixedCell (kind : LUKind) (la : LinAlg) (a : Array K) (LU : Array K × Array K) :
    Array K × Array K :=
  match kind with
  | .mozart => mozartCell la.mInit la.mRows a LU
  | _ => doolittleCell la.dRows a LU

theorem mixedCell_mozart (la : LinAlg) (a : Array K) (LU : Array K × Array K) :
    mixedCell .mozart la a LU = mozartCell la.mInit la.mRows a LU := rfl

theorem mixedCell_doolittle (la : LinAlg) (a : Array K) (LU : Array K × Array K) :
    mixedCell .doolittle la a LU = doolittleCell la.dRows a LU := rfl

theorem mixedCell_of_ne_mozart (kind : LUKind) (hk : kind ≠ .mozart) (la : LinAlg) (a : Array K)
    (LU : Array K × Array K) : mixedCell kind la a LU = doolittleCell la.dRows a LU := by
  cases kind
  · rfl
  · exact absurd rfl hk
  · rfl
  · rfl

/-- C03 core, every `kind`: views of the result = dense Doolittle factors of the view of `a` -/
theorem buildMixed_view (kind : LUKind) (jac : Pattern) (cscL cscU : Bool)
    (hdiag : kind = .mozart → ∀ i, i < jac.n → jac.zero? i i = false) (a l0 u0 : Array K)
    (hLs : l0.size = (LinAlg.buildMixed kind jac cscL cscU).Lp.nnz)
    (hUs : u0.size = (LinAlg.buildMixed kind jac cscL cscU).Up.nnz) :
    ∀ r c, r < jac.n → c < jac.n →
      view (LinAlg.buildMixed kind jac cscL cscU).Lp
          (mixedCell kind (LinAlg.buildMixed kind jac cscL cscU) a (l0, u0)).1 r c
        = (DenseLU.lu (view jac a) jac.n).L r c ∧
      view (LinAlg.buildMixed kind jac cscL cscU).Up
          (mixedCell kind (LinAlg.buildMixed kind jac cscL cscU) a (l0, u0)).2 r c
        = (DenseLU.lu (view jac a) jac.n).U r c := by
  by_cases hk : kind = .mozart
  · subst hk
    exact buildMixed_mozart_view jac cscL cscU (hdiag rfl) a l0 u0 hLs hUs
  · rw [mixedCell_of_ne_mozart kind hk]
    rw [buildMixed_of_ne_mozart kind hk] at hLs hUs ⊢
    exact buildMixed_doolittle_view jac cscL cscU a l0 u0 hLs hUs

theorem solveCell_congr_views (Lp Up Lp' Up' : Pattern) (L U L' U' x : Array K) (n : Nat)
    (hn : Lp.n = n) (hn' : Lp'.n = n) (hx : x.size = n)
    (hLd : ∀ i, i < n → Lp.zero? i i = false) (hLd' : ∀ i, i < n → Lp'.zero? i i = false)
    (hUd : ∀ i, i < n → Up.zero? i i = false) (hUd' : ∀ i, i < n → Up'.zero? i i = false)
    (hL : ∀ i j, i < n → j < n → view Lp L i j = view Lp' L' i j)
    (hU : ∀ i j, i < n → j < n → view Up U i j = view Up' U' i j) :
    solveCell (solverRows Lp Up).1 (solverRows Lp Up).2 L U x
      = solveCell (solverRows Lp' Up').1 (solverRows Lp' Up').2 L' U' x := by
  rw [solveCell_sub Lp Up L U x n hn hx, solveCell_sub Lp' Up' L' U' x n hn' hx,
    fsub_congr (C' := view Lp' L') (d' := fun i => rd L' (Lp'.rk i i)) n
      (fun i j hi hj => hL i j hi (by omega))
      (fun i hi => (view_present _ _ _ _ (hLd i hi)).symm.trans
        ((hL i i hi hi).trans (view_present _ _ _ _ (hLd' i hi))))]
  exact bsub_congr n n (fun i j hi _ hj => hU i j hi hj)
    (fun i hi => (view_present _ _ _ _ (hUd i hi)).symm.trans
      ((hU i i hi hi).trans (view_present _ _ _ _ (hUd' i hi)))) _

theorem buildMixed_fw_bw (kind : LUKind) (jac : Pattern) (cscL cscU : Bool) :
    (LinAlg.buildMixed kind jac cscL cscU).fw
      = (solverRows (LinAlg.buildMixed kind jac cscL cscU).Lp
          (LinAlg.buildMixed kind jac cscL cscU).Up).1 ∧
    (LinAlg.buildMixed kind jac cscL cscU).bw
      = (solverRows (LinAlg.buildMixed kind jac cscL cscU).Lp
          (LinAlg.buildMixed kind jac cscL cscU).Up).2 := by
  by_cases hk : kind = .mozart
  · subst hk
    have h := (buildMixed_mozart_tables jac cscL cscU).2.2.2.2.2.2
    exact ⟨congrArg Prod.fst h, congrArg Prod.snd h⟩
  · rw [buildMixed_of_ne_mozart kind hk]
    have h := (buildMixed_doolittle_tables jac cscL cscU).2.2.2.2.2
    exact ⟨congrArg Prod.fst h, congrArg Prod.snd h⟩

/-- C04 core: `Factor; Solve` with the tables of `buildMixed` solves `A x = b` -/
theorem buildMixed_solve (kind : LUKind) (jac : Pattern) (cscL cscU : Bool)
    (hdiag : kind = .mozart → ∀ i, i < jac.n → jac.zero? i i = false) (a l0 u0 b : Array K)
    (hLs : l0.size = (LinAlg.buildMixed kind jac cscL cscU).Lp.nnz)
    (hUs : u0.size = (LinAlg.buildMixed kind jac cscL cscU).Up.nnz) (hb : b.size = jac.n)
    (hpiv : ∀ i, i < jac.n → view (LinAlg.buildMixed kind jac cscL cscU).Up
      (mixedCell kind (LinAlg.buildMixed kind jac cscL cscU) a (l0, u0)).2 i i ≠ 0) :
    ∀ i, i < jac.n →
      ∑ j ∈ range jac.n, view jac a i j *
        rd (solveCell (LinAlg.buildMixed kind jac cscL cscU).fw
          (LinAlg.buildMixed kind jac cscL cscU).bw
          (mixedCell kind (LinAlg.buildMixed kind jac cscL cscU) a (l0, u0)).1
          (mixedCell kind (LinAlg.buildMixed kind jac cscL cscU) a (l0, u0)).2 b) j = rd b i := by
  rw [(buildMixed_fw_bw kind jac cscL cscU).1, (buildMixed_fw_bw kind jac cscL cscU).2]
  exact solve_of_views _ _ _ _ b jac.n (view jac a) (buildMixed_Lp_n kind jac cscL cscU) hb
    (buildMixed_view kind jac cscL cscU hdiag a l0 u0 hLs hUs) hpiv

theorem buildMixed_solve_indep (kind : LUKind) (jac : Pattern) (cscL cscU cscL' cscU' : Bool)
    (hdiag : kind = .mozart → ∀ i, i < jac.n → jac.zero? i i = false)
    (a l0 u0 l0' u0' b : Array K)
    (hLs : l0.size = (LinAlg.buildMixed kind jac cscL cscU).Lp.nnz)
    (hUs : u0.size = (LinAlg.buildMixed kind jac cscL cscU).Up.nnz)
    (hLs' : l0'.size = (LinAlg.buildMixed kind jac cscL' cscU').Lp.nnz)
    (hUs' : u0'.size = (LinAlg.buildMixed kind jac cscL' cscU').Up.nnz) (hb : b.size = jac.n) :
    solveCell (LinAlg.buildMixed kind jac cscL cscU).fw (LinAlg.buildMixed kind jac cscL cscU).bw
        (mixedCell kind (LinAlg.buildMixed kind jac cscL cscU) a (l0, u0)).1
        (mixedCell kind (LinAlg.buildMixed kind jac cscL cscU) a (l0, u0)).2 b
      = solveCell (LinAlg.buildMixed kind jac cscL' cscU').fw
        (LinAlg.buildMixed kind jac cscL' cscU').bw
        (mixedCell kind (LinAlg.buildMixed kind jac cscL' cscU') a (l0', u0')).1
        (mixedCell kind (LinAlg.buildMixed kind jac cscL' cscU') a (l0', u0')).2 b := by
  have hs := MozSetup_buildMixed_kind kind jac cscL cscU hdiag
  have hs' := MozSetup_buildMixed_kind kind jac cscL' cscU' hdiag
  have hv := buildMixed_view kind jac cscL cscU hdiag a l0 u0 hLs hUs
  have hv' := buildMixed_view kind jac cscL' cscU' hdiag a l0' u0' hLs' hUs'
  rw [(buildMixed_fw_bw kind jac cscL cscU).1, (buildMixed_fw_bw kind jac cscL cscU).2,
    (buildMixed_fw_bw kind jac cscL' cscU').1, (buildMixed_fw_bw kind jac cscL' cscU').2]
  exact solveCell_congr_views _ _ _ _ _ _ _ _ b jac.n
    (buildMixed_Lp_n kind jac cscL cscU) (buildMixed_Lp_n kind jac cscL' cscU') hb
    hs.diagL hs'.diagL
    (fun i hi => (pres_true _ _ _).mp (hs.closed.diagU i hi))
    (fun i hi => (pres_true _ _ _).mp (hs'.closed.diagU i hi))
    (fun i j hi hj => (hv i j hi hj).1.trans (hv' i j hi hj).1.symm)
    (fun i j hi hj => (hv i j hi hj).2.trans (hv' i j hi hj).2.symm)

end cell

end Micm
