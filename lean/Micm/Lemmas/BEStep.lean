/-
One iteration of the flattened backward-Euler loop (`beStep`) taken apart: the loop head, the Newton
update, then continue / give up / retry / accept.  The equations `beStep_of_*` give the next state as a
composition of these pieces, one per case; `beStep_cases` collects them into a five-way view, and
`beStep_spec` gives the same five cases with the next state as an explicit record over the old one,
so that a field of the next state is read off by `rfl`.
Core Lean only.
-/
import Micm.Model.BackwardEuler

namespace Micm
set_option linter.unusedSectionVars false

section BE
variable {α : Type} [OfNat α 0] [OfNat α 1] [OfNat α 2] [Add α] [Sub α] [Mul α] [Div α]
variable (o : Ops α) (s : SolverCfg α) (p : BEParams α) (kc : Mat α) (atol : Array α) (rtol : α)
    (timeStep : α)

/-- the `while (t < time_step)` test, made only at the start of an outer iteration -/
def beHead (r : BEState α) : BEState α :=
  if r.iterations = 0 then
    (if o.lt r.t timeStep then { r with status := .running } else { r with done := true })
  else r

def beForcing (r : BEState α) : Mat α := s.forcing kc r.Yn1 (fillM r.sc.f0 0)
def beMatrix (r : BEState α) : Mat α :=
  addDiag s.diag (s.jacobian kc r.Yn1 (fillM r.sc.jac 0)) (1 / r.h)
def beFactor (r : BEState α) : Mat α × Mat α × Mat α :=
  s.factor (beMatrix s kc r) r.sc.lower r.sc.upper
/-- the Newton update `(I/h − J)⁻¹ (f − (yₙ₊₁ − yₙ)/h)` -/
def beResidual (r : BEState α) : Mat α :=
  s.linSolve (beFactor s kc r).1 (beFactor s kc r).2.1 (beFactor s kc r).2.2
    ((beForcing s kc r).mapIdx fun c fr => fr.mapIdx fun v f =>
      f - (rd (r.Yn1.getD c #[]) v - rd (r.Yn.getD c #[]) v) / r.h)
def beNewY (r : BEState α) : Mat α :=
  r.Yn1.mapIdx fun c yr => yr.mapIdx fun v y => cmax o (y + rd ((beResidual s kc r).getD c #[]) v) 0
def beConv (r : BEState α) : Bool :=
  if r.iterations = 0 then false
  else beIsConverged o p.small atol rtol (beResidual s kc r) (beNewY o s kc r)
def beNewton (r : BEState α) : BEState α :=
  { r with Yn1 := beNewY o s kc r,
           stats := { r.stats with numberOfSteps := r.stats.numberOfSteps + 1,
                                   functionCalls := r.stats.functionCalls + 1,
                                   jacobianUpdates := r.stats.jacobianUpdates + 1,
                                   decompositions := r.stats.decompositions + 1,
                                   solves := r.stats.solves + 1 },
           sc := { r.sc with f0 := beResidual s kc r, jac := (beFactor s kc r).1,
                             lower := (beFactor s kc r).2.1, upper := (beFactor s kc r).2.2 },
           iterations := r.iterations + 1,
           trace := { h := r.h, matrix := beMatrix s kc r : BEIter α } :: r.trace }

/-- tail of an outer iteration whose inner loop did not converge -/
def beReject (r : BEState α) : BEState α :=
  let r := { r with iterations := 0 }
  let st := { r.stats with rejected := r.stats.rejected + 1 }
  if r.nFail ≥ p.reductions.length then
    { r with stats := st, nSucc := 0, t := r.t + r.h, status := .acceptingUnconvergedIntegration, done := true }
  else
    let h := r.h * p.reductions.getD r.nFail 1
    let r := { r with stats := st, nSucc := 0, Yn1 := r.Yn, h, nFail := r.nFail + 1 }
    { r with h := cmin o r.h (timeStep - r.t) }

/-- tail of an outer iteration whose inner loop converged -/
def beAccept (r : BEState α) : BEState α :=
  let r := { r with iterations := 0 }
  let st := { r.stats with accepted := r.stats.accepted + 1 }
  let t := r.t + r.h
  let nS := r.nSucc + 1
  let nh : Nat × α := if nS ≥ 2 then (0, r.h * 2) else (nS, r.h)
  { r with stats := st, status := .converged, t, Yn := r.Yn1, nSucc := nh.1, h := cmin o nh.2 (timeStep - t) }

theorem beStep_eq (r : BEState α) :
    beStep o s p kc atol rtol timeStep r =
      let r1 := beHead o timeStep r
      if r1.done then r1
      else if !(beConv o s p kc atol rtol r1) && r1.iterations + 1 < p.maxSteps then beNewton o s kc r1
      else if !(beConv o s p kc atol rtol r1) then beReject o p timeStep (beNewton o s kc r1)
      else beAccept o timeStep (beNewton o s kc r1) := by
  rfl

theorem beHead_cases (r : BEState α) :
    (r.iterations = 0 ∧ o.lt r.t timeStep = true ∧ beHead o timeStep r = { r with status := .running }) ∨
    (r.iterations = 0 ∧ o.lt r.t timeStep = false ∧ beHead o timeStep r = { r with done := true }) ∨
    (r.iterations ≠ 0 ∧ beHead o timeStep r = r) := by
  unfold beHead
  by_cases h0 : r.iterations = 0
  · rw [if_pos h0]
    cases hl : o.lt r.t timeStep
    · exact Or.inr (Or.inl ⟨h0, rfl, rfl⟩)
    · exact Or.inl ⟨h0, rfl, rfl⟩
  · rw [if_neg h0]; exact Or.inr (Or.inr ⟨h0, rfl⟩)

theorem beHead_status (r : BEState α) :
    (beHead o timeStep r).status = .running ∨ (beHead o timeStep r).done = true ∨
    (r.iterations ≠ 0 ∧ (beHead o timeStep r) = r) := by
  rcases beHead_cases o timeStep r with ⟨_, _, e⟩ | ⟨_, _, e⟩ | h
  · rw [e]; exact Or.inl rfl
  · rw [e]; exact Or.inr (Or.inl rfl)
  · exact Or.inr (Or.inr h)

end BE

section Step
variable {α : Type} [OfNat α 0] [OfNat α 1] [OfNat α 2] [Add α] [Sub α] [Mul α] [Div α]
variable (o : Ops α) (s : SolverCfg α) (p : BEParams α) (kc : Mat α) (atol : Array α) (rtol : α)
    (T : α)

theorem beHead_of_ne_zero (r : BEState α) (h : r.iterations ≠ 0) : beHead o T r = r := if_neg h

theorem beHead_eq (r : BEState α) :
    beHead o T r =
      { r with status := if r.iterations = 0 ∧ o.lt r.t T = true then .running else r.status,
               done := r.done || (decide (r.iterations = 0) && !o.lt r.t T) } := by
  unfold beHead
  by_cases h0 : r.iterations = 0
  · cases hl : o.lt r.t T <;> simp [h0]
  · simp [h0]

@[simp] theorem beHead_Yn1 (r : BEState α) : (beHead o T r).Yn1 = r.Yn1 := by rw [beHead_eq]
@[simp] theorem beHead_Yn (r : BEState α) : (beHead o T r).Yn = r.Yn := by rw [beHead_eq]
@[simp] theorem beHead_t (r : BEState α) : (beHead o T r).t = r.t := by rw [beHead_eq]
@[simp] theorem beHead_h (r : BEState α) : (beHead o T r).h = r.h := by rw [beHead_eq]
@[simp] theorem beHead_nSucc (r : BEState α) : (beHead o T r).nSucc = r.nSucc := by rw [beHead_eq]
@[simp] theorem beHead_nFail (r : BEState α) : (beHead o T r).nFail = r.nFail := by rw [beHead_eq]
@[simp] theorem beHead_iterations (r : BEState α) : (beHead o T r).iterations = r.iterations := by
  rw [beHead_eq]
@[simp] theorem beHead_stats (r : BEState α) : (beHead o T r).stats = r.stats := by rw [beHead_eq]
@[simp] theorem beHead_sc (r : BEState α) : (beHead o T r).sc = r.sc := by rw [beHead_eq]
@[simp] theorem beHead_trace (r : BEState α) : (beHead o T r).trace = r.trace := by rw [beHead_eq]

theorem beHead_status_eq (r : BEState α) :
    (beHead o T r).status = if r.iterations = 0 ∧ o.lt r.t T = true then .running else r.status := by
  rw [beHead_eq]

theorem beHead_done (r : BEState α) (hd : r.done = false) :
    (beHead o T r).done = (decide (r.iterations = 0) && !o.lt r.t T) := by
  rw [beHead_eq]; simp [hd]

@[simp] theorem beMatrix_head (r : BEState α) : beMatrix s kc (beHead o T r) = beMatrix s kc r := by
  rw [beHead_eq]; rfl
@[simp] theorem beForcing_head (r : BEState α) : beForcing s kc (beHead o T r) = beForcing s kc r := by
  rw [beHead_eq]; rfl
@[simp] theorem beFactor_head (r : BEState α) : beFactor s kc (beHead o T r) = beFactor s kc r := by
  rw [beHead_eq]; rfl
@[simp] theorem beResidual_head (r : BEState α) :
    beResidual s kc (beHead o T r) = beResidual s kc r := by
  rw [beHead_eq]; rfl
@[simp] theorem beNewY_head (r : BEState α) : beNewY o s kc (beHead o T r) = beNewY o s kc r := by
  rw [beHead_eq]; rfl
@[simp] theorem beConv_head (r : BEState α) :
    beConv o s p kc atol rtol (beHead o T r) = beConv o s p kc atol rtol r := by
  rw [beHead_eq]; rfl

/-- `n_convergence_failures >= time_step_reductions.size()`: accept the un-converged `H`, stop -/
def beGiveUp (r : BEState α) : BEState α :=
  { r with iterations := 0, stats := { r.stats with rejected := r.stats.rejected + 1 }, nSucc := 0,
           t := r.t + r.h, status := .acceptingUnconvergedIntegration, done := true }

def beRetry (r : BEState α) : BEState α :=
  { r with iterations := 0, stats := { r.stats with rejected := r.stats.rejected + 1 }, nSucc := 0,
           Yn1 := r.Yn, h := cmin o (r.h * p.reductions.getD r.nFail 1) (T - r.t),
           nFail := r.nFail + 1 }

theorem beReject_eq (r : BEState α) :
    beReject o p T r = if p.reductions.length ≤ r.nFail then beGiveUp r else beRetry o p T r := by
  unfold beReject beGiveUp beRetry
  simp only [ge_iff_le]

theorem beAccept_eq (r : BEState α) :
    beAccept o T r =
      { r with iterations := 0, stats := { r.stats with accepted := r.stats.accepted + 1 },
               status := .converged, t := r.t + r.h, Yn := r.Yn1,
               nSucc := if r.nSucc + 1 ≥ 2 then 0 else r.nSucc + 1,
               h := cmin o (if r.nSucc + 1 ≥ 2 then r.h * 2 else r.h) (T - (r.t + r.h)) } := by
  unfold beAccept
  simp only []
  split <;> rfl

theorem beStep_of_exit (r : BEState α) (hd : (beHead o T r).done = true) :
    beStep o s p kc atol rtol T r = beHead o T r := by
  rw [beStep_eq]; simp [hd]

theorem beStep_of_cont (r : BEState α) (hd : (beHead o T r).done = false)
    (hc : beConv o s p kc atol rtol r = false) (hm : r.iterations + 1 < p.maxSteps) :
    beStep o s p kc atol rtol T r = beNewton o s kc (beHead o T r) := by
  rw [beStep_eq]; simp [hd, hc, hm]

theorem beStep_of_giveUp (r : BEState α) (hd : (beHead o T r).done = false)
    (hc : beConv o s p kc atol rtol r = false) (hm : ¬ r.iterations + 1 < p.maxSteps)
    (hf : p.reductions.length ≤ r.nFail) :
    beStep o s p kc atol rtol T r = beGiveUp (beNewton o s kc (beHead o T r)) := by
  rw [beStep_eq]; simp [hd, hc, hm, hf, beReject_eq, beNewton]

theorem beStep_of_retry (r : BEState α) (hd : (beHead o T r).done = false)
    (hc : beConv o s p kc atol rtol r = false) (hm : ¬ r.iterations + 1 < p.maxSteps)
    (hf : r.nFail < p.reductions.length) :
    beStep o s p kc atol rtol T r = beRetry o p T (beNewton o s kc (beHead o T r)) := by
  rw [beStep_eq]; simp [hd, hc, hm, Nat.not_le.mpr hf, beReject_eq, beNewton]

theorem beStep_of_accept (r : BEState α) (hd : (beHead o T r).done = false)
    (hc : beConv o s p kc atol rtol r = true) :
    beStep o s p kc atol rtol T r = beAccept o T (beNewton o s kc (beHead o T r)) := by
  rw [beStep_eq]; simp [hd, hc]

inductive BEStepCase (r : BEState α) : BEState α → Prop
  | exit : (beHead o T r).done = true → BEStepCase r (beHead o T r)
  | cont : (beHead o T r).done = false → beConv o s p kc atol rtol r = false →
      r.iterations + 1 < p.maxSteps → BEStepCase r (beNewton o s kc (beHead o T r))
  | giveUp : (beHead o T r).done = false → beConv o s p kc atol rtol r = false →
      ¬ r.iterations + 1 < p.maxSteps → p.reductions.length ≤ r.nFail →
      BEStepCase r (beGiveUp (beNewton o s kc (beHead o T r)))
  | retry : (beHead o T r).done = false → beConv o s p kc atol rtol r = false →
      ¬ r.iterations + 1 < p.maxSteps → r.nFail < p.reductions.length →
      BEStepCase r (beRetry o p T (beNewton o s kc (beHead o T r)))
  | accept : (beHead o T r).done = false → beConv o s p kc atol rtol r = true →
      BEStepCase r (beAccept o T (beNewton o s kc (beHead o T r)))

theorem beStep_cases (r : BEState α) :
    BEStepCase o s p kc atol rtol T r (beStep o s p kc atol rtol T r) := by
  cases hd : (beHead o T r).done
  · cases hc : beConv o s p kc atol rtol r
    · by_cases hm : r.iterations + 1 < p.maxSteps
      · rw [beStep_of_cont o s p kc atol rtol T r hd hc hm]; exact .cont hd hc hm
      · by_cases hf : p.reductions.length ≤ r.nFail
        · rw [beStep_of_giveUp o s p kc atol rtol T r hd hc hm hf]; exact .giveUp hd hc hm hf
        · have hf := Nat.lt_of_not_le hf
          rw [beStep_of_retry o s p kc atol rtol T r hd hc hm hf]; exact .retry hd hc hm hf
    · rw [beStep_of_accept o s p kc atol rtol T r hd hc]; exact .accept hd hc
  · rw [beStep_of_exit o s p kc atol rtol T r hd]; exact .exit hd

def beIter (r : BEState α) : BEIter α := { h := r.h, matrix := beMatrix s kc r }

theorem beNewton_head (r : BEState α) :
    beNewton o s kc (beHead o T r) =
      { r with status := (beHead o T r).status, done := (beHead o T r).done, Yn1 := beNewY o s kc r,
               stats := { r.stats with numberOfSteps := r.stats.numberOfSteps + 1,
                                       functionCalls := r.stats.functionCalls + 1,
                                       jacobianUpdates := r.stats.jacobianUpdates + 1,
                                       decompositions := r.stats.decompositions + 1,
                                       solves := r.stats.solves + 1 },
               sc := { r.sc with f0 := beResidual s kc r, jac := (beFactor s kc r).1,
                                 lower := (beFactor s kc r).2.1, upper := (beFactor s kc r).2.2 },
               iterations := r.iterations + 1, trace := beIter s kc r :: r.trace } := by
  unfold beNewton beIter
  simp only [beNewY_head, beResidual_head, beFactor_head, beMatrix_head, beHead_Yn, beHead_t, beHead_h,
    beHead_nSucc, beHead_nFail, beHead_iterations, beHead_stats, beHead_sc, beHead_trace]

/-- only the status left by the loop head (`running` at the start of an outer iteration, else
    unchanged) stays under its name -/
inductive BEStepSpec (r : BEState α) : BEState α → Prop
  | exit : (beHead o T r).done = true →
      BEStepSpec r { r with status := (beHead o T r).status, done := true }
  | cont : (beHead o T r).done = false → beConv o s p kc atol rtol r = false →
      r.iterations + 1 < p.maxSteps →
      BEStepSpec r
        { r with status := (beHead o T r).status, done := false, Yn1 := beNewY o s kc r,
                 stats := { r.stats with numberOfSteps := r.stats.numberOfSteps + 1,
                                         functionCalls := r.stats.functionCalls + 1,
                                         jacobianUpdates := r.stats.jacobianUpdates + 1,
                                         decompositions := r.stats.decompositions + 1,
                                         solves := r.stats.solves + 1 },
                 sc := { r.sc with f0 := beResidual s kc r, jac := (beFactor s kc r).1,
                                   lower := (beFactor s kc r).2.1, upper := (beFactor s kc r).2.2 },
                 iterations := r.iterations + 1, trace := beIter s kc r :: r.trace }
  | giveUp : (beHead o T r).done = false → beConv o s p kc atol rtol r = false →
      ¬ r.iterations + 1 < p.maxSteps → p.reductions.length ≤ r.nFail →
      BEStepSpec r
        { r with status := .acceptingUnconvergedIntegration, done := true, Yn1 := beNewY o s kc r,
                 t := r.t + r.h, nSucc := 0,
                 stats := { r.stats with numberOfSteps := r.stats.numberOfSteps + 1,
                                         functionCalls := r.stats.functionCalls + 1,
                                         jacobianUpdates := r.stats.jacobianUpdates + 1,
                                         decompositions := r.stats.decompositions + 1,
                                         solves := r.stats.solves + 1,
                                         rejected := r.stats.rejected + 1 },
                 sc := { r.sc with f0 := beResidual s kc r, jac := (beFactor s kc r).1,
                                   lower := (beFactor s kc r).2.1, upper := (beFactor s kc r).2.2 },
                 iterations := 0, trace := beIter s kc r :: r.trace }
  | retry : (beHead o T r).done = false → beConv o s p kc atol rtol r = false →
      ¬ r.iterations + 1 < p.maxSteps → r.nFail < p.reductions.length →
      BEStepSpec r
        { r with status := (beHead o T r).status, done := false, Yn1 := r.Yn,
                 h := cmin o (r.h * p.reductions.getD r.nFail 1) (T - r.t), nSucc := 0,
                 nFail := r.nFail + 1,
                 stats := { r.stats with numberOfSteps := r.stats.numberOfSteps + 1,
                                         functionCalls := r.stats.functionCalls + 1,
                                         jacobianUpdates := r.stats.jacobianUpdates + 1,
                                         decompositions := r.stats.decompositions + 1,
                                         solves := r.stats.solves + 1,
                                         rejected := r.stats.rejected + 1 },
                 sc := { r.sc with f0 := beResidual s kc r, jac := (beFactor s kc r).1,
                                   lower := (beFactor s kc r).2.1, upper := (beFactor s kc r).2.2 },
                 iterations := 0, trace := beIter s kc r :: r.trace }
  | accept : (beHead o T r).done = false → beConv o s p kc atol rtol r = true →
      BEStepSpec r
        { r with status := .converged, done := false, Yn1 := beNewY o s kc r, Yn := beNewY o s kc r,
                 t := r.t + r.h,
                 h := cmin o (if r.nSucc + 1 ≥ 2 then r.h * 2 else r.h) (T - (r.t + r.h)),
                 nSucc := if r.nSucc + 1 ≥ 2 then 0 else r.nSucc + 1,
                 stats := { r.stats with numberOfSteps := r.stats.numberOfSteps + 1,
                                         functionCalls := r.stats.functionCalls + 1,
                                         jacobianUpdates := r.stats.jacobianUpdates + 1,
                                         decompositions := r.stats.decompositions + 1,
                                         solves := r.stats.solves + 1,
                                         accepted := r.stats.accepted + 1 },
                 sc := { r.sc with f0 := beResidual s kc r, jac := (beFactor s kc r).1,
                                   lower := (beFactor s kc r).2.1, upper := (beFactor s kc r).2.2 },
                 iterations := 0, trace := beIter s kc r :: r.trace }

theorem beStep_spec (r : BEState α) :
    BEStepSpec o s p kc atol rtol T r (beStep o s p kc atol rtol T r) := by
  have hc := beStep_cases o s p kc atol rtol T r
  generalize beStep o s p kc atol rtol T r = r' at hc ⊢
  cases hc with
  | exit h =>
    have e : beHead o T r =
        { r with status := (beHead o T r).status, done := (beHead o T r).done } := by rw [beHead_eq]
    rw [e, h]; exact .exit h
  | cont h hc hm => rw [beNewton_head, h]; exact .cont h hc hm
  | giveUp h hc hm hf => rw [beNewton_head, h]; exact .giveUp h hc hm hf
  | retry h hc hm hf => rw [beNewton_head, h]; exact .retry h hc hm hf
  | accept h hc => rw [beAccept_eq, beNewton_head, h]; exact .accept h hc

theorem beConv_first (r : BEState α) (h : r.iterations = 0) :
    beConv o s p kc atol rtol r = false := by
  unfold beConv; rw [if_pos h]

theorem beStep_trace (r : BEState α) :
    (beStep o s p kc atol rtol T r).trace =
      if (beHead o T r).done then r.trace else beIter s kc r :: r.trace := by
  have hs := beStep_spec o s p kc atol rtol T r
  generalize beStep o s p kc atol rtol T r = r' at hs ⊢
  cases hs with
  | exit h => exact (if_pos h).symm
  | cont h => rw [h]; rfl
  | giveUp h => rw [h]; rfl
  | retry h => rw [h]; rfl
  | accept h => rw [h]; rfl

/-- `forcing_` (`f0`) then holds the Newton update, the sparse buffers the factorisation -/
theorem beStep_sc (r : BEState α) (hd : (beHead o T r).done = false) :
    (beStep o s p kc atol rtol T r).sc =
      { r.sc with f0 := beResidual s kc r, jac := (beFactor s kc r).1,
                  lower := (beFactor s kc r).2.1, upper := (beFactor s kc r).2.2 } := by
  have hs := beStep_spec o s p kc atol rtol T r
  generalize beStep o s p kc atol rtol T r = r' at hs ⊢
  cases hs with
  | exit h => rw [hd] at h; cases h
  | cont => rfl
  | giveUp => rfl
  | retry => rfl
  | accept => rfl

theorem beStep_Yn1 (r : BEState α) (hd : (beHead o T r).done = false) :
    (beStep o s p kc atol rtol T r).Yn1 =
      if beConv o s p kc atol rtol r = false ∧ ¬ r.iterations + 1 < p.maxSteps ∧
         r.nFail < p.reductions.length then r.Yn else beNewY o s kc r := by
  have hs := beStep_spec o s p kc atol rtol T r
  generalize beStep o s p kc atol rtol T r = r' at hs ⊢
  cases hs with
  | exit h => rw [hd] at h; cases h
  | cont _ _ h2 => exact (if_neg fun h => h.2.1 h2).symm
  | giveUp _ _ _ h3 => exact (if_neg fun h => Nat.not_lt.mpr h3 h.2.2).symm
  | retry _ h1 h2 h3 => exact (if_pos ⟨h1, h2, h3⟩).symm
  | accept _ h1 => exact (if_neg fun h => by rw [h1] at h; cases h.1).symm

theorem beStep_Yn (r : BEState α) :
    ((beStep o s p kc atol rtol T r).Yn = r.Yn ∧
      (beStep o s p kc atol rtol T r).stats.accepted = r.stats.accepted) ∨
    ((beStep o s p kc atol rtol T r).Yn = (beStep o s p kc atol rtol T r).Yn1 ∧
      (beStep o s p kc atol rtol T r).stats.accepted = r.stats.accepted + 1 ∧
      (beStep o s p kc atol rtol T r).status = .converged) := by
  have hs := beStep_spec o s p kc atol rtol T r
  generalize beStep o s p kc atol rtol T r = r' at hs ⊢
  cases hs with
  | accept => exact Or.inr ⟨rfl, rfl, rfl⟩
  | _ => exact Or.inl ⟨rfl, rfl⟩

theorem beStep_retry_of_rejected (r : BEState α)
    (h1 : (beStep o s p kc atol rtol T r).stats.rejected = r.stats.rejected + 1)
    (h2 : (beStep o s p kc atol rtol T r).done = false) :
    (beHead o T r).done = false ∧ beConv o s p kc atol rtol r = false ∧
    ¬ r.iterations + 1 < p.maxSteps ∧ r.nFail < p.reductions.length := by
  have hs := beStep_spec o s p kc atol rtol T r
  generalize beStep o s p kc atol rtol T r = r' at hs h1 h2
  cases hs with
  | exit => exact absurd h1 (Nat.ne_of_lt (Nat.lt_succ_self _))
  | cont => exact absurd h1 (Nat.ne_of_lt (Nat.lt_succ_self _))
  | giveUp => cases h2
  | retry a b c d => exact ⟨a, b, c, d⟩
  | accept => exact absurd h1 (Nat.ne_of_lt (Nat.lt_succ_self _))

theorem beStep_of_not_conv (r : BEState α)
    (h : beConv o s p kc atol rtol (beHead o T r) = false) :
    (beStep o s p kc atol rtol T r).stats.accepted = r.stats.accepted ∧
    (beStep o s p kc atol rtol T r).Yn = r.Yn ∧
    ((beStep o s p kc atol rtol T r).status = (beHead o T r).status ∨
     (beStep o s p kc atol rtol T r).status = .acceptingUnconvergedIntegration) := by
  rw [beConv_head] at h
  have hs := beStep_spec o s p kc atol rtol T r
  generalize beStep o s p kc atol rtol T r = r' at hs ⊢
  cases hs with
  | giveUp => exact ⟨rfl, rfl, Or.inr rfl⟩
  | accept _ hc => rw [h] at hc; cases hc
  | _ => exact ⟨rfl, rfl, Or.inl rfl⟩

theorem beLoop_zero (r : BEState α) :
    beLoop o s p kc atol rtol T 0 r = if r.done then r else { r with status := .outOfFuel } := rfl

theorem beLoop_succ (fuel : Nat) (r : BEState α) :
    beLoop o s p kc atol rtol T (fuel + 1) r =
      if r.done then r else beLoop o s p kc atol rtol T fuel (beStep o s p kc atol rtol T r) := rfl

theorem beLoop_inv' (P : BEState α → Prop)
    (hstep : ∀ r, r.done = false → P r → P (beStep o s p kc atol rtol T r))
    (fuel : Nat) (r : BEState α) (h : P r) :
    (P (beLoop o s p kc atol rtol T fuel r) ∧ (beLoop o s p kc atol rtol T fuel r).done = true) ∨
    (∃ r', P r' ∧ r'.done = false ∧
      beLoop o s p kc atol rtol T fuel r = { r' with status := .outOfFuel }) := by
  induction fuel generalizing r with
  | zero =>
    rw [beLoop_zero]; split
    · exact Or.inl ⟨h, ‹_›⟩
    · exact Or.inr ⟨r, h, Bool.eq_false_iff.mpr ‹_›, rfl⟩
  | succ n ih =>
    rw [beLoop_succ]; split
    · exact Or.inl ⟨h, ‹_›⟩
    · exact ih _ (hstep r (Bool.eq_false_iff.mpr ‹_›) h)

theorem beLoop_inv (P : BEState α → Prop)
    (hstep : ∀ r, r.done = false → P r → P (beStep o s p kc atol rtol T r))
    (hout : ∀ r, r.done = false → P r → P { r with status := .outOfFuel })
    (fuel : Nat) (r : BEState α) (h : P r) : P (beLoop o s p kc atol rtol T fuel r) := by
  rcases beLoop_inv' o s p kc atol rtol T P hstep fuel r h with ⟨h1, _⟩ | ⟨r', h1, hd, e⟩
  · exact h1
  · rw [e]; exact hout r' hd h1

theorem beIsConverged_true (small : α) (res yn1 : Mat α)
    (h : beIsConverged o small atol rtol res yn1 = true) (c v : Nat) (hc : c < res.size)
    (hv : v < (res.getD c #[]).size) :
    o.isFinite (rd (res.getD c #[]) v) = true ∧ o.isFinite (rd (yn1.getD c #[]) v) = true := by
  unfold beIsConverged at h
  rw [List.all_eq_true] at h
  have h1 := h c (List.mem_range.2 hc)
  simp only [] at h1
  rw [List.all_eq_true] at h1
  have h2 := h1 v (List.mem_range.2 hv)
  simp only [Bool.and_eq_true] at h2
  exact h2.1

/-- invariant: `converged` is only ever the status between outer iterations, and then every
    residual and every value the last convergence test looked at was finite -/
def BEConvInv (r : BEState α) : Prop :=
  r.status = .converged →
    r.iterations = 0 ∧
    ∀ c v, c < r.sc.f0.size → v < (r.sc.f0.getD c #[]).size →
      o.isFinite (rd (r.sc.f0.getD c #[]) v) = true ∧ o.isFinite (rd (r.Yn1.getD c #[]) v) = true

theorem BEConvInv_step (r : BEState α) (h : BEConvInv o r) :
    BEConvInv o (beStep o s p kc atol rtol T r) := by
  -- past the head the status is not `converged`: it is `running`, or the old one with `iterations ≠ 0`
  have hs : (beHead o T r).done = false → (beHead o T r).status ≠ .converged := fun hd hc => by
    rcases beHead_status o T r with h1 | h1 | ⟨h0, h1⟩
    · rw [h1] at hc; cases hc
    · rw [h1] at hd; cases hd
    · rw [h1] at hc; exact h0 (h hc).1
  have hsp := beStep_spec o s p kc atol rtol T r
  generalize beStep o s p kc atol rtol T r = r' at hsp ⊢
  cases hsp with
  | exit =>
    intro hc
    rw [beHead_status_eq] at hc
    split at hc
    · cases hc
    · exact h hc
  | cont hd => exact fun hc => absurd hc (hs hd)
  | giveUp => exact fun hc => by cases hc
  | retry hd => exact fun hc => absurd hc (hs hd)
  | accept _ hconv =>
    unfold beConv at hconv
    split at hconv
    · cases hconv
    · exact fun _ => ⟨rfl, beIsConverged_true o atol rtol p.small _ _ hconv⟩

theorem BEConvInv_loop (fuel : Nat) (r : BEState α) (h : BEConvInv o r) :
    BEConvInv o (beLoop o s p kc atol rtol T fuel r) :=
  beLoop_inv o s p kc atol rtol T (BEConvInv o) (fun r _ => BEConvInv_step o s p kc atol rtol T r)
    (fun _ _ _ hc => by cases hc) fuel r h

end Step
end Micm
