/-
For C07 (and the ordered parts of C06): the comparison record `Ops` instantiated from a
linear order, `cmax`/`cmin` = `max`/`min`, and the accept/reject/step-size logic `ctlDecide`.
-/
import Mathlib.Algebra.Order.Field.Basic
import Mathlib.Algebra.Order.Ring.Rat
import Mathlib.Algebra.Order.Ring.Abs
import Mathlib.Tactic.Ring
import Mathlib.Tactic.Linarith
import Mathlib.Tactic.FieldSimp
import Mathlib.Tactic.NormNum
import Micm.Model.Rosenbrock

namespace Micm
set_option linter.unusedSectionVars false

section Ordered
variable {K : Type} [Field K] [LinearOrder K] [IsStrictOrderedRing K]

/-- The comparison record of the model agrees with the order of the field `K`; there are no special
    values.  `sqrt`, `pow`, `ofNat` are left arbitrary. -/
structure OrderedOps (o : Ops K) : Prop where
  lt : ∀ a b, o.lt a b = decide (a < b)
  le : ∀ a b, o.le a b = decide (a ≤ b)
  eq : ∀ a b, o.eq a b = decide (a = b)
  abs : ∀ a, o.abs a = |a|
  isNaN : ∀ a, o.isNaN a = false
  isInf : ∀ a, o.isInf a = false
  isFinite : ∀ a, o.isFinite a = true

def orderOps (sqrt : K → K) (pow : K → K → K) (ofNat : Nat → K) : Ops K where
  lt a b := decide (a < b)
  le a b := decide (a ≤ b)
  eq a b := decide (a = b)
  abs a := |a|
  sqrt := sqrt
  pow := pow
  isNaN _ := false
  isInf _ := false
  isFinite _ := true
  ofNat := ofNat

theorem orderOps_ordered (sqrt : K → K) (pow : K → K → K) (ofNat : Nat → K) :
    OrderedOps (orderOps sqrt pow ofNat) :=
  ⟨fun _ _ => rfl, fun _ _ => rfl, fun _ _ => rfl, fun _ => rfl, fun _ => rfl, fun _ => rfl,
   fun _ => rfl⟩

theorem OrderedOps.cmax_eq {o : Ops K} (ho : OrderedOps o) (a b : K) : cmax o a b = max a b := by
  unfold cmax
  rw [ho.lt]
  by_cases h : a < b
  · simp [h, max_eq_right (le_of_lt h)]
  · simp [h, max_eq_left (not_lt.mp h)]

theorem OrderedOps.cmin_eq {o : Ops K} (ho : OrderedOps o) (a b : K) : cmin o a b = min a b := by
  unfold cmin
  rw [ho.lt]
  by_cases h : b < a
  · simp [h, min_eq_right (le_of_lt h)]
  · simp [h, min_eq_left (not_lt.mp h)]

end Ordered

/-- satisfiability witness: `Ops ℚ` from the order of `ℚ` (identity `sqrt`, `pow x _ = x`) -/
def ratOps : Ops ℚ := orderOps id (fun x _ => x) Nat.cast

theorem ratOps_ordered : OrderedOps ratOps := orderOps_ordered _ _ _

section Any
variable {α : Type} [OfNat α 0] [OfNat α 1] [Add α] [Sub α] [Mul α] [Div α]

/-- the step-size factor `fac` of the source: `min(fmax, max(fmin, safety / error^(1/order)))` -/
def stepFac (o : Ops α) (p : RosParams α) (e : α) : α :=
  cmin o p.fmax (cmax o p.fmin (p.safety / o.pow e (1 / p.order)))

theorem ctlDecide_eq (o : Ops α) (p : RosParams α) (hm : α) (c : Ctl α) (e : α) :
    ctlDecide o p hm c e =
      if o.isNaN e then (.nan, c)
      else if o.isInf e then (.inf, c)
      else if o.lt e 1 || o.lt c.h p.hmin then
        (.accept, { t := c.t + c.h,
                    h := if c.rejectLast then cmin o (cmax o p.hmin (cmin o (c.h * stepFac o p e) hm)) c.h
                         else cmax o p.hmin (cmin o (c.h * stepFac o p e) hm),
                    rejectLast := false, rejectMore := false })
      else
        (.reject, { t := c.t,
                    h := if c.rejectMore then c.h * p.rejDec else c.h * stepFac o p e,
                    rejectLast := true, rejectMore := c.rejectLast }) := rfl

theorem ctlDecide_cases (o : Ops α) (p : RosParams α) (hm : α) (c : Ctl α) (e : α) :
    ctlDecide o p hm c e = (.nan, c) ∨ ctlDecide o p hm c e = (.inf, c) ∨
    (∃ h', ctlDecide o p hm c e =
      (.accept, { t := c.t + c.h, h := h', rejectLast := false, rejectMore := false })) ∨
    (∃ h', ctlDecide o p hm c e =
      (.reject, { t := c.t, h := h', rejectLast := true, rejectMore := c.rejectLast })) := by
  rw [ctlDecide_eq]
  by_cases h1 : o.isNaN e = true
  · rw [if_pos h1]; exact Or.inl rfl
  · rw [if_neg h1]
    by_cases h2 : o.isInf e = true
    · rw [if_pos h2]; exact Or.inr (Or.inl rfl)
    · rw [if_neg h2]
      by_cases h3 : (o.lt e 1 || o.lt c.h p.hmin) = true
      · rw [if_pos h3]; exact Or.inr (Or.inr (Or.inl ⟨_, rfl⟩))
      · rw [if_neg h3]; exact Or.inr (Or.inr (Or.inr ⟨_, rfl⟩))

theorem ctlDecide_t (o : Ops α) (p : RosParams α) (hm : α) (c : Ctl α) (e : α) :
    (ctlDecide o p hm c e).2.t = if (ctlDecide o p hm c e).1 = .accept then c.t + c.h else c.t := by
  rcases ctlDecide_cases o p hm c e with h | h | ⟨_, h⟩ | ⟨_, h⟩ <;> rw [h] <;> rfl

theorem ctlDecide_nan (o : Ops α) (p : RosParams α) (hm : α) (c : Ctl α) (e : α)
    (h : (ctlDecide o p hm c e).1 = .nan) : (ctlDecide o p hm c e).2 = c := by
  rcases ctlDecide_cases o p hm c e with h' | h' | ⟨_, h'⟩ | ⟨_, h'⟩ <;> rw [h'] at h ⊢ <;> cases h

theorem ctlDecide_inf (o : Ops α) (p : RosParams α) (hm : α) (c : Ctl α) (e : α)
    (h : (ctlDecide o p hm c e).1 = .inf) : (ctlDecide o p hm c e).2 = c := by
  rcases ctlDecide_cases o p hm c e with h' | h' | ⟨_, h'⟩ | ⟨_, h'⟩ <;> rw [h'] at h ⊢ <;> cases h

end Any

section OrderedCtl
variable {K : Type} [Field K] [LinearOrder K] [IsStrictOrderedRing K]

def clampFac (o : Ops K) (p : RosParams K) (e : K) : K :=
  min p.fmax (max p.fmin (p.safety / o.pow e (1 / p.order)))

theorem OrderedOps.stepFac_eq {o : Ops K} (ho : OrderedOps o) (p : RosParams K) (e : K) :
    stepFac o p e = clampFac o p e := by
  unfold stepFac clampFac
  rw [ho.cmin_eq, ho.cmax_eq]

theorem OrderedOps.ctlDecide_eq {o : Ops K} (ho : OrderedOps o) (p : RosParams K) (hm : K)
    (c : Ctl K) (e : K) :
    ctlDecide o p hm c e =
      if e < 1 ∨ c.h < p.hmin then
        (.accept, { t := c.t + c.h,
                    h := if c.rejectLast then min (max p.hmin (min (c.h * clampFac o p e) hm)) c.h
                         else max p.hmin (min (c.h * clampFac o p e) hm),
                    rejectLast := false, rejectMore := false })
      else
        (.reject, { t := c.t,
                    h := if c.rejectMore then c.h * p.rejDec else c.h * clampFac o p e,
                    rejectLast := true, rejectMore := c.rejectLast }) := by
  rw [Micm.ctlDecide_eq, ho.isNaN, ho.isInf, ho.lt, ho.lt, ho.stepFac_eq]
  simp only [Bool.false_eq_true, if_false, ho.cmin_eq, ho.cmax_eq, Bool.or_eq_true,
    decide_eq_true_eq]

theorem OrderedOps.ctlDecide_fst {o : Ops K} (ho : OrderedOps o) (p : RosParams K) (hm : K)
    (c : Ctl K) (e : K) :
    (ctlDecide o p hm c e).1 = if e < 1 ∨ c.h < p.hmin then .accept else .reject := by
  rw [ho.ctlDecide_eq]; split <;> rfl

theorem OrderedOps.decision_cases {o : Ops K} (ho : OrderedOps o) (p : RosParams K) (hm : K)
    (c : Ctl K) (e : K) :
    (ctlDecide o p hm c e).1 = .accept ∨ (ctlDecide o p hm c e).1 = .reject := by
  rw [ho.ctlDecide_fst]; split
  · exact Or.inl rfl
  · exact Or.inr rfl

theorem OrderedOps.accept_iff {o : Ops K} (ho : OrderedOps o) (p : RosParams K) (hm : K)
    (c : Ctl K) (e : K) :
    (ctlDecide o p hm c e).1 = .accept ↔ (e < 1 ∨ c.h < p.hmin) := by
  rw [ho.ctlDecide_fst]; split
  · exact ⟨fun _ => ‹_›, fun _ => rfl⟩
  · exact ⟨fun h => (by cases h), fun h => absurd h ‹_›⟩

theorem OrderedOps.reject_iff {o : Ops K} (ho : OrderedOps o) (p : RosParams K) (hm : K)
    (c : Ctl K) (e : K) :
    (ctlDecide o p hm c e).1 = .reject ↔ (1 ≤ e ∧ p.hmin ≤ c.h) := by
  rw [ho.ctlDecide_fst, ← not_lt, ← not_lt, ← not_or]; split
  · exact ⟨fun h => (by cases h), fun h => absurd ‹_› h⟩
  · exact ⟨fun _ => ‹_›, fun _ => rfl⟩

theorem OrderedOps.accept_next {o : Ops K} (ho : OrderedOps o) (p : RosParams K) (hm : K)
    (c : Ctl K) (e : K) (h : (ctlDecide o p hm c e).1 = .accept) :
    (ctlDecide o p hm c e).2 =
      { t := c.t + c.h,
        h := if c.rejectLast then min (max p.hmin (min (c.h * clampFac o p e) hm)) c.h
             else max p.hmin (min (c.h * clampFac o p e) hm),
        rejectLast := false, rejectMore := false } := by
  rw [ho.ctlDecide_eq, if_pos ((ho.accept_iff p hm c e).mp h)]

theorem OrderedOps.reject_next {o : Ops K} (ho : OrderedOps o) (p : RosParams K) (hm : K)
    (c : Ctl K) (e : K) (h : (ctlDecide o p hm c e).1 = .reject) :
    (ctlDecide o p hm c e).2 =
      { t := c.t,
        h := if c.rejectMore then c.h * p.rejDec else c.h * clampFac o p e,
        rejectLast := true, rejectMore := c.rejectLast } := by
  have h' := (ho.reject_iff p hm c e).mp h
  rw [ho.ctlDecide_eq, if_neg (not_or.mpr ⟨not_lt.mpr h'.1, not_lt.mpr h'.2⟩)]

theorem clampFac_le_fmax (o : Ops K) (p : RosParams K) (e : K) : clampFac o p e ≤ p.fmax :=
  min_le_left _ _

theorem fmin_le_clampFac (o : Ops K) (p : RosParams K) (e : K) (h : p.fmin ≤ p.fmax) :
    p.fmin ≤ clampFac o p e :=
  le_min h (le_max_left _ _)

theorem clampFac_lt_one_iff (o : Ops K) (p : RosParams K) (e : K) (h1 : p.fmin < 1) (h2 : 1 ≤ p.fmax) :
    clampFac o p e < 1 ↔ p.safety / o.pow e (1 / p.order) < 1 := by
  unfold clampFac
  rw [min_lt_iff, max_lt_iff]
  constructor
  · rintro (h | h)
    · exact absurd h (not_lt.mpr h2)
    · exact h.2
  · intro h; exact Or.inr ⟨h1, h⟩

/-- legal controller parameters (each C07 theorem states which of these it uses) -/
structure LegalParams (p : RosParams K) : Prop where
  hmin_nonneg : 0 ≤ p.hmin
  fmin_pos : 0 < p.fmin
  fmin_lt_one : p.fmin < 1
  one_le_fmax : 1 ≤ p.fmax
  rejDec_pos : 0 < p.rejDec
  rejDec_lt_one : p.rejDec < 1
  safety_pos : 0 < p.safety

theorem clampFac_pos (o : Ops K) (p : RosParams K) (e : K) (h1 : 0 < p.fmin) (h2 : p.fmin ≤ p.fmax) :
    0 < clampFac o p e :=
  lt_of_lt_of_le h1 (fmin_le_clampFac o p e h2)

/-- the largest factor a rejection can leave -/
def rejFactor (p : RosParams K) : K := max (max p.fmin p.safety) p.rejDec

theorem rejFactor_pos (p : RosParams K) (lp : LegalParams p) : 0 < rejFactor p :=
  lt_of_lt_of_le lp.rejDec_pos (le_max_right _ _)

theorem rejFactor_lt_one (p : RosParams K) (lp : LegalParams p) (hs1 : p.safety < 1) :
    rejFactor p < 1 :=
  max_lt (max_lt lp.fmin_lt_one hs1) lp.rejDec_lt_one

/-- `hpow`: `pow` behaves like a power on `[1, ∞)`.  The error of a rejected attempt is `≥ 1`, so
    the raw ratio `safety / pow e (1/order)` is at most `safety`. -/
theorem OrderedOps.reject_factor {o : Ops K} (ho : OrderedOps o) (p : RosParams K) (hm : K)
    (lp : LegalParams p) (hpow : ∀ x, 1 ≤ x → 1 ≤ o.pow x (1 / p.order)) (c : Ctl K) (e : K)
    (hd : (ctlDecide o p hm c e).1 = .reject) :
    ∃ f, 0 < f ∧ f ≤ rejFactor p ∧
      (ctlDecide o p hm c e).2 =
        { t := c.t, h := c.h * f, rejectLast := true, rejectMore := c.rejectLast } := by
  rw [ho.reject_next p hm c e hd]
  cases c.rejectMore
  · refine ⟨clampFac o p e, clampFac_pos o p e lp.fmin_pos
      (le_trans (le_of_lt lp.fmin_lt_one) lp.one_le_fmax), ?_, rfl⟩
    have hp := hpow e ((ho.reject_iff p hm c e).mp hd).1
    have h1 : p.safety / o.pow e (1 / p.order) ≤ p.safety :=
      div_le_self (le_of_lt lp.safety_pos) hp
    exact le_trans (le_trans (min_le_right _ _) (max_le_max (le_refl _) h1)) (le_max_left _ _)
  · exact ⟨p.rejDec, lp.rejDec_pos, le_max_right _ _, rfl⟩

end OrderedCtl

section Init
variable {α : Type} [OfNat α 0] [OfNat α 1] [Add α] [Sub α] [Mul α] [Div α]

/-- `h_max` of the source: `h_max_ == 0 ? time_step : min(time_step, h_max_)` -/
def hmaxEff (o : Ops α) (p : RosParams α) (timeStep : α) : α :=
  if o.eq p.hmax 0 then timeStep else cmin o timeStep p.hmax

/-- `h_start` of the source -/
def hstartEff (o : Ops α) (cs : Consts α) (p : RosParams α) (timeStep : α) : α :=
  if o.eq p.hstart 0 then cmax o p.hmin cs.deltaMin else cmin o (hmaxEff o p timeStep) p.hstart

/-- the first `H` of the source (including the `DELTA_MIN` substitution) -/
def initialH (o : Ops α) (cs : Consts α) (p : RosParams α) (timeStep : α) : α :=
  let h := cmin o (cmax o (o.abs p.hmin) (o.abs (hstartEff o cs p timeStep))) (o.abs (hmaxEff o p timeStep))
  if o.le (o.abs h) (cs.ten * p.roundOff) then cs.deltaMin else h

end Init

section InitOrdered
variable {K : Type} [Field K] [LinearOrder K] [IsStrictOrderedRing K]

theorem OrderedOps.hmaxEff_eq {o : Ops K} (ho : OrderedOps o) (p : RosParams K) (T : K) :
    hmaxEff o p T = if p.hmax = 0 then T else min T p.hmax := by
  unfold hmaxEff; rw [ho.eq, ho.cmin_eq]; simp only [decide_eq_true_eq]

theorem OrderedOps.hstartEff_eq {o : Ops K} (ho : OrderedOps o) (cs : Consts K) (p : RosParams K) (T : K) :
    hstartEff o cs p T =
      if p.hstart = 0 then max p.hmin cs.deltaMin else min (hmaxEff o p T) p.hstart := by
  unfold hstartEff; rw [ho.eq, ho.cmin_eq, ho.cmax_eq]; simp only [decide_eq_true_eq]

/-- the first `H` before the `DELTA_MIN` substitution -/
def rawInitialH (o : Ops K) (cs : Consts K) (p : RosParams K) (T : K) : K :=
  min (max |p.hmin| |hstartEff o cs p T|) |hmaxEff o p T|

theorem OrderedOps.initialH_eq {o : Ops K} (ho : OrderedOps o) (cs : Consts K) (p : RosParams K) (T : K) :
    initialH o cs p T =
      if |rawInitialH o cs p T| ≤ cs.ten * p.roundOff then cs.deltaMin else rawInitialH o cs p T := by
  unfold initialH rawInitialH
  simp only [ho.le, ho.abs, ho.cmin_eq, ho.cmax_eq, decide_eq_true_eq]

theorem OrderedOps.hmaxEff_nonneg {o : Ops K} (ho : OrderedOps o) (p : RosParams K) (T : K)
    (hT : 0 < T) (hmax : 0 ≤ p.hmax) : 0 ≤ hmaxEff o p T := by
  rw [ho.hmaxEff_eq]; split
  · exact le_of_lt hT
  · exact le_min (le_of_lt hT) hmax

theorem OrderedOps.hmaxEff_le {o : Ops K} (ho : OrderedOps o) (p : RosParams K) (T : K) :
    hmaxEff o p T ≤ T := by
  rw [ho.hmaxEff_eq]; split
  · exact le_refl _
  · exact min_le_left _ _

theorem rawInitialH_nonneg (o : Ops K) (cs : Consts K) (p : RosParams K) (T : K) :
    0 ≤ rawInitialH o cs p T :=
  le_min (le_max_of_le_left (abs_nonneg _)) (abs_nonneg _)

theorem OrderedOps.rawInitialH_eq_clamp {o : Ops K} (ho : OrderedOps o) (cs : Consts K)
    (p : RosParams K) (T : K) (hT : 0 < T) (hmin : 0 ≤ p.hmin) (hmax : 0 ≤ p.hmax)
    (hstart : 0 ≤ p.hstart) :
    rawInitialH o cs p T = min (max p.hmin (hstartEff o cs p T)) (hmaxEff o p T) := by
  have h1 := ho.hmaxEff_nonneg p T hT hmax
  have h2 : 0 ≤ hstartEff o cs p T := by
    rw [ho.hstartEff_eq]; split
    · exact le_max_of_le_left hmin
    · exact le_min h1 hstart
  unfold rawInitialH
  rw [abs_of_nonneg hmin, abs_of_nonneg h1, abs_of_nonneg h2]

theorem OrderedOps.rawInitialH_le {o : Ops K} (ho : OrderedOps o) (cs : Consts K)
    (p : RosParams K) (T : K) (hT : 0 < T) (hmax : 0 ≤ p.hmax) :
    rawInitialH o cs p T ≤ hmaxEff o p T ∧ rawInitialH o cs p T ≤ T := by
  have h1 := ho.hmaxEff_nonneg p T hT hmax
  have h : rawInitialH o cs p T ≤ hmaxEff o p T := by
    unfold rawInitialH; rw [abs_of_nonneg h1]; exact min_le_right _ _
  exact ⟨h, le_trans h (ho.hmaxEff_le p T)⟩

end InitOrdered
end Micm
