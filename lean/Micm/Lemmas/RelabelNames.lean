import Micm.Lemmas.RelabelLoop
import Micm.Lemmas.Builder

/-!
Two `std::map` name maps with the same key set, both bijections onto `0 … n−1`, differ by a
relabelling of the indices: `m₂ = relabel σ m₁` with `σ = nameSigma m₁ m₂` (index ↦ name in `m₁` ↦
index in `m₂`), a permutation of `0 … n−1`.  Used by C14b to bring two builds (reordering on/off,
species listed in another order) under `C12_solve_relabel`.
-/
namespace Micm

theorem nmKeys_eq_of_sorted_perm {m₁ m₂ : NameMap} (h₁ : NmSorted m₁) (h₂ : NmSorted m₂)
    (hp : (nmKeys m₁).Perm (nmKeys m₂)) : nmKeys m₁ = nmKeys m₂ := by
  refine List.Perm.eq_of_pairwise (le := fun a b : String => a < b) ?_ ?_ ?_ hp
  · intro a b _ _ h1 h2
    exact absurd (String.lt_trans h1 h2) (String.lt_irrefl a)
  · unfold nmKeys; rw [List.pairwise_map]; exact h₁
  · unfold nmKeys; rw [List.pairwise_map]; exact h₂

theorem nm_eq_map_keys {m : NameMap} (hn : (nmKeys m).Nodup) :
    m = (nmKeys m).map (fun k => (k, (nmLookup m k).getD 0)) := by
  unfold nmKeys
  rw [List.map_map]
  conv_lhs => rw [← List.map_id m]
  apply List.map_congr_left
  intro e he
  simp [nmLookup_of_mem hn he]

/-- what `C14_bijection` proves of the builder's `species_map` -/
structure NmBij (m : NameMap) (n : Nat) : Prop where
  sorted : NmSorted m
  lt : ∀ k i, nmLookup m k = some i → i < n
  inj : ∀ k k' i, nmLookup m k = some i → nmLookup m k' = some i → k = k'
  surj : ∀ i, i < n → ∃ k, nmLookup m k = some i

theorem NmIndexes.bij {m : NameMap} {names : List String} (h : NmIndexes m names) (hn : names.Nodup) :
    NmBij m names.length where
  sorted := h.sorted
  lt _ _ hl := h.lookup_lt hn hl
  inj _ _ _ hl hl' := h.lookup_inj hn hl hl'
  surj i hi := ⟨names[i], h.lookup i hi⟩

/-- index in `m₁` ↦ name ↦ index in `m₂` (identity on indices `m₁` does not use) -/
def nameSigma (m₁ m₂ : NameMap) (i : Nat) : Nat :=
  match m₁.find? (·.2 == i) with
  | some e => (nmLookup m₂ e.1).getD 0
  | none => i

theorem nameSigma_of_lookup {m₁ m₂ : NameMap} {n : Nat} (h₁ : NmBij m₁ n) {k : String} {i : Nat}
    (hk : nmLookup m₁ k = some i) : nameSigma m₁ m₂ i = (nmLookup m₂ k).getD 0 := by
  unfold nameSigma
  cases h : m₁.find? (·.2 == i) with
  | none =>
    have := List.find?_eq_none.mp h (k, i) (nmLookup_eq_some_mem hk)
    simp at this
  | some e =>
    have he : e ∈ m₁ := List.mem_of_find?_eq_some h
    have hp : e.2 = i := by simpa using List.find?_some h
    have hl : nmLookup m₁ e.1 = some i := by rw [← hp]; exact nmLookup_of_mem h₁.sorted.nodup_keys he
    show (nmLookup m₂ e.1).getD 0 = _
    rw [h₁.inj e.1 k i hl hk]

theorem nmLookup_of_mem_keys {m : NameMap} {k : String} (hk : k ∈ nmKeys m) :
    ∃ i, nmLookup m k = some i :=
  Option.isSome_iff_exists.mp ((nmLookup_isSome_iff m k).mpr hk)

theorem nameSigma_spec {m₁ m₂ : NameMap} {n : Nat} (h₁ : NmBij m₁ n) (h₂ : NmBij m₂ n)
    (hp : (nmKeys m₁).Perm (nmKeys m₂)) :
    (∀ i, i < n → ∀ j, j < n → nameSigma m₁ m₂ i = nameSigma m₁ m₂ j → i = j) ∧
    (∀ i, i < n → nameSigma m₁ m₂ i < n) ∧
    m₂ = relabel (nameSigma m₁ m₂) m₁ := by
  have hkeys := nmKeys_eq_of_sorted_perm h₁.sorted h₂.sorted hp
  have hmem : ∀ k, k ∈ nmKeys m₁ → ∃ i₂, nmLookup m₂ k = some i₂ := fun k hk =>
    nmLookup_of_mem_keys (hkeys ▸ hk)
  have hkey_of : ∀ {k i}, nmLookup m₁ k = some i → k ∈ nmKeys m₁ := fun {k i} h =>
    (nmLookup_isSome_iff m₁ k).mp (by simp [h])
  refine ⟨?_, ?_, ?_⟩
  · intro i hi j hj hij
    obtain ⟨k, hk⟩ := h₁.surj i hi
    obtain ⟨k', hk'⟩ := h₁.surj j hj
    obtain ⟨a, ha⟩ := hmem k (hkey_of hk)
    obtain ⟨b, hb⟩ := hmem k' (hkey_of hk')
    rw [nameSigma_of_lookup h₁ hk, nameSigma_of_lookup h₁ hk', ha, hb] at hij
    simp only [Option.getD_some] at hij
    subst hij
    have := h₂.inj k k' a ha hb
    subst this
    rw [hk] at hk'
    exact Option.some.inj hk'
  · intro i hi
    obtain ⟨k, hk⟩ := h₁.surj i hi
    obtain ⟨a, ha⟩ := hmem k (hkey_of hk)
    rw [nameSigma_of_lookup h₁ hk, ha]
    exact h₂.lt k a ha
  · conv_lhs => rw [nm_eq_map_keys h₂.sorted.nodup_keys, ← hkeys]
    unfold relabel nmKeys
    rw [List.map_map]
    apply List.map_congr_left
    intro e he
    have hl := nmLookup_of_mem h₁.sorted.nodup_keys he
    simp only [Function.comp_apply]
    rw [nameSigma_of_lookup h₁ hl]

section
variable {K : Type}

theorem Mechanism.of_bij {procs : List (Process K)} {m : NameMap} {t : PSTables K} {n : Nat}
    (hb : ProcessSet.build procs m = .ok t) (h : NmBij m n)
    (hparam : ∀ p ∈ procs, ∀ r ∈ p.reactants, r.param = true → r.name ∉ nmKeys m) :
    Mechanism procs m t n where
  built := hb
  names := h.sorted.nodup_keys
  ids := by
    have hn := h.sorted.nodup_keys
    have hm : m.Nodup := List.Nodup.of_map _ hn
    refine List.Nodup.map_on (fun e he e' he' hee => ?_) hm
    have h1 := nmLookup_of_mem hn he
    have h2 := nmLookup_of_mem hn he'
    rw [← hee] at h2
    exact Prod.ext (h.inj e.1 e'.1 e.2 h1 h2) hee
  param := fun p hp r hr hpar => (nmLookup_eq_none_iff m r.name).mpr (hparam p hp r hr hpar)
  range := fun e he => h.lt e.1 e.2 (nmLookup_of_mem h.sorted.nodup_keys he)

end

def ByName {K : Type} [OfNat K 0] (m₁ m₂ : NameMap) (x₁ x₂ : Array K) : Prop :=
  ∀ name i₁ i₂, nmLookup m₁ name = some i₁ → nmLookup m₂ name = some i₂ → rd x₂ i₂ = rd x₁ i₁

theorem ByName.map_lookup {K : Type} [OfNat K 0] {m₁ m₂ : NameMap} {σ : Nat → Nat} {x₁ x₂ : Array K}
    (h : ByName m₁ m₂ x₁ x₂) (hl : ∀ name, nmLookup m₂ name = (nmLookup m₁ name).map σ) (name : String) :
    (nmLookup m₂ name).map (rd x₂) = (nmLookup m₁ name).map (rd x₁) := by
  cases h₁ : nmLookup m₁ name with
  | none => rw [hl, h₁]; rfl
  | some i =>
    have h₂ : nmLookup m₂ name = some (σ i) := by rw [hl, h₁]; rfl
    rw [h₂]
    exact congrArg some (h name i (σ i) h₁ h₂)

theorem byName_relabel_iff {K : Type} [OfNat K 0] {m₁ : NameMap} {n : Nat} (h₁ : NmBij m₁ n)
    (σ : Nat → Nat) (x₁ x₂ : Array K) :
    ByName m₁ (relabel σ m₁) x₁ x₂ ↔ ∀ v, v < n → rd x₂ (σ v) = rd x₁ v := by
  constructor
  · intro h v hv
    obtain ⟨k, hk⟩ := h₁.surj v hv
    exact h k v (σ v) hk (by rw [nmLookup_relabel, hk]; rfl)
  · intro h name i₁ i₂ hl₁ hl₂
    rw [nmLookup_relabel, hl₁] at hl₂
    have : σ i₁ = i₂ := Option.some.inj hl₂
    rw [← this]
    exact h i₁ (h₁.lt name i₁ hl₁)

end Micm
