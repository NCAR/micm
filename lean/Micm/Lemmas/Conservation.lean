/-
For C09 (conservation of linear invariants through the Rosenbrock solve).  A weight vector `w` that
every reaction balances is orthogonal to the forcing and to every column of `∂f/∂y`, so the columns of
the matrix `a·I − ∂f/∂y` of an attempt have `w`-weighted sums `a·w_j`; a solve `M x = b` with such a
matrix gives `w·b = a (w·x)`, and right-hand sides orthogonal to `w` have solutions orthogonal to `w`.
Hence every stage vector of an attempt is orthogonal to `w`, `w·Ynew = w·Y` and `w·Yerr = 0`.  This is
proved for an abstract per-cell solver property `WSolve`, which the four LU variants of `LinAlg.build`
have when no pivot is zero (via `C04_build_*`).
-/
import Micm.Properties.C09
import Micm.Lemmas.ConfigIndep
import Micm.Lemmas.JacobianPattern
import Micm.Lemmas.LUCellBridge
import Micm.Lemmas.RosLoop
import Micm.Lemmas.Scratch
import Micm.Lemmas.SolveInduct

namespace Micm
set_option linter.unusedSectionVars false
open Finset

section A1
variable {K : Type} [Field K]

/-- the logical matrix `−∂f_i/∂y_j` of the mass-action forcing (the right-hand side of
    `C02_jacobian_zero` / `C02_jacobian_built_pattern`) -/
def negJac (m : NameMap) (procs : List (Process K)) (k y : Array K) (i j : Nat) : K :=
  - (procs.zipIdx.map fun pi =>
      jacNet (specReactIds m pi.1.reactants) (specProdIds m pi.1.products) i
        * (rd k pi.2 * dMonomial (rd y) (specReactIds m pi.1.reactants) j)).sum

theorem wsum_indicator (w : Nat → K) (n a : Nat) (ha : a < n) (v : K) :
    ∑ i ∈ range n, (if a = i then w a * v else 0) = w a * v := by
  rw [sum_ite_eq, if_pos (mem_range.2 ha)]

theorem wsum_filter_yields (w : Nat → K) (n : Nat) (pr : List (Nat × K)) (hp : ∀ q ∈ pr, q.1 < n) :
    ∑ i ∈ range n, w i * ((pr.filter (fun q => q.1 = i)).map (·.2)).sum
      = (pr.map fun q => w q.1 * q.2).sum := by
  induction pr with
  | nil => simp
  | cons q pr ih =>
    have key : ∀ i ∈ range n, w i * (((q :: pr).filter (fun q => q.1 = i)).map (·.2)).sum
        = (if q.1 = i then w q.1 * q.2 else 0) + w i * ((pr.filter (fun q => q.1 = i)).map (·.2)).sum := by
      intro i _
      rw [List.filter_cons]
      by_cases h : q.1 = i
      · subst h; rw [if_pos (by simp), if_pos rfl, List.map_cons, List.sum_cons, mul_add]
      · rw [if_neg (by simpa using h), if_neg h, zero_add]
    rw [sum_congr rfl key, sum_add_distrib, wsum_indicator w n q.1 (hp q List.mem_cons_self),
      ih (fun q hq => hp q (List.mem_cons_of_mem _ hq)), List.map_cons, List.sum_cons]

theorem wsum_count (w : Nat → K) (n : Nat) (rs : List Nat) (hr : ∀ x ∈ rs, x < n) :
    ∑ i ∈ range n, w i * (rs.count i : K) = (rs.map w).sum := by
  induction rs with
  | nil => simp
  | cons a rs ih =>
    have key : ∀ i ∈ range n, w i * (((a :: rs).count i : Nat) : K)
        = (if a = i then w a * 1 else 0) + w i * (rs.count i : K) := by
      intro i _
      rw [List.count_cons, Nat.cast_add, mul_add, add_comm]
      by_cases h : a = i
      · subst h; rw [if_pos rfl, beq_self_eq_true, if_pos rfl, Nat.cast_one]
      · rw [if_neg h, if_neg (by simpa using h), Nat.cast_zero, mul_zero]
    rw [sum_congr rfl key, sum_add_distrib, wsum_indicator w n a (hr a List.mem_cons_self), mul_one,
      ih (fun x hx => hr x (List.mem_cons_of_mem _ hx)), List.map_cons, List.sum_cons]

theorem wsum_jacNet (w : Nat → K) (n : Nat) (rs : List Nat) (pr : List (Nat × K))
    (hr : ∀ x ∈ rs, x < n) (hp : ∀ q ∈ pr, q.1 < n) :
    ∑ i ∈ range n, w i * jacNet rs pr i = (pr.map fun q => w q.1 * q.2).sum - (rs.map w).sum := by
  unfold jacNet
  simp only [mul_sub, sum_sub_distrib]
  rw [wsum_filter_yields w n pr hp, wsum_count w n rs hr]

theorem wsum_list_sum {β : Type} (w : Nat → K) (n : Nat) (l : List β) (g : Nat → β → K) :
    ∑ i ∈ range n, w i * (l.map (g i)).sum = (l.map fun a => ∑ i ∈ range n, w i * g i a).sum := by
  induction l with
  | nil => simp
  | cons a l ih => simp only [List.map_cons, List.sum_cons, mul_add, sum_add_distrib, ih]

theorem negJac_orthogonal (m : NameMap) (procs : List (Process K)) (rxns : List (RRxn K))
    (hr : Resolves m procs rxns) (n : Nat) (hm : ∀ e ∈ m, e.2 < n) (w : Nat → K)
    (hbal : ∀ rx ∈ rxns, (rx.2.map fun p => w p.1 * p.2).sum = (rx.1.map w).sum)
    (k y : Array K) (j : Nat) :
    ∑ i ∈ range n, w i * negJac m procs k y i j = 0 := by
  have hb := resolves_bounds hm hr
  obtain ⟨-, rfl⟩ := (resolves_iff m procs rxns).1 hr
  unfold negJac
  simp only [mul_neg, sum_neg_distrib, neg_eq_zero]
  rw [wsum_list_sum]
  apply jac_sum_map_zero
  intro pi hpi
  have hmem : resolveP m pi.1 ∈ procs.map (resolveP m) :=
    List.mem_map.mpr ⟨pi.1, List.fst_mem_of_mem_zipIdx hpi, rfl⟩
  have h1 : (∀ x ∈ specReactIds m pi.1.reactants, x < n) ∧ ∀ q ∈ specProdIds m pi.1.products, q.1 < n :=
    hb _ hmem
  have h2 : ((specProdIds m pi.1.products).map fun p => w p.1 * p.2).sum
      = ((specReactIds m pi.1.reactants).map w).sum := hbal _ hmem
  have : ∑ i ∈ range n, w i * jacNet (specReactIds m pi.1.reactants) (specProdIds m pi.1.products) i = 0 := by
    rw [wsum_jacNet w n _ _ h1.1 h1.2]
    exact sub_eq_zero.mpr h2
  have e : ∀ i, w i * (jacNet (specReactIds m pi.1.reactants) (specProdIds m pi.1.products) i *
        (rd k pi.2 * dMonomial (rd y) (specReactIds m pi.1.reactants) j))
      = (w i * jacNet (specReactIds m pi.1.reactants) (specProdIds m pi.1.products) i) *
        (rd k pi.2 * dMonomial (rd y) (specReactIds m pi.1.reactants) j) := fun i => by ring
  simp only [e, ← sum_mul, this, zero_mul]

theorem wsum_shift_negJac (m : NameMap) (procs : List (Process K)) (rxns : List (RRxn K))
    (hr : Resolves m procs rxns) (n : Nat) (hm : ∀ e ∈ m, e.2 < n) (w : Nat → K)
    (hbal : ∀ rx ∈ rxns, (rx.2.map fun p => w p.1 * p.2).sum = (rx.1.map w).sum)
    (k y : Array K) (a : K) (j : Nat) (hj : j < n) :
    ∑ i ∈ range n, w i * ((if i = j then a else 0) + negJac m procs k y i j) = a * w j := by
  have e : ∀ i ∈ range n, w i * ((if i = j then a else 0) + negJac m procs k y i j)
      = (if i = j then w i * a else 0) + w i * negJac m procs k y i j := fun i _ => by
    rw [mul_add, mul_ite, mul_zero]
  rw [sum_congr rfl e, sum_add_distrib, negJac_orthogonal m procs rxns hr n hm w hbal,
    sum_ite_eq', if_pos (mem_range.2 hj), add_zero, mul_comm]

end A1

section A2
variable {K : Type} [Field K]

theorem wdot_of_solve (n : Nat) (w : Nat → K) (M : Nat → Nat → K) (α : K) (x b : Nat → K)
    (hM : ∀ j, j < n → ∑ i ∈ range n, w i * M i j = α * w j)
    (hx : ∀ i, i < n → ∑ j ∈ range n, M i j * x j = b i) :
    ∑ i ∈ range n, w i * b i = α * ∑ j ∈ range n, w j * x j := by
  calc ∑ i ∈ range n, w i * b i
      = ∑ i ∈ range n, ∑ j ∈ range n, w i * M i j * x j := by
        apply sum_congr rfl
        intro i hi
        rw [← hx i (mem_range.mp hi), mul_sum]
        apply sum_congr rfl
        intro j _; ring
    _ = ∑ j ∈ range n, ∑ i ∈ range n, w i * M i j * x j := sum_comm
    _ = ∑ j ∈ range n, α * (w j * x j) := by
        apply sum_congr rfl
        intro j hj
        rw [← sum_mul, hM j (mem_range.mp hj)]; ring
    _ = α * ∑ j ∈ range n, w j * x j := by rw [mul_sum]

end A2

section Shape
variable {α : Type}

def CellShape (n c : Nat) (M : Mat α) : Prop := c < M.size ∧ (M.getD c #[]).size = n

instance (n c : Nat) (M : Mat α) : Decidable (CellShape n c M) := by
  unfold CellShape; infer_instance

theorem CellShape.of_sizes {n c : Nat} {X X' : Mat α} (h : CellShape n c X) (hs : X'.size = X.size)
    (hc : c < X.size → (X'.getD c #[]).size = (X.getD c #[]).size) : CellShape n c X' :=
  ⟨hs ▸ h.1, (hc h.1).trans h.2⟩

end Shape

section Cell
variable {K : Type} [Field K]

def wdot (w : Nat → K) (n : Nat) (v : Array K) : K := ∑ i ∈ range n, w i * rd v i

theorem wdot_replicate_zero (w : Nat → K) (n m : Nat) : wdot w n (Array.replicate m (0 : K)) = 0 := by
  unfold wdot
  apply sum_eq_zero
  intro i _
  rw [rd_replicate_zero, mul_zero]

theorem cellShape_fillM {n c : Nat} {M : Mat K} (h : CellShape n c M) (v : K) :
    CellShape n c (fillM M v) ∧ (fillM M v).getD c #[] = Array.replicate n v :=
  ⟨h.of_sizes (fillM_size M v) (fun _ => (fillM_getD_size M v c).2), by rw [fillM_getD M v c h.1, h.2]⟩

theorem cellShape_forcing (s : SolverCfg K) (kc Y F : Mat K) {n c : Nat} (h : CellShape n c F) :
    CellShape n c (s.forcing kc Y F) :=
  h.of_sizes (forcing_size s kc Y F) (forcing_getD_size s kc Y F c)

theorem cellShape_axpyM {n c : Nat} (a : K) (x y : Mat K) (h : CellShape n c y) :
    CellShape n c (axpyM a x y) :=
  h.of_sizes (axpyM_size a x y) (axpyM_getD_size a x y c)

theorem wdot_axpyM {n c : Nat} (w : Nat → K) (a : K) (x y : Mat K) (h : CellShape n c y) :
    wdot w n ((axpyM a x y).getD c #[]) = wdot w n (y.getD c #[]) + a * wdot w n (x.getD c #[]) := by
  rw [axpyM_getD a x y c h.1]
  unfold wdot
  rw [mul_sum, ← sum_add_distrib]
  apply sum_congr rfl
  intro i hi
  rw [rd_axpyRow _ _ _ _ (by rw [h.2]; exact mem_range.mp hi)]
  ring

theorem axpy_fold_cell_zero {n c : Nat} (w : Nat → K) (coef : Nat → K) (X : Nat → Mat K) (l : List Nat)
    (F : Mat K) (h : CellShape n c F) (hX : ∀ j ∈ l, wdot w n ((X j).getD c #[]) = 0) :
    CellShape n c (l.foldl (fun ks j => axpyM (coef j) (X j) ks) F) ∧
    wdot w n ((l.foldl (fun ks j => axpyM (coef j) (X j) ks) F).getD c #[]) = wdot w n (F.getD c #[]) := by
  induction l generalizing F with
  | nil => exact ⟨h, rfl⟩
  | cons j l ih =>
    obtain ⟨i1, i2⟩ := ih (axpyM (coef j) (X j) F) (cellShape_axpyM _ _ _ h)
      (fun k hk => hX k (List.mem_cons_of_mem _ hk))
    refine ⟨i1, ?_⟩
    rw [List.foldl_cons, i2, wdot_axpyM w _ _ _ h, hX j List.mem_cons_self, mul_zero, add_zero]

theorem cellShape_linSolve (s : SolverCfg K) (J Lo Up X : Mat K) {n c : Nat} (h : CellShape n c X) :
    CellShape n c (s.linSolve J Lo Up X) :=
  h.of_sizes (linSolve_size s J Lo Up X) (fun _ => linSolve_getD_size s J Lo Up X c)

end Cell

section Attempt
variable {K : Type} [Field K]
variable (s : SolverCfg K) (p : RosParams K) (kc : Mat K) (w : Nat → K) (n c : Nat)

def ForcOrth : Prop :=
  ∀ (Y F : Mat K), CellShape n c F → wdot w n ((s.forcing kc Y (fillM F 0)).getD c #[]) = 0

def WSolve (J Lo Up : Mat K) : Prop :=
  ∀ X : Mat K, CellShape n c X → wdot w n (X.getD c #[]) = 0 →
    wdot w n ((s.linSolve J Lo Up X).getD c #[]) = 0

theorem stageForcing_cell (hf : ForcOrth s kc w n c) (Y : Mat K) (K0 Kf : Array (Mat K))
    (hsh : ∀ i, i < p.stages → CellShape n c (K0.getD i #[]))
    (h0 : wdot w n ((K0.getD 0 #[]).getD c #[]) = 0) (i : Nat) (hi : i < p.stages) :
    CellShape n c (stageForcing s p kc Y K0 Kf i) ∧
    wdot w n ((stageForcing s p kc Y K0 Kf i).getD c #[]) = 0 := by
  induction i with
  | zero => exact ⟨hsh 0 hi, h0⟩
  | succ i ih =>
    unfold stageForcing
    split
    · exact ⟨cellShape_forcing s kc _ _ (cellShape_fillM (hsh (i + 1) hi) 0).1, hf _ _ (hsh (i + 1) hi)⟩
    · exact ih (by omega)

theorem stagesGo_cell (hf : ForcOrth s kc w n c) (Y J Lo Up : Mat K) (hs : WSolve s w n c J Lo Up)
    (h : K) (K0 : Array (Mat K)) (hK0 : p.stages ≤ K0.size)
    (hsh : ∀ i, i < p.stages → CellShape n c (K0.getD i #[]))
    (h0 : wdot w n ((K0.getD 0 #[]).getD c #[]) = 0) (ynew : Mat K) (st : Stats)
    (i : Nat) (hi : i < p.stages) :
    CellShape n c ((stagesGo s p kc Y J Lo Up h p.stages 0 K0 ynew st).1.getD i #[]) ∧
    wdot w n (((stagesGo s p kc Y J Lo Up h p.stages 0 K0 ynew st).1.getD i #[]).getD c #[]) = 0 := by
  induction i using Nat.strong_induction_on with
  | _ i ih =>
    rw [stagesGo_equations s p kc Y J Lo Up h K0 hK0 ynew st i hi]
    generalize (stagesGo s p kc Y J Lo Up h p.stages 0 K0 ynew st).1 = Kf at ih ⊢
    obtain ⟨f1, f2⟩ := stageForcing_cell s p kc w n c hf Y K0 Kf hsh h0 i hi
    unfold stageRhsOf
    obtain ⟨x1, x2⟩ := axpy_fold_cell_zero w (fun j => rd p.c (i * (i - 1) / 2 + j) / h)
      (fun j => Kf.getD j #[]) (List.range i) _ f1
      (fun j hj => (ih j (List.mem_range.mp hj) (by have := List.mem_range.mp hj; omega)).2)
    exact ⟨cellShape_linSolve s J Lo Up _ x1, hs _ x1 (by rw [x2, f2])⟩

/-- `r` is the state after the prologue -/
theorem attempt_conserves (hf : ForcOrth s kc w n c) (r : RState K)
    (hs : WSolve s w n c (attFactor s p r).1 (attFactor s p r).2.1 (attFactor s p r).2.2)
    (hk : p.stages ≤ r.sc.k.size)
    (hksh : ∀ i, i < p.stages → CellShape n c (r.sc.k.getD i #[]))
    (hf0s : CellShape n c r.sc.f0) (hf0 : wdot w n (r.sc.f0.getD c #[]) = 0)
    (hY : CellShape n c r.Y) (hye : CellShape n c r.sc.yerr) :
    (∀ i, i < p.stages → CellShape n c ((attStages s p kc r).1.getD i #[]) ∧
      wdot w n (((attStages s p kc r).1.getD i #[]).getD c #[]) = 0) ∧
    (CellShape n c (attYnew s p kc r) ∧
      wdot w n ((attYnew s p kc r).getD c #[]) = wdot w n (r.Y.getD c #[])) ∧
    (CellShape n c (attYerr s p kc r) ∧ wdot w n ((attYerr s p kc r).getD c #[]) = 0) := by
  have hst : ∀ i, i < p.stages → CellShape n c ((attStages s p kc r).1.getD i #[]) ∧
      wdot w n (((attStages s p kc r).1.getD i #[]).getD c #[]) = 0 := by
    intro i hi
    unfold attStages
    have hsz : p.stages ≤ (r.sc.k.setIfInBounds 0 r.sc.f0).size := by
      rw [Array.size_setIfInBounds]; exact hk
    apply stagesGo_cell s p kc w n c hf r.Y _ _ _ hs r.ctl.h _ hsz _ _ _ _ i hi
    · intro j hj
      by_cases h0 : j = 0
      · subst h0; rw [getD_set_eq _ _ _ _ (by omega)]; exact hf0s
      · rw [getD_set_ne _ _ _ _ _ (by omega)]; exact hksh j hj
    · by_cases hp : 0 < r.sc.k.size
      · rw [getD_set_eq _ _ _ _ hp]; exact hf0
      · have : (r.sc.k.setIfInBounds 0 r.sc.f0).getD 0 #[] = #[] := by
          simp [Array.getD, show ¬ 0 < r.sc.k.size from hp]
        rw [this]; simp [wdot, rd]
  refine ⟨hst, ?_, ?_⟩
  · unfold attYnew
    exact axpy_fold_cell_zero w (fun i => rd p.m i) (fun i => (attStages s p kc r).1.getD i #[])
      (List.range p.stages) r.Y hY (fun i hi => (hst i (List.mem_range.mp hi)).2)
  · unfold attYerr
    obtain ⟨z1, z2⟩ := cellShape_fillM hye (0 : K)
    obtain ⟨e1, e2⟩ := axpy_fold_cell_zero w (fun i => rd p.e i) (fun i => (attStages s p kc r).1.getD i #[])
      (List.range p.stages) (fillM r.sc.yerr 0) z1 (fun i hi => (hst i (List.mem_range.mp hi)).2)
    exact ⟨e1, by rw [e2, z2, wdot_replicate_zero]⟩

end Attempt

section Iterate
variable {α : Type} [OfNat α 0] [OfNat α 1] [Add α] [Sub α] [Mul α] [Div α]

theorem iterate_inv {σ : Type} (f : σ → σ) (P : σ → Prop) (r : σ) (N : Nat) (h : P r)
    (hstep : ∀ k, k < N → P (f^[k] r) → P (f^[k + 1] r)) : P (f^[N] r) := by
  induction N with
  | zero => exact h
  | succ N ih => exact hstep N (Nat.lt_succ_self N) (ih fun k hk => hstep k (Nat.lt_succ_of_lt hk))

/-- The step hypothesis may speak of the iterate, as "no zero pivot in its attempt" does. -/
theorem rosLoop_iterate_inv (o : Ops α) (cs : Consts α) (s : SolverCfg α) (p : RosParams α) (kc : Mat α)
    (atol : Array α) (rtol T hm : α) (P : RState α → Prop)
    (hout : ∀ r, P r → P { r with status := .outOfFuel }) (fuel : Nat) (r : RState α) (h : P r)
    (hstep : ∀ k, k < fuel → P ((rosStep o cs s p kc atol rtol T hm)^[k] r) →
      P ((rosStep o cs s p kc atol rtol T hm)^[k + 1] r)) :
    P (rosLoop o cs s p kc atol rtol T hm fuel r) := by
  induction fuel generalizing r with
  | zero =>
    rw [rosLoop_zero]; split
    · exact hout r h
    · exact h
  | succ fuel ih =>
    rw [rosLoop_succ]; split
    · exact ih _ (hstep 0 (Nat.succ_pos _) h) fun k hk => hstep (k + 1) (Nat.succ_lt_succ hk)
    · exact h

end Iterate

section Loop
variable {K : Type} [Field K]
variable (o : Ops K) (cs : Consts K) (s : SolverCfg K) (p : RosParams K) (kc : Mat K)
    (atol : Array K) (rtol : K) (T hm : K) (w : Nat → K) (n c : Nat)

structure DenseOK (p : RosParams K) (n c : Nat) (r : RState K) : Prop where
  Y : CellShape n c r.Y
  f0 : CellShape n c r.sc.f0
  yerr : CellShape n c r.sc.yerr
  ksz : p.stages ≤ r.sc.k.size
  k : ∀ i, i < p.stages → CellShape n c (r.sc.k.getD i #[])

/-- C09, invariant of cell `c`: shapes, `w·Y = σ`, and inside a step the initial forcing is
    orthogonal to `w` -/
structure ConsInv (p : RosParams K) (w : Nat → K) (n c : Nat) (σ : K) (r : RState K) : Prop where
  dense : DenseOK p n c r
  sum : wdot w n (r.Y.getD c #[]) = σ
  f0 : r.status = .running → r.inStep = true → wdot w n (r.sc.f0.getD c #[]) = 0

theorem ConsInv_stop (σ : K) (r : RState K) (h : ConsInv p w n c σ r) (st : Status)
    (hst : st ≠ .running) : ConsInv p w n c σ { r with status := st } :=
  ⟨⟨h.1.1, h.1.2, h.1.3, h.1.4, h.1.5⟩, h.2, fun h1 => absurd h1 hst⟩

theorem ConsInv_prologue (hf : ForcOrth s kc w n c) (σ : K) (r : RState K) (h : ConsInv p w n c σ r) :
    ConsInv p w n c σ (rosPrologue o cs s p kc T r) :=
  rosPrologue_inv o cs s p kc T (ConsInv p w n c σ) r
    (fun st hst h => ConsInv_stop p w n c σ r h st hst)
    (fun _ _ _ _ h =>
      ⟨⟨h.1.1, cellShape_forcing s kc _ _ (cellShape_fillM h.1.2 0).1, h.1.3, h.1.4, h.1.5⟩, h.2,
        fun _ _ => hf _ _ h.1.2⟩) h

theorem ConsInv_attempt (hf : ForcOrth s kc w n c) (σ : K) (r : RState K) (hr : r.status = .running)
    (hi : r.inStep = true) (h : ConsInv p w n c σ r)
    (hs : WSolve s w n c (attFactor s p r).1 (attFactor s p r).2.1 (attFactor s p r).2.2) :
    ConsInv p w n c σ (rosAttempt o cs s p kc atol rtol hm r) := by
  obtain ⟨a1, ⟨a2, a3⟩, ⟨a4, _⟩⟩ := attempt_conserves s p kc w n c hf r hs h.1.ksz h.1.k h.1.f0
    (h.f0 hr hi) h.1.Y h.1.yerr
  have hY : CellShape n c (rosAttempt o cs s p kc atol rtol hm r).Y ∧
      wdot w n ((rosAttempt o cs s p kc atol rtol hm r).Y.getD c #[]) = σ := by
    rw [rosAttempt_Y]; split
    · exact ⟨h.1.Y, h.2⟩
    · exact ⟨a2, a3.trans h.2⟩
  refine ⟨⟨hY.1, ?_, ?_, ?_, ?_⟩, hY.2, ?_⟩
  · rw [rosAttempt_f0]; exact h.1.f0
  · rw [rosAttempt_yerr]; exact a4
  · rw [rosAttempt_k]; unfold attStages; rw [stagesGo_K_size, Array.size_setIfInBounds]; exact h.1.ksz
  · intro i hi'; rw [rosAttempt_k]; exact (a1 i hi').1
  · intro h1 h2
    rw [rosAttempt_inStep] at h2
    rw [rosAttempt_f0]
    exact h.f0 hr hi

theorem ConsInv_step (hf : ForcOrth s kc w n c) (σ : K) (r : RState K) (h : ConsInv p w n c σ r)
    (hs : (rosPrologue o cs s p kc T r).status = .running →
      WSolve s w n c (attFactor s p (rosPrologue o cs s p kc T r)).1
        (attFactor s p (rosPrologue o cs s p kc T r)).2.1
        (attFactor s p (rosPrologue o cs s p kc T r)).2.2) :
    ConsInv p w n c σ (rosStep o cs s p kc atol rtol T hm r) := by
  have hp := ConsInv_prologue o cs s p kc T w n c hf σ r h
  rw [rosStep_eq]; split
  · rename_i hrun
    exact ConsInv_attempt o cs s p kc atol rtol hm w n c hf σ _ hrun
      (rosPrologue_running_inStep o cs s p kc T r hrun) hp (hs hrun)
  · exact hp

theorem ConsInv_iter (hf : ForcOrth s kc w n c) (σ : K) (r : RState K) (h : ConsInv p w n c σ r) (m : Nat)
    (hs : ∀ k, k < m →
      (rosPrologue o cs s p kc T ((rosStep o cs s p kc atol rtol T hm)^[k] r)).status = .running →
      WSolve s w n c
        (attFactor s p (rosPrologue o cs s p kc T ((rosStep o cs s p kc atol rtol T hm)^[k] r))).1
        (attFactor s p (rosPrologue o cs s p kc T ((rosStep o cs s p kc atol rtol T hm)^[k] r))).2.1
        (attFactor s p (rosPrologue o cs s p kc T ((rosStep o cs s p kc atol rtol T hm)^[k] r))).2.2) :
    ConsInv p w n c σ ((rosStep o cs s p kc atol rtol T hm)^[m] r) :=
  iterate_inv _ (ConsInv p w n c σ) r m h fun k hk hP => by
    rw [Function.iterate_succ_apply']
    exact ConsInv_step o cs s p kc atol rtol T hm w n c hf σ _ hP (hs k hk)

end Loop

section Concrete
variable {K : Type} [Field K]

theorem cellShape_jacobian (s : SolverCfg K) (kc Y F : Mat K) {n c : Nat} (h : CellShape n c F) :
    CellShape n c (s.jacobian kc Y F) :=
  h.of_sizes (jacobian_size s kc Y F) (jacobian_getD_size s kc Y F c)

theorem cellShape_shift (s : SolverCfg K) (J : Mat K) (a : K) {n c : Nat} (h : CellShape n c J) :
    CellShape n c (s.alphaMinusJacobian J a) :=
  h.of_sizes (alphaMinusJacobian_size s J a) (alphaMinusJacobian_getD_size s J a c)

theorem negJac_eq_neg (m : NameMap) (procs : List (Process K)) (k y : Array K) (i j : Nat) :
    negJac m procs k y i j = - jacEntrySpec procs m k y i j := rfl

/-- a solver configuration as `SolverBuilder` builds it (`n` species, name map `m`, mechanism
    `procs`, LU variant `kind` on the Jacobian pattern `jac`) -/
structure BuiltCfg (s : SolverCfg K) (m : NameMap) (procs : List (Process K)) (n : Nat)
    (kind : LUKind) (jac : Pattern) : Prop where
  tables : ProcessSet.build procs m = .ok s.tables
  names : (m.map (·.1)).Nodup
  ids : (m.map (·.2)).Nodup
  idlt : ∀ e ∈ m, e.2 < n
  param : ∀ p ∈ procs, ∀ r ∈ p.reactants, r.param = true → nmLookup m r.name = none
  la : s.la = LinAlg.build kind jac
  jn : jac.n = n
  jdiag : ∀ i, i < jac.n → jac.zero? i i = false
  flat : s.tables.jacobianFlatIds s.la.A = .ok s.flatIds
  diag : s.diag = s.la.A.diagRanks
  inj : ∀ r c r' c' q, s.la.A.rank r c = .ok q → s.la.A.rank r' c' = .ok q → r = r' ∧ c = c'
  range : ∀ r c q, s.la.A.rank r c = .ok q → q < s.la.A.nnz
  diagP : ∀ i, i < n → s.la.A.zero? i i = false
  cover : ∀ x ∈ s.tables.nonZeroJacobianElements, s.la.A.zero? x.1 x.2 = false

variable {s : SolverCfg K} {m : NameMap} {procs : List (Process K)} {n : Nat} {kind : LUKind}
  {jac : Pattern}

theorem BuiltCfg.An (hb : BuiltCfg s m procs n kind jac) : s.la.A.n = n := by
  rw [hb.la, build_A_n, hb.jn]

/-- on all index pairs: absent elements are structural zeros of the derivative -/
theorem view_shifted_jacobian (hb : BuiltCfg s m procs n kind jac) (kc Y B : Mat K) (c : Nat)
    (hB : CellShape s.la.A.nnz c B) (a : K) (i j : Nat) (hi : i < n) (_ : j < n) :
    view s.la.A ((s.alphaMinusJacobian (s.jacobian kc Y (fillM B 0)) a).getD c #[]) i j
      = (if i = j then a else 0) + negJac m procs (kc.getD c #[]) (Y.getD c #[]) i j := by
  rw [negJac_eq_neg, add_comm]
  exact (shifted_jacobian_view procs m s hb.tables hb.names hb.ids hb.param hb.flat hb.diag hb.inj hb.range
    hb.cover kc Y B a c hB.1 hB.2 i j (by rw [hb.An]; exact hi) (hb.diagP i hi)).2

theorem wsum_shifted_jacobian (hb : BuiltCfg s m procs n kind jac) (rxns : List (RRxn K))
    (hr : Resolves m procs rxns) (w : Nat → K)
    (hbal : ∀ rx ∈ rxns, (rx.2.map fun p => w p.1 * p.2).sum = (rx.1.map w).sum)
    (kc Y B : Mat K) (c : Nat) (hB : CellShape s.la.A.nnz c B) (a : K) (j : Nat) (hj : j < n) :
    ∑ i ∈ range n, w i *
      view s.la.A ((s.alphaMinusJacobian (s.jacobian kc Y (fillM B 0)) a).getD c #[]) i j = a * w j := by
  rw [sum_congr rfl fun i hi => by
    rw [view_shifted_jacobian hb kc Y B c hB a i j (mem_range.mp hi) hj]]
  exact wsum_shift_negJac m procs rxns hr n hb.idlt w hbal _ _ a j hj

/-- the diagonal of `U` after `Factor`, cell `c` (read in `state.jacobian_` for the in-place
    variants, in `state.upper_matrix_` otherwise) -/
def attPivot (s : SolverCfg K) (fa : Mat K × Mat K × Mat K) (c i : Nat) : K :=
  if s.la.kind.inPlace then view s.la.A (fa.1.getD c #[]) i i else view s.la.Up (fa.2.2.getD c #[]) i i

theorem factor_solve_cell (hla : s.la = LinAlg.build kind jac) (hjn : jac.n = n)
    (hjd : ∀ i, i < jac.n → jac.zero? i i = false)
    (Mx Lo Up X : Mat K) (c : Nat) (hM : CellShape s.la.A.nnz c Mx)
    (hL : CellShape s.la.Lp.nnz c Lo) (hU : CellShape s.la.Up.nnz c Up) (hX : CellShape n c X)
    (hpiv : ∀ i, i < n → attPivot s (s.factor Mx Lo Up) c i ≠ 0) (i : Nat) (hi : i < n) :
    ∑ j ∈ range n, view s.la.A (Mx.getD c #[]) i j *
      rd ((s.linSolve (s.factor Mx Lo Up).1 (s.factor Mx Lo Up).2.1 (s.factor Mx Lo Up).2.2 X).getD c #[]) j
      = rd (X.getD c #[]) i := by
  have hs : s.la.SizesOK (Mx.getD c #[]) (Lo.getD c #[]) (Up.getD c #[]) :=
    SizesOK_of_inPlace _ _ _ _ (fun _ => ⟨hL.2, hU.2⟩) (fun _ => hM.2)
  have hp : ∀ i, i < n → s.la.pivot (Mx.getD c #[]) (Lo.getD c #[]) (Up.getD c #[]) i ≠ 0 := fun i hi => by
    rw [pivot_eq_factorPivot s Mx Lo Up c hM.1 i]; exact hpiv i hi
  rw [linSolve_factor_getD s Mx Lo Up X c hX.1 hM.1]
  rw [hla] at hs hp ⊢
  exact build_factorSolve_spec kind jac n hjn (fun _ i hi => hjd i (hjn ▸ hi)) _ _ _ _ hs hX.2 hp i hi

end Concrete

section ConcreteLoop
variable {K : Type} [Field K]

def unitVec (n i : Nat) : Array K := wr (Array.replicate n 0) i 1

theorem wdot_unitVec (w : Nat → K) (n i : Nat) (hi : i < n) : wdot w n (unitVec n i) = w i := by
  unfold wdot unitVec
  have : ∀ j, w j * rd (wr (Array.replicate n (0 : K)) i 1) j = if i = j then w i else 0 := by
    intro j
    rw [rd_wr, rd_replicate_zero]
    by_cases h : i = j
    · subst h; simp [hi]
    · simp [h]
  simp only [this, sum_ite_eq, mem_range, hi, if_true]

/-- also for `α = 0`, where solvability on every right-hand side forces `w = 0` on the cell -/
theorem wsolve_of_solves (s : SolverCfg K) (w : Nat → K) (n c : Nat) (J Lo Up : Mat K)
    (M : Nat → Nat → K) (α : K)
    (hM : ∀ j, j < n → ∑ i ∈ range n, w i * M i j = α * w j)
    (hsol : ∀ X : Mat K, CellShape n c X → ∀ i, i < n →
      ∑ j ∈ range n, M i j * rd ((s.linSolve J Lo Up X).getD c #[]) j = rd (X.getD c #[]) i) :
    WSolve s w n c J Lo Up := by
  intro X hX hX0
  have key : ∀ X : Mat K, CellShape n c X →
      wdot w n (X.getD c #[]) = α * wdot w n ((s.linSolve J Lo Up X).getD c #[]) := fun X hX =>
    wdot_of_solve n w M α (fun j => rd ((s.linSolve J Lo Up X).getD c #[]) j)
      (fun i => rd (X.getD c #[]) i) hM (hsol X hX)
  by_cases hα : α = 0
  · have hw : ∀ i, i < n → w i = 0 := by
      intro i hi
      -- solve for the block whose cell `c` is the unit vector `e_i`
      have e : (Array.replicate (c + 1) (unitVec n i) : Mat K).getD c #[] = unitVec n i := by
        rw [Array.getD_eq_getD_getElem?, Array.getElem?_replicate, if_pos (Nat.lt_succ_self c)]; rfl
      have hsh : CellShape n c (Array.replicate (c + 1) (unitVec n i) : Mat K) :=
        ⟨by rw [Array.size_replicate]; exact Nat.lt_succ_self c,
         by rw [e]; unfold unitVec; rw [wr_size, Array.size_replicate]⟩
      have h := key _ hsh
      rw [hα, zero_mul, e, wdot_unitVec w n i hi] at h
      exact h
    unfold wdot
    exact sum_eq_zero (fun i hi => by rw [hw i (mem_range.mp hi), zero_mul])
  · have := key X hX
    rw [hX0] at this
    rcases mul_eq_zero.mp this.symm with h | h
    · exact absurd h hα
    · exact h

theorem cellShape_factor (s : SolverCfg K) (Mx Lo Up : Mat K) {nA nL nU c : Nat}
    (hM : CellShape nA c Mx) (hL : CellShape nL c Lo) (hU : CellShape nU c Up) :
    CellShape nA c (s.factor Mx Lo Up).1 ∧ CellShape nL c (s.factor Mx Lo Up).2.1 ∧
    CellShape nU c (s.factor Mx Lo Up).2.2 := by
  obtain ⟨z0, z1, z2⟩ := factor_getD_size s Mx Lo Up c hM.1
  obtain ⟨s0, s1, s2⟩ := factor_size s Mx Lo Up
  refine ⟨⟨by rw [s0]; exact hM.1, z0.trans hM.2⟩, ⟨?_, z1.trans hL.2⟩, ⟨?_, z2.trans hU.2⟩⟩
  · rw [s1]; split
    · exact hL.1
    · exact hM.1
  · rw [s2]; split
    · exact hU.1
    · exact hM.1

variable (o : Ops K) (cs : Consts K) {s : SolverCfg K} (p : RosParams K) (kc : Mat K)
    (atol : Array K) (rtol : K) (T hm : K) (w : Nat → K) {n : Nat} (c : Nat)
    {m : NameMap} {procs : List (Process K)} {kind : LUKind} {jac : Pattern}

structure SparseOK (s : SolverCfg K) (c : Nat) (r : RState K) : Prop where
  jac : CellShape s.la.A.nnz c r.sc.jac
  lower : CellShape s.la.Lp.nnz c r.sc.lower
  upper : CellShape s.la.Up.nnz c r.sc.upper

theorem SparseOK_prologue (r : RState K) (h : SparseOK s c r) :
    SparseOK s c (rosPrologue o cs s p kc T r) :=
  rosPrologue_inv o cs s p kc T (SparseOK s c) r (fun _ _ h => ⟨h.1, h.2, h.3⟩)
    (fun _ _ _ _ h => ⟨cellShape_jacobian s kc _ _ (cellShape_fillM h.1 0).1, h.2, h.3⟩) h

theorem SparseOK_attempt (r : RState K) (h : SparseOK s c r) :
    SparseOK s c (rosAttempt o cs s p kc atol rtol hm r) := by
  obtain ⟨f1, f2, f3⟩ := cellShape_factor s (attMatrix s p r) r.sc.lower r.sc.upper
    (cellShape_shift s r.sc.jac (attAlpha s p r) h.1) h.2 h.3
  obtain ⟨l1, l2⟩ := rosAttempt_lu o cs s p kc atol rtol hm r
  refine ⟨?_, by rw [l1]; exact f2, by rw [l2]; exact f3⟩
  rw [rosAttempt_jac]; split
  · exact cellShape_jacobian s kc _ _ (cellShape_fillM f1 0).1
  · exact f1

theorem forcOrth_of_balanced (hb : BuiltCfg s m procs n kind jac) (rxns : List (RRxn K))
    (hr : Resolves m procs rxns)
    (hbal : ∀ rx ∈ rxns, (rx.2.map fun p => w p.1 * p.2).sum = (rx.1.map w).sum) :
    ForcOrth s kc w n c := by
  intro Y F hF
  obtain ⟨z1, z2⟩ := cellShape_fillM hF (0 : K)
  rw [forcing_getD s kc Y _ c z1.1, z2]
  exact C09_forcing_orthogonal m procs s.tables rxns (.inr hb.tables) hr n hb.idlt w hbal _ _

/-- `r` is the state after the prologue -/
theorem wsolve_attempt (hb : BuiltCfg s m procs n kind jac) (rxns : List (RRxn K))
    (hr : Resolves m procs rxns)
    (hbal : ∀ rx ∈ rxns, (rx.2.map fun p => w p.1 * p.2).sum = (rx.1.map w).sum)
    (r : RState K) (B : Mat K) (hB : JacHolds s kc r B) (hsp : SparseOK s c r)
    (hpiv : ∀ i, i < n → attPivot s (attFactor s p r) c i ≠ 0) :
    WSolve s w n c (attFactor s p r).1 (attFactor s p r).2.1 (attFactor s p r).2.2 := by
  have hmx := attMatrix_of_JacHolds s p kc r B hB
  have hBs : CellShape s.la.A.nnz c B :=
    hsp.jac.of_sizes hB.sizes.1.symm (fun hc => (hB.sizes.2 c (by rwa [← hB.sizes.1])).symm)
  have hMs : CellShape s.la.A.nnz c (attMatrix s p r) := cellShape_shift s _ _ hsp.jac
  apply wsolve_of_solves s w n c _ _ _
    (fun i j => view s.la.A ((attMatrix s p r).getD c #[]) i j) (1 / (r.ctl.h * p.gamma0))
  · intro j hj
    rw [hmx]
    exact wsum_shifted_jacobian hb rxns hr w hbal kc r.Y B c hBs _ j hj
  · intro X hX i hi
    exact factor_solve_cell hb.la hb.jn hb.jdiag (attMatrix s p r) r.sc.lower r.sc.upper X c hMs
      hsp.lower hsp.upper hX hpiv i hi

structure FullInv (s : SolverCfg K) (p : RosParams K) (kc : Mat K) (w : Nat → K) (n c : Nat) (σ : K)
    (r : RState K) : Prop where
  cons : ConsInv p w n c σ r
  sparse : SparseOK s c r
  shift : ShiftInv s kc r

theorem FullInv_outOfFuel (σ : K) (r : RState K) (h : FullInv s p kc w n c σ r) :
    FullInv s p kc w n c σ { r with status := .outOfFuel } :=
  ⟨ConsInv_stop p w n c σ r h.cons _ nofun, ⟨h.2.1, h.2.2, h.2.3⟩, fun h1 => by cases h1⟩

end ConcreteLoop

section Builder
variable {K : Type} [Field K]

/-- The record is assembled as `SolverBuilder::Build` does: the pattern
    `BuildJacobian(NonZeroJacobianElements)`, flat ids computed on the pattern of `state.jacobian_`,
    the diagonal ranks of that pattern. -/
theorem builtCfg_of_builder (procs : List (Process K)) (m : NameMap) (t : PSTables K)
    (hb : ProcessSet.build procs m = .ok t)
    (hk : (m.map (·.1)).Nodup) (hv : (m.map (·.2)).Nodup)
    (hparam : ∀ p ∈ procs, ∀ r ∈ p.reactants, r.param = true → nmLookup m r.name = none)
    (n : Nat) (hn : ∀ e ∈ m, e.2 < n) (csc : Bool) (L Ld : Nat) (kind : LUKind) (flat : List Nat)
    (hflat : t.jacobianFlatIds
      (LinAlg.build kind (Pattern.mk' n csc L (buildJacobianSet n t.nonZeroJacobianElements))).A = .ok flat) :
    BuiltCfg
      { nSpecies := n, L := Ld, tables := t, flatIds := flat,
        la := LinAlg.build kind (Pattern.mk' n csc L (buildJacobianSet n t.nonZeroJacobianElements)),
        diag := (LinAlg.build kind
          (Pattern.mk' n csc L (buildJacobianSet n t.nonZeroJacobianElements))).A.diagRanks }
      m procs n kind (Pattern.mk' n csc L (buildJacobianSet n t.nonZeroJacobianElements)) := by
  obtain ⟨hgA, hjd, hdiag, hcover⟩ := builder_A procs m t hb n hn kind csc L
  exact {
    tables := hb, names := hk, ids := hv, idlt := hn, param := hparam, la := rfl, jn := rfl,
    jdiag := hjd, flat := hflat, diag := rfl,
    inj := fun _ _ _ _ _ h1 h2 => hgA.rank_inj h1 h2,
    range := fun _ _ _ h => hgA.rank_lt h,
    diagP := hdiag, cover := hcover }

end Builder

end Micm
