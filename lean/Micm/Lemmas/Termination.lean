/-
Termination of the Rosenbrock retry loop and of the whole flattened loop (C06 "Solve terminates").

The inner `while (!accepted)` of `rosenbrock.inl` has no bound of its own.  Over an ordered field, with
`h_min > 0`, every rejection multiplies `H` by a factor `≤ q < 1`
(`q = max (max factor_min safety_factor) rejection_factor_decrease`), and an attempt with `H < h_min`
is accepted whatever its error.  Hence a step that starts with `H ≤ T` has at most `N` rejections, where
`N` is any number with `T · q^N < h_min`; and since a new step is only started while
`number_of_steps ≤ max_number_of_steps`, the whole solve makes at most `max_number_of_steps + N + 1`
attempts.  The fuel of the model is then never exhausted.
-/
import Micm.Lemmas.TimeBounds

namespace Micm
set_option linter.unusedSectionVars false

section Term
variable {K : Type} [Field K] [LinearOrder K] [IsStrictOrderedRing K]
variable {o : Ops K} (cs : Consts K) (s : SolverCfg K) (p : RosParams K) (kc : Mat K)
    (atol : Array K) (rtol : K) (T hm : K)

/-- the termination invariant: the total number of attempts is bounded, and inside a step the number
    `j` of rejections so far bounds both the attempt counter and the step size -/
structure TermInv (p : RosParams K) (T : K) (N : Nat) (r : RState K) : Prop where
  total : r.stats.numberOfSteps ≤ p.maxSteps + N + 1
  inner : r.inStep = true → r.status = .running →
    ∃ j, j ≤ N ∧ r.stats.numberOfSteps ≤ p.maxSteps + j ∧ r.ctl.h ≤ T * rejFactor p ^ j

theorem TermInv_init (N : Nat) (h0 : K) (Y : Mat K) (sc : Scratch K) :
    TermInv p T N (rosInit h0 Y sc) :=
  ⟨Nat.zero_le _, fun h => (by cases h)⟩

theorem TermInv.status {N : Nat} {r : RState K} (h : TermInv p T N r) (st : Status)
    (hst : st ≠ .running) : TermInv p T N { r with status := st } :=
  ⟨h.total, fun _ hr => absurd hr hst⟩

theorem TermInv_prologue (ho : OrderedOps o) (hro : 0 ≤ p.roundOff) (N : Nat) (r : RState K)
    (ht : TimeInv p T r) (h : TermInv p T N r) :
    TermInv p T N (rosPrologue o cs s p kc T r) := by
  refine rosPrologue_inv o cs s p kc T (TermInv p T N) r (fun st hst h => h.status p T st hst) ?_ h
  intro hi h1 hn h3 _
  -- a new step: no rejection yet, `number_of_steps ≤ max_number_of_steps`, and `H ≤ T − t ≤ T`
  have hf : TimeInv p T (startStep o s kc T r) := by
    have := TimeInv_prologue cs s p kc T ho hro r ht
    unfold rosPrologue at this
    rwa [if_neg (by rw [hi]; exact Bool.false_ne_true), if_neg (by rw [h1]; exact Bool.false_ne_true),
      if_neg hn, if_neg (by rw [h3]; exact Bool.false_ne_true)] at this
  have hn' : r.stats.numberOfSteps ≤ p.maxSteps := Nat.le_of_not_gt hn
  refine ⟨Nat.le_trans hn' (Nat.le_add_right _ _ |>.trans (Nat.le_add_right _ _)),
    fun _ _ => ⟨0, Nat.zero_le _, hn', ?_⟩⟩
  rw [pow_zero, mul_one]
  exact le_trans (le_add_of_nonneg_left hf.t_nonneg) (hf.fits rfl)

/-- one attempt inside a step: an acceptance leaves the step; a rejection needs `h_min ≤ H ≤ T·q^j`,
    so `j < N`, and leaves `H' ≤ T·q^(j+1)` -/
theorem TermInv_attempt (ho : OrderedOps o) (lp : LegalParams p) (hs1 : p.safety < 1)
    (hpow : ∀ x, 1 ≤ x → 1 ≤ o.pow x (1 / p.order)) (hT : 0 ≤ T) (N : Nat)
    (hN : T * rejFactor p ^ N < p.hmin) (r : RState K) (hr : r.status = .running)
    (hi : r.inStep = true) (h : TermInv p T N r) :
    TermInv p T N (rosAttempt o cs s p kc atol rtol hm r) := by
  obtain ⟨j, hj, hn, hh⟩ := h.inner hi hr
  obtain ⟨_, a2, _, _, _, _⟩ := rosAttempt_stats o cs s p kc atol rtol hm r
  have hq0 := rejFactor_pos p lp
  have hq1 := rejFactor_lt_one p lp hs1
  rcases attDecide_cases cs s p kc atol rtol hm ho r with hd | hd
  · -- accepted: the step is left
    refine ⟨by rw [a2]; omega, fun hin _ => ?_⟩
    rw [rosAttempt_inStep, if_pos hd] at hin
    cases hin
  · -- rejected: `h_min ≤ H`
    have hmin : p.hmin ≤ r.ctl.h := ((ho.reject_iff p hm r.ctl _).mp hd).2
    have hjN : j < N := by
      by_contra hge
      have hpw : rejFactor p ^ j ≤ rejFactor p ^ N :=
        pow_le_pow_of_le_one (le_of_lt hq0) (le_of_lt hq1) (Nat.le_of_not_gt hge)
      exact absurd (lt_of_le_of_lt (le_trans hmin hh) (lt_of_le_of_lt
        (mul_le_mul_of_nonneg_left hpw hT) hN)) (lt_irrefl _)
    obtain ⟨f, f0, f1, e⟩ := ho.reject_factor p hm lp hpow r.ctl _ hd
    refine ⟨by rw [a2]; omega, fun _ _ => ⟨j + 1, hjN, by rw [a2]; omega, ?_⟩⟩
    rw [rosAttempt_ctl, show (attDecide o cs s p kc atol rtol hm r).2 = _ from e, pow_succ, ← mul_assoc]
    exact mul_le_mul hh f1 (le_of_lt f0) (mul_nonneg hT (pow_nonneg (le_of_lt hq0) _))

theorem TermInv_step (ho : OrderedOps o) (lp : LegalParams p) (hs1 : p.safety < 1)
    (hpow : ∀ x, 1 ≤ x → 1 ≤ o.pow x (1 / p.order)) (hro : 0 ≤ p.roundOff) (hT : 0 ≤ T) (N : Nat)
    (hN : T * rejFactor p ^ N < p.hmin) (r : RState K)
    (h : TimeInv p T r ∧ TermInv p T N r) :
    TimeInv p T (rosStep o cs s p kc atol rtol T hm r) ∧
    TermInv p T N (rosStep o cs s p kc atol rtol T hm r) :=
  rosStep_inv o cs s p kc atol rtol T hm (fun r => TimeInv p T r ∧ TermInv p T N r) r
    (fun h => ⟨TimeInv_prologue cs s p kc T ho hro r h.1, TermInv_prologue cs s p kc T ho hro N r h.1 h.2⟩)
    (fun r' hr hi h' => ⟨TimeInv_attempt cs s p kc atol rtol T hm ho lp hs1 hpow r' hi h'.1,
      TermInv_attempt cs s p kc atol rtol T hm ho lp hs1 hpow hT N hN r' hr hi h'.2⟩) h

theorem TermInv_loop (ho : OrderedOps o) (lp : LegalParams p) (hs1 : p.safety < 1)
    (hpow : ∀ x, 1 ≤ x → 1 ≤ o.pow x (1 / p.order)) (hro : 0 ≤ p.roundOff) (hT : 0 ≤ T) (N : Nat)
    (hN : T * rejFactor p ^ N < p.hmin) (fuel : Nat) (r : RState K)
    (h : TimeInv p T r ∧ TermInv p T N r) :
    TermInv p T N (rosLoop o cs s p kc atol rtol T hm fuel r) :=
  (rosLoop_inv o cs s p kc atol rtol T hm (fun r => TimeInv p T r ∧ TermInv p T N r)
    (fun r _ h => TermInv_step cs s p kc atol rtol T hm ho lp hs1 hpow hro hT N hN r h)
    (fun _ _ h => ⟨h.1.status p T _, h.2.status p T _ (fun h => by cases h)⟩)
    fuel r h).2

/-- C06, the fuel is never exhausted: with `fuel > max_number_of_steps + N + 1` the loop ends in a status of
    the implementation -/
theorem rosLoop_terminates (ho : OrderedOps o) (lp : LegalParams p) (hs1 : p.safety < 1)
    (hpow : ∀ x, 1 ≤ x → 1 ≤ o.pow x (1 / p.order)) (hro : 0 ≤ p.roundOff) (hT : 0 ≤ T) (N : Nat)
    (hN : T * rejFactor p ^ N < p.hmin) (fuel : Nat) (hfuel : p.maxSteps + N + 1 < fuel)
    (h0 : K) (Y : Mat K) (sc : Scratch K) :
    (rosLoop o cs s p kc atol rtol T hm fuel (rosInit h0 Y sc)).status ≠ .outOfFuel := by
  intro hout
  have hlen := rosLoop_outOfFuel o cs s p kc atol rtol T hm fuel (rosInit h0 Y sc) (by simp [rosInit]) hout
  have hcnt := (CountInv_loop o cs s p kc atol rtol T hm fuel (rosInit h0 Y sc)
    (by simp [CountInv, rosInit])).2.1
  have htot := (TermInv_loop cs s p kc atol rtol T hm ho lp hs1 hpow hro hT N hN fuel (rosInit h0 Y sc)
    ⟨TimeInv_init p T h0 Y sc hT, TermInv_init p T N h0 Y sc⟩).total
  rw [hcnt, hlen] at htot
  simp [rosInit] at htot
  omega

end Term
end Micm
