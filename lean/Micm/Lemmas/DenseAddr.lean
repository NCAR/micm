/-
Address arithmetic of the flat containers (C19, and the base of the lane theorems of C13):
mixed-radix arithmetic; the block-storage map `slot L n b k` (`Pattern.slot` as a function of `L`, `n`)
with its range and injectivity, and its normal form `offset + k * stride + lane`, which is how the
flat kernels form addresses; `DenseShape.addr` is the same map, and `visitSlots` lists its values.
Core Lean only.
-/
import Micm.Model.Dense
namespace Micm

theorem mul_add_lt {a b A B : Nat} (ha : a < A) (hb : b < B) : a * B + b < A * B := by
  have h1 : (a + 1) * B ≤ A * B := Nat.mul_le_mul_right B ha
  rw [Nat.add_mul, Nat.one_mul] at h1
  omega

theorem mul_add_div {a b B : Nat} (hb : b < B) : (a * B + b) / B = a := by
  have hB : 0 < B := by omega
  rw [Nat.add_comm, Nat.add_mul_div_right _ _ hB, Nat.div_eq_of_lt hb, Nat.zero_add]

theorem mul_add_mod {a b B : Nat} (hb : b < B) : (a * B + b) % B = b := by
  rw [Nat.add_comm, Nat.add_mul_mod_self_right, Nat.mod_eq_of_lt hb]

theorem mul_add_inj {a b a' b' B : Nat} (hb : b < B) (hb' : b' < B)
    (h : a * B + b = a' * B + b') : a = a' ∧ b = b' := by
  have h1 := congrArg (· / B) h
  have h2 := congrArg (· % B) h
  simp only [mul_add_div hb, mul_add_div hb', mul_add_mod hb, mul_add_mod hb'] at h1 h2
  exact ⟨h1, h2⟩

theorem div_lt_ceil {x rows L : Nat} (hL : 0 < L) (hx : x < rows) : x / L < (rows + L - 1) / L := by
  rw [Nat.div_lt_iff_lt_mul hL]
  have h := Nat.div_add_mod (rows + L - 1) L
  have h2 := Nat.mod_lt (rows + L - 1) hL
  have h3 : (rows + L - 1) / L * L = L * ((rows + L - 1) / L) := Nat.mul_comm _ _
  omega

/-- the kernels' `group offset + id * L + lane` in two-digit form -/
theorem vec_addr_eq (g L n j m : Nat) : g * (L * n) + j * L + m = (g * n + j) * L + m := by
  rw [Nat.add_mul, Nat.mul_comm L n, Nat.mul_assoc g n L]

/-- storage slot of element rank `k` of block `b`; `L = 0`: standard ordering, `L ≥ 1`: vector
    ordering with groups of `L` blocks -/
def slot (L nnz b k : Nat) : Nat :=
  if L = 0 then k + b * nnz else k * L + b % L + (b / L) * L * nnz

def vectorSize (L nnz blocks : Nat) : Nat :=
  if L = 0 then blocks * nnz else ((blocks + L - 1) / L) * L * nnz

theorem slot_pattern (p : Pattern) (b k : Nat) : p.slot b k = slot p.L p.nnz b k := rfl
theorem vectorSize_pattern (p : Pattern) (blocks : Nat) :
    p.vectorSize blocks = vectorSize p.L p.nnz blocks := rfl

theorem slot_lt {L nnz blocks b k : Nat} (hb : b < blocks) (hk : k < nnz) :
    slot L nnz b k < vectorSize L nnz blocks := by
  unfold slot vectorSize
  by_cases hL : L = 0
  · simp only [hL, if_true]
    rw [Nat.add_comm]
    exact mul_add_lt hb hk
  · simp only [hL, if_false]
    have hL' : 0 < L := Nat.pos_of_ne_zero hL
    have h1 : k * L + b % L < nnz * L := mul_add_lt hk (Nat.mod_lt _ hL')
    have h2 := mul_add_lt (div_lt_ceil hL' hb) h1
    have e1 : b / L * L * nnz = b / L * (nnz * L) := by ac_rfl
    have e2 : (blocks + L - 1) / L * L * nnz = (blocks + L - 1) / L * (nnz * L) := by ac_rfl
    rw [e1, e2]
    omega

theorem slot_inj {L nnz b k b' k' : Nat} (hk : k < nnz) (hk' : k' < nnz)
    (h : slot L nnz b k = slot L nnz b' k') : b = b' ∧ k = k' := by
  unfold slot at h
  by_cases hL : L = 0
  · simp only [hL, if_true] at h
    have h' : b * nnz + k = b' * nnz + k' := by omega
    exact mul_add_inj hk hk' h'
  · simp only [hL, if_false] at h
    have hL' : 0 < L := Nat.pos_of_ne_zero hL
    have h1 : k * L + b % L < nnz * L := mul_add_lt hk (Nat.mod_lt _ hL')
    have h1' : k' * L + b' % L < nnz * L := mul_add_lt hk' (Nat.mod_lt _ hL')
    have e1 : b / L * L * nnz = b / L * (nnz * L) := by ac_rfl
    have e2 : b' / L * L * nnz = b' / L * (nnz * L) := by ac_rfl
    rw [e1, e2] at h
    have h' : b / L * (nnz * L) + (k * L + b % L) = b' / L * (nnz * L) + (k' * L + b' % L) := by omega
    obtain ⟨h2, h3⟩ := mul_add_inj h1 h1' h'
    obtain ⟨h4, h5⟩ := mul_add_inj (Nat.mod_lt _ hL') (Nat.mod_lt _ hL') h3
    refine ⟨?_, h4⟩
    rw [← Nat.div_add_mod b L, ← Nat.div_add_mod b' L, h2, h5]

/-! The flat kernels address element `k` of a block as `offset + k * stride + lane`: the vector layouts
(`L ≥ 1`) with the group offset `b / L * (L * n)`, stride `L` and lane `b % L`; the standard layout
(`L = 0`) is the same program run with one lane of stride 1 and offset `b * n`. -/

def laneStride (L : Nat) : Nat := if L = 0 then 1 else L
def laneIdx (L b : Nat) : Nat := if L = 0 then 0 else b % L
def laneOff (L b n : Nat) : Nat := if L = 0 then b * n else b / L * (L * n)

theorem slot_eq_lane (L n b k : Nat) :
    slot L n b k = laneOff L b n + k * laneStride L + laneIdx L b := by
  unfold slot laneOff laneStride laneIdx
  by_cases hL : L = 0
  · simp only [hL, if_true]; omega
  · simp only [hL, if_false]; rw [Nat.mul_assoc]; omega

theorem slot_lane (L n b : Nat) :
    slot L n b = fun k => laneOff L b n + k * laneStride L + laneIdx L b :=
  funext (slot_eq_lane L n b)

theorem laneIdx_lt (L b : Nat) : laneIdx L b < laneStride L := by
  unfold laneIdx laneStride
  split
  · exact Nat.zero_lt_one
  · next hL => exact Nat.mod_lt b (Nat.pos_of_ne_zero hL)

/-- the lane of a real block is among the `min L (blocks - g*L)` lanes the LU kernels run in its group -/
theorem lane_lt_min {L blocks b : Nat} (hL : L ≠ 0) (hb : b < blocks) :
    b % L < min L (blocks - b / L * L) := by
  have hm := Nat.mod_lt b (Nat.pos_of_ne_zero hL)
  have := Nat.div_add_mod b L
  have e : L * (b / L) = b / L * L := Nat.mul_comm _ _
  omega

theorem slot_vec_lane (L nnz g l k : Nat) (hL : L ≠ 0) (hl : l < L) :
    slot L nnz (g * L + l) k = g * (L * nnz) + k * L + l := by
  simp only [slot_eq_lane, laneOff, laneStride, laneIdx, hL, if_false, mul_add_div hl, mul_add_mod hl]

theorem row_addr_lt {blocks n b k : Nat} (hb : b < blocks) (hk : k < n) :
    b * n + k < vectorSize 0 n blocks :=
  mul_add_lt hb hk

theorem vec_addr_lt {blocks n L g k l : Nat} (hL : L ≠ 0) (hg : g < (blocks + L - 1) / L)
    (hk : k < n) (hl : l < L) : g * (L * n) + k * L + l < vectorSize L n blocks := by
  simp only [vectorSize, hL, if_false]
  rw [vec_addr_eq, Nat.mul_assoc, Nat.mul_comm L n, ← Nat.mul_assoc]
  exact mul_add_lt (mul_add_lt hg hk) hl

theorem addr_eq_slot (r n L c j : Nat) : (DenseShape.mk r n L).addr c j = slot L n c j := by
  unfold DenseShape.addr slot
  by_cases hL : L = 0
  · simp only [hL, if_true]; exact Nat.add_comm _ _
  · simp only [hL, if_false]; rw [Nat.add_mul, Nat.mul_right_comm]; omega

theorem dense_addr_lt (s : DenseShape) {x y : Nat} (hx : x < s.rows) (hy : y < s.cols) :
    s.addr x y < s.size := by
  rw [addr_eq_slot]
  exact slot_lt hx hy

theorem dense_addr_inj (s : DenseShape) {x y x' y' : Nat}
    (hy : y < s.cols) (hy' : y' < s.cols)
    (h : s.addr x y = s.addr x' y') : x = x' ∧ y = y' := by
  rw [addr_eq_slot, addr_eq_slot] at h
  exact slot_inj hy hy' h

theorem visitSlots_length (s : DenseShape) : (visitSlots s).length = s.rows * s.cols := by
  unfold visitSlots
  by_cases hL : s.L = 0
  · simp [hL]
  · simp only [hL, if_false, List.length_append, List.length_range, List.length_flatMap,
      List.length_map, List.map_const', List.sum_replicate_nat]
    have h := Nat.div_add_mod s.rows s.L
    calc s.rows / s.L * s.L * s.cols + s.cols * (s.rows % s.L)
        = (s.L * (s.rows / s.L) + s.rows % s.L) * s.cols := by
          rw [Nat.add_mul, Nat.mul_comm s.L, Nat.mul_comm s.cols]
      _ = s.rows * s.cols := by rw [h]

theorem nodup_tail (n L m cols : Nat) (hm : m ≤ L) :
    ((List.range cols).flatMap fun i => (List.range m).map fun j => n + i * L + j).Nodup := by
  rw [List.nodup_iff_pairwise_ne, List.pairwise_flatMap]
  refine ⟨?_, ?_⟩
  · intro i _
    rw [List.pairwise_map]
    apply List.Pairwise.imp _ (List.nodup_iff_pairwise_ne.mp List.nodup_range)
    intro a b h; omega
  · apply List.Pairwise.imp _ (List.nodup_iff_pairwise_ne.mp List.nodup_range)
    intro i i' hne
    simp only [List.mem_map, List.mem_range]
    rintro a ⟨j, hj, rfl⟩ b ⟨j', hj', rfl⟩ h
    have h' : i * L + j = i' * L + j' := by omega
    exact hne (mul_add_inj (by omega) (by omega) h').1

theorem visitSlots_nodup (s : DenseShape) : (visitSlots s).Nodup := by
  unfold visitSlots
  by_cases hL : s.L = 0
  · simp [hL, List.nodup_range]
  · simp only [hL, if_false]
    have hL' : 0 < s.L := Nat.pos_of_ne_zero hL
    rw [List.nodup_append]
    refine ⟨List.nodup_range, nodup_tail _ _ _ _ (Nat.le_of_lt (Nat.mod_lt _ hL')), ?_⟩
    intro a ha b hb
    simp only [List.mem_range, List.mem_flatMap, List.mem_map] at ha hb
    obtain ⟨i, _, j, _, rfl⟩ := hb
    omega

theorem addr_mem_visitSlots (s : DenseShape) {x y : Nat} (hx : x < s.rows) (hy : y < s.cols) :
    s.addr x y ∈ visitSlots s := by
  unfold visitSlots
  by_cases hL : s.L = 0
  · have := dense_addr_lt s hx hy
    simp only [DenseShape.size, hL, if_true] at this
    simp [hL, this]
  · simp only [hL, if_false, List.mem_append, List.mem_range, List.mem_flatMap, List.mem_map]
    have hL' : 0 < s.L := Nat.pos_of_ne_zero hL
    have hxm := Nat.mod_lt x hL'
    by_cases hg : x / s.L < s.rows / s.L
    · left
      simp only [DenseShape.addr, hL, if_false]
      have h1 : x / s.L * s.cols + y < s.rows / s.L * s.cols := mul_add_lt hg hy
      have h2 := mul_add_lt h1 hxm
      rw [Nat.mul_assoc, Nat.mul_comm s.L s.cols, ← Nat.mul_assoc]
      exact h2
    · right
      have hle : x / s.L ≤ s.rows / s.L := Nat.div_le_div_right (Nat.le_of_lt hx)
      have hg' : x / s.L = s.rows / s.L := by omega
      refine ⟨y, hy, x % s.L, ?_, ?_⟩
      · have h1 := Nat.div_add_mod x s.L
        have h2 := Nat.div_add_mod s.rows s.L
        rw [hg'] at h1
        omega
      · simp only [DenseShape.addr, hL, if_false, hg']
        rw [Nat.add_mul]; ac_rfl

theorem visitSlots_mem_addr (s : DenseShape) {a : Nat} (ha : a ∈ visitSlots s) :
    ∃ x y, x < s.rows ∧ y < s.cols ∧ s.addr x y = a := by
  unfold visitSlots at ha
  by_cases hL : s.L = 0
  · simp only [hL, if_true, List.mem_range] at ha
    have hc : 0 < s.cols := by
      rcases Nat.eq_zero_or_pos s.cols with h | h
      · rw [h] at ha; simp at ha
      · exact h
    refine ⟨a / s.cols, a % s.cols, ?_, Nat.mod_lt _ hc, ?_⟩
    · rw [Nat.div_lt_iff_lt_mul hc]; exact ha
    · simp only [DenseShape.addr, hL, if_true]
      rw [Nat.mul_comm]; exact Nat.div_add_mod a s.cols
  · simp only [hL, if_false, List.mem_append, List.mem_range, List.mem_flatMap, List.mem_map] at ha
    have hL' : 0 < s.L := Nat.pos_of_ne_zero hL
    rcases ha with ha | ⟨i, hi, j, hj, rfl⟩
    · have hc : 0 < s.cols := by
        rcases Nat.eq_zero_or_pos s.cols with h | h
        · rw [h] at ha; simp at ha
        · exact h
      -- a = q * L + l,  q = g * cols + y
      have hq : a / s.L < s.rows / s.L * s.cols := by
        rw [Nat.div_lt_iff_lt_mul hL']
        rw [Nat.mul_assoc, Nat.mul_comm s.L s.cols, ← Nat.mul_assoc] at ha
        exact ha
      have hg : a / s.L / s.cols < s.rows / s.L := by
        rw [Nat.div_lt_iff_lt_mul hc]; exact hq
      have hl := Nat.mod_lt a hL'
      refine ⟨a / s.L / s.cols * s.L + a % s.L, a / s.L % s.cols, ?_, Nat.mod_lt _ hc, ?_⟩
      · have h1 := mul_add_lt hg hl
        have h2 : s.rows / s.L * s.L ≤ s.rows := Nat.div_mul_le_self _ _
        omega
      · simp only [DenseShape.addr, hL, if_false, mul_add_div hl, mul_add_mod hl]
        have h1 : a / s.L / s.cols * s.cols + a / s.L % s.cols = a / s.L := by
          rw [Nat.mul_comm]; exact Nat.div_add_mod _ _
        rw [h1, Nat.mul_comm]; exact Nat.div_add_mod _ _
    · have hjl : j < s.L := Nat.lt_trans hj (Nat.mod_lt _ hL')
      refine ⟨s.rows / s.L * s.L + j, i, ?_, hi, ?_⟩
      · have h2 := Nat.div_add_mod s.rows s.L
        have h3 : s.rows / s.L * s.L = s.L * (s.rows / s.L) := Nat.mul_comm _ _
        omega
      · simp only [DenseShape.addr, hL, if_false, mul_add_div hjl, mul_add_mod hjl]
        rw [Nat.add_mul]; ac_rfl

end Micm
