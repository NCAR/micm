import Micm.Lemmas.Substitution
import Micm.Spec.SparseStage

/-!
C03, numeric side: the per-cell Doolittle kernels (`doolittleCell`, `doolittleInPlaceCell`) driven
by the tables of `doolittleRows` / `doolittleInPlaceRows`.  Row `i` of the tables computes, read
through the patterns (`view`), row `i` of `U` and column `i` of `L` of dense Doolittle from the
finished rows and columns `< i`; off the patterns the dense factors vanish
(`SparseLU.dense_off`), so the views of the results are the dense factors of the view of `A`.
The last section composes this with the substitution kernels (C04): `Factor` then `Solve` solves
`A y = b`.

The sparse addressing is abstracted by `GoodPattern` (ranks of present elements are in range and
injective), proved for `Pattern.mk'` in `LUCellBridge.lean` (`GoodPattern_of_Good` with `good_mk`); it is
used only to say what a write does to a view (`view_wr`).
-/
open Finset
namespace Micm
open DenseLU (LU)
open SparseLU (Closed)
variable {K : Type} [Field K]

def pres (p : Pattern) (r c : Nat) : Bool := !p.zero? r c

theorem pres_true (p : Pattern) (r c : Nat) : pres p r c = true ↔ p.zero? r c = false := by
  simp [pres]

theorem pres_false (p : Pattern) (r c : Nat) : pres p r c = false ↔ p.zero? r c = true := by
  simp [pres]

structure GoodPattern (n : Nat) (p : Pattern) : Prop where
  rk_lt : ∀ r c, r < n → c < n → p.zero? r c = false → p.rk r c < p.nnz
  rk_inj : ∀ r c r' c', r < n → c < n → r' < n → c' < n →
    p.zero? r c = false → p.zero? r' c' = false → p.rk r c = p.rk r' c' → r = r' ∧ c = c'

section write
variable {n : Nat} {p : Pattern}

theorem GoodPattern.rk_ne (g : GoodPattern n p) {r c r' c' : Nat}
    (hr : r < n) (hc : c < n) (hr' : r' < n) (hc' : c' < n) (hp : p.zero? r c = false)
    (hp' : p.zero? r' c' = false) (hne : ¬ (r = r' ∧ c = c')) : p.rk r c ≠ p.rk r' c' :=
  fun heq => hne (g.rk_inj r c r' c' hr hc hr' hc' hp hp' heq)

theorem view_wr (g : GoodPattern n p) (a : Array K) (ha : a.size = p.nnz)
    {r c : Nat} (hr : r < n) (hc : c < n) (hp : p.zero? r c = false) (v : K)
    {r' c' : Nat} (hr' : r' < n) (hc' : c' < n) :
    view p (wr a (p.rk r c) v) r' c' = if r' = r ∧ c' = c then v else view p a r' c' := by
  cases hp' : p.zero? r' c'
  · rw [view_present _ _ _ _ hp', view_present _ _ _ _ hp']
    split
    · next h =>
      obtain ⟨rfl, rfl⟩ := h
      exact rd_wr_same _ _ _ (by rw [ha]; exact g.rk_lt _ _ hr hc hp)
    · next h =>
      exact rd_wr_ne _ _ _ _ (g.rk_ne hr hc hr' hc' hp hp' fun h' => h ⟨h'.1.symm, h'.2.symm⟩)
  · rw [view_absent _ _ _ _ hp', view_absent _ _ _ _ hp', if_neg]
    rintro ⟨rfl, rfl⟩
    rw [hp] at hp'; cases hp'

/-- a phase of single writes: step `k` (when `P k`) writes the present element `(pr k, pc k)` with
    `val k`, computed from its old value and from elements no step of the phase writes -/
theorem phase_slots {β : Type} (g : GoodPattern n p) (a b : Nat)
    (f : Nat → Option β) (step : Array K → β → Array K) (M0 : Array K) (hM0 : M0.size = p.nnz)
    (pr pc : Nat → Nat) (P : Nat → Prop) (val : Nat → K)
    (hf : ∀ k e, a ≤ k → k < b → f k = some e → P k)
    (hpos : ∀ k, a ≤ k → k < b → P k → pr k < n ∧ pc k < n ∧ p.zero? (pr k) (pc k) = false)
    (hinj : ∀ k k', P k → P k' → pr k = pr k' → pc k = pc k' → k = k')
    (hstep : ∀ M k e, a ≤ k → k < b → f k = some e → M.size = p.nnz →
      (∀ r c, r < n → c < n → (∀ k', a ≤ k' → k' < b → P k' → ¬ (r = pr k' ∧ c = pc k')) →
        view p M r c = view p M0 r c) →
      view p M (pr k) (pc k) = view p M0 (pr k) (pc k) →
      step M e = wr M (p.rk (pr k) (pc k)) (val k)) :
    (((rangeFrom a b).filterMap f).foldl step M0).size = p.nnz ∧
    (∀ r c, r < n → c < n → (∀ k, a ≤ k → k < b → P k → ¬ (r = pr k ∧ c = pc k)) →
      view p (((rangeFrom a b).filterMap f).foldl step M0) r c = view p M0 r c) ∧
    (∀ k e, a ≤ k → k < b → f k = some e →
      view p (((rangeFrom a b).filterMap f).foldl step M0) (pr k) (pc k) = val k) := by
  obtain ⟨g1, g2, g3⟩ := phase_blocks (fun (M : Array K) (x : Nat × Nat) => view p M x.1 x.2)
    (fun M => M.size = p.nnz) (fun x => x.1 < n ∧ x.2 < n) a b f step M0 hM0
    (fun k _ => (pr k, pc k)) (fun k _ => P k) (fun k _ => val k)
    (fun k _ h1 h2 hp => ⟨(hpos k h1 h2 hp).1, (hpos k h1 h2 hp).2.1⟩)
    (fun k k' _ _ _ _ _ _ hp hp' heq => hinj k k' hp hp' (Prod.mk.inj heq).1 (Prod.mk.inj heq).2)
    (by
      intro M k e h1 h2 he hMs hM hown
      have hP := hf k e h1 h2 he
      obtain ⟨hr, hc, hp⟩ := hpos k h1 h2 hP
      rw [hstep M k e h1 h2 he hMs
        (fun r c hr' hc' hne => hM (r, c) ⟨hr', hc'⟩ fun k' _ a1 a2 a3 heq =>
          hne k' a1 a2 a3 ⟨(Prod.mk.inj heq).1, (Prod.mk.inj heq).2⟩) (hown 0 hP)]
      refine ⟨by rw [wr_size, hMs], fun _ _ => ?_, fun x hx hne => ?_⟩
      · rw [view_wr g M hMs hr hc hp _ hr hc, if_pos ⟨rfl, rfl⟩]
      · rw [view_wr g M hMs hr hc hp _ hx.1 hx.2, if_neg fun h' => hne 0 hP (Prod.ext h'.1 h'.2)])
  exact ⟨g1, fun r c hr hc hne => g2 (r, c) ⟨hr, hc⟩ fun k _ h1 h2 hp heq =>
    hne k h1 h2 hp ⟨(Prod.mk.inj heq).1, (Prod.mk.inj heq).2⟩, fun k e h1 h2 he =>
    g3 k e 0 h1 h2 he (hf k e h1 h2 he)⟩

end write

def pairsOf (Lp Up : Pattern) (m r c : Nat) : List (Nat × Nat) :=
  (List.range m).filterMap fun j =>
    if Lp.zero? r j || Up.zero? j c then none else some (Lp.rk r j, Up.rk j c)

theorem mem_pairsOf (Lp Up : Pattern) (m r c : Nat) (p : Nat × Nat) (h : p ∈ pairsOf Lp Up m r c) :
    ∃ j, j < m ∧ Lp.zero? r j = false ∧ Up.zero? j c = false ∧ p = (Lp.rk r j, Up.rk j c) := by
  obtain ⟨j, hj, hg⟩ := mem_filterMap_range _ _ _ h
  cases h1 : Lp.zero? r j <;> cases h2 : Up.zero? j c <;> simp [h1, h2] at hg
  exact ⟨j, hj, h1, h2, hg.symm⟩

theorem pairsOf_ne_nil (Lp Up : Pattern) (m r c j : Nat) (hj : j < m)
    (h1 : Lp.zero? r j = false) (h2 : Up.zero? j c = false) : pairsOf Lp Up m r c ≠ [] := by
  intro h
  have : (Lp.rk r j, Up.rk j c) ∈ pairsOf Lp Up m r c := by
    unfold pairsOf
    rw [List.mem_filterMap]
    exact ⟨j, List.mem_range.mpr hj, by simp [h1, h2]⟩
  rw [h] at this
  cases this

theorem exists_of_pairsOf_ne_nil (Lp Up : Pattern) (m r c : Nat) (h : pairsOf Lp Up m r c ≠ []) :
    ∃ j, j < m ∧ Lp.zero? r j = false ∧ Up.zero? j c = false := by
  obtain ⟨p, hp⟩ := List.exists_mem_of_ne_nil _ h
  obtain ⟨j, h1, h2, h3, _⟩ := mem_pairsOf _ _ _ _ _ _ hp
  exact ⟨j, h1, h2, h3⟩

/-- the pairs skipped are those where one view reads `0` -/
theorem sum_pairsOf (Lp Up : Pattern) (m r c : Nat) (L U : Array K) :
    ((pairsOf Lp Up m r c).map fun p => rd L p.1 * rd U p.2).sum
      = ∑ j ∈ range m, view Lp L r j * view Up U j c := by
  unfold pairsOf
  rw [sum_filterMap_range]
  refine sum_congr rfl fun j _ => ?_
  cases h1 : Lp.zero? r j <;> cases h2 : Up.zero? j c <;> simp [view, h1, h2]

def uEntry (A Lp Up : Pattern) (i k : Nat) : Option DEntry :=
  if A.zero? i k then
    if (pairsOf Lp Up i i k).isEmpty && k != i then none else some ⟨none, Up.rk i k, pairsOf Lp Up i i k⟩
  else some ⟨some (A.rk i k), Up.rk i k, pairsOf Lp Up i i k⟩

def lEntry (A Lp Up : Pattern) (i k : Nat) : Option DEntry :=
  if A.zero? k i then
    if (pairsOf Lp Up i k i).isEmpty then none else some ⟨none, Lp.rk k i, pairsOf Lp Up i k i⟩
  else some ⟨some (A.rk k i), Lp.rk k i, pairsOf Lp Up i k i⟩

def dRow (A Lp Up : Pattern) (n i : Nat) : DRow :=
  { u := (rangeFrom i n).filterMap (uEntry A Lp Up i), lii := Lp.rk i i,
    l := (rangeFrom (i + 1) n).filterMap (lEntry A Lp Up i), uii := Up.rk i i }

theorem doolittleRows_eq (A Lp Up : Pattern) :
    doolittleRows A Lp Up = (List.range A.n).map (dRow A Lp Up A.n) := rfl

def dInit (A : Array K) (a : Option Nat) : K := match a with | some a => rd A a | none => 0

def dStepU (A L : Array K) (U : Array K) (e : DEntry) : Array K :=
  let U := wr U e.t (dInit A e.a)
  e.pairs.foldl (fun U p => wr U e.t (rd U e.t - rd L p.1 * rd U p.2)) U

def dStepL (A U : Array K) (uii : Nat) (L : Array K) (e : DEntry) : Array K :=
  let L := wr L e.t (dInit A e.a)
  let L := e.pairs.foldl (fun L p => wr L e.t (rd L e.t - rd L p.1 * rd U p.2)) L
  wr L e.t (rd L e.t / rd U uii)

def dStep (A : Array K) (LU : Array K × Array K) (r : DRow) : Array K × Array K :=
  let U := r.u.foldl (dStepU A LU.1) LU.2
  let L := wr LU.1 r.lii 1
  let L := r.l.foldl (dStepL A U r.uii) L
  (L, U)

theorem doolittleCell_eq (rows : List DRow) (A : Array K) (LU : Array K × Array K) :
    doolittleCell rows A LU = rows.foldl (dStep A) LU := rfl

/-- `closed`: diagonal of `U` present, support of `A` contained, closed under the two fill rules (DESIGN.md, A.5).
    `minU`/`minL`: the patterns are not larger than the fill closure; otherwise `Initialize` emits no entry for
    the extra slot and it keeps its prior contents. -/
structure LUSetup (n : Nat) (A Lp Up : Pattern) : Prop where
  gL : GoodPattern n Lp
  gU : GoodPattern n Up
  closed : Closed n (pres A) (pres Lp) (pres Up)
  diagL : ∀ i, i < n → Lp.zero? i i = false
  lowL : ∀ r c, r < n → c < n → Lp.zero? r c = false → c ≤ r
  uppU : ∀ r c, r < n → c < n → Up.zero? r c = false → r ≤ c
  minU : ∀ i k, i < k → k < n → Up.zero? i k = false →
    A.zero? i k = false ∨ ∃ j, j < i ∧ Lp.zero? i j = false ∧ Up.zero? j k = false
  minL : ∀ i k, i < k → k < n → Lp.zero? k i = false →
    A.zero? k i = false ∨ ∃ j, j < i ∧ Lp.zero? k j = false ∧ Up.zero? j i = false

theorem dInit_view (A : Pattern) (a : Array K) (r c : Nat) :
    dInit a (if A.zero? r c then none else some (A.rk r c)) = view A a r c := by
  cases hz : A.zero? r c <;> simp [dInit, view, hz]

theorem uEntry_some (A Lp Up : Pattern) (i k : Nat) (e : DEntry) (h : uEntry A Lp Up i k = some e) :
    e.t = Up.rk i k ∧ e.pairs = pairsOf Lp Up i i k ∧
    e.a = (if A.zero? i k then none else some (A.rk i k)) ∧
    (A.zero? i k = false ∨ k = i ∨ pairsOf Lp Up i i k ≠ []) := by
  unfold uEntry at h
  cases hz : A.zero? i k
  · simp only [hz, Bool.false_eq_true, if_false, Option.some.injEq] at h
    subst h
    exact ⟨rfl, rfl, by simp, Or.inl rfl⟩
  · simp only [hz, if_true] at h
    split at h
    · cases h
    · next hc =>
      simp only [Option.some.injEq] at h
      subst h
      refine ⟨rfl, rfl, by simp, Or.inr ?_⟩
      by_cases hk : k = i
      · exact Or.inl hk
      · right
        intro hnil
        apply hc
        simp [hnil, hk]

theorem lEntry_some (A Lp Up : Pattern) (i k : Nat) (e : DEntry) (h : lEntry A Lp Up i k = some e) :
    e.t = Lp.rk k i ∧ e.pairs = pairsOf Lp Up i k i ∧
    e.a = (if A.zero? k i then none else some (A.rk k i)) ∧
    (A.zero? k i = false ∨ pairsOf Lp Up i k i ≠ []) := by
  unfold lEntry at h
  cases hz : A.zero? k i
  · simp only [hz, Bool.false_eq_true, if_false, Option.some.injEq] at h
    subst h
    exact ⟨rfl, rfl, by simp, Or.inl rfl⟩
  · simp only [hz, if_true] at h
    split at h
    · cases h
    · next hc =>
      simp only [Option.some.injEq] at h
      subst h
      refine ⟨rfl, rfl, by simp, Or.inr ?_⟩
      intro hnil
      apply hc
      simp [hnil]

section setup
variable {n : Nat} {A Lp Up : Pattern}

theorem uEntry_present (h : LUSetup n A Lp Up) (i k : Nat) (hik : i ≤ k) (hk : k < n)
    (e : DEntry) (he : uEntry A Lp Up i k = some e) : Up.zero? i k = false := by
  obtain ⟨_, _, _, h4⟩ := uEntry_some A Lp Up i k e he
  rw [← pres_true]
  rcases h4 with h4 | h4 | h4
  · exact h.closed.supU i k hik hk ((pres_true _ _ _).mpr h4)
  · subst h4; exact h.closed.diagU k hk
  · obtain ⟨j, hj, h1, h2⟩ := exists_of_pairsOf_ne_nil _ _ _ _ _ h4
    exact h.closed.fillU i j k hj hik hk ((pres_true _ _ _).mpr h1) ((pres_true _ _ _).mpr h2)

theorem lEntry_present (h : LUSetup n A Lp Up) (i k : Nat) (hik : i < k) (hk : k < n)
    (e : DEntry) (he : lEntry A Lp Up i k = some e) : Lp.zero? k i = false := by
  obtain ⟨_, _, _, h4⟩ := lEntry_some A Lp Up i k e he
  rw [← pres_true]
  rcases h4 with h4 | h4
  · exact h.closed.supL k i hik hk ((pres_true _ _ _).mpr h4)
  · obtain ⟨j, hj, h1, h2⟩ := exists_of_pairsOf_ne_nil _ _ _ _ _ h4
    exact h.closed.fillL i j k hj hik hk ((pres_true _ _ _).mpr h1) ((pres_true _ _ _).mpr h2)

theorem uEntry_isSome (h : LUSetup n A Lp Up) (i k : Nat) (hik : i ≤ k) (hk : k < n)
    (hp : Up.zero? i k = false) : ∃ e, uEntry A Lp Up i k = some e := by
  unfold uEntry
  cases hz : A.zero? i k
  · simp
  · by_cases hki : k = i
    · simp [hki]
    · rcases h.minU i k (Nat.lt_of_le_of_ne hik (Ne.symm hki)) hk hp with h1 | ⟨j, hj, h1, h2⟩
      · rw [hz] at h1; cases h1
      · have := pairsOf_ne_nil Lp Up i i k j hj h1 h2
        simp [this]

theorem lEntry_isSome (h : LUSetup n A Lp Up) (i k : Nat) (hik : i < k) (hk : k < n)
    (hp : Lp.zero? k i = false) : ∃ e, lEntry A Lp Up i k = some e := by
  unfold lEntry
  cases hz : A.zero? k i
  · simp
  · rcases h.minL i k hik hk hp with h1 | ⟨j, hj, h1, h2⟩
    · rw [hz] at h1; cases h1
    · have := pairsOf_ne_nil Lp Up i k i j hj h1 h2
      simp [this]

theorem dStepU_view (h : LUSetup n A Lp Up) (a L M : Array K) (hM : M.size = Up.nnz) (i k : Nat)
    (hi : i < n) (hik : i ≤ k) (hk : k < n) (e : DEntry) (he : uEntry A Lp Up i k = some e) :
    dStepU a L M e
      = wr M (Up.rk i k) (view A a i k - ∑ j ∈ range i, view Lp L i j * view Up M j k) := by
  obtain ⟨e1, e2, e3, _⟩ := uEntry_some A Lp Up i k e he
  have hpk := uEntry_present h i k hik hk e he
  unfold dStepU
  rw [e1, e2, e3, dInit_view, accum_init (fun (U : Array K) (p : Nat × Nat) => rd L p.1 * rd U p.2)
    _ _ M (by rw [hM]; exact h.gU.rk_lt i k hi hk hpk), sum_pairsOf]
  -- the pairs read rows `j < i`
  intro p hp v
  obtain ⟨j, hj, _, hj2, rfl⟩ := mem_pairsOf _ _ _ _ _ _ hp
  show rd L _ * rd (wr M _ v) (Up.rk j k) = _
  rw [rd_wr_ne _ _ _ _ (h.gU.rk_ne hi hk (hj.trans hi) hk hpk hj2 fun hh => hj.ne' hh.1)]

theorem dStepL_view (h : LUSetup n A Lp Up) (a U M : Array K) (hM : M.size = Lp.nnz) (i k : Nat)
    (hi : i < n) (hik : i < k) (hk : k < n) (e : DEntry) (he : lEntry A Lp Up i k = some e) :
    dStepL a U (Up.rk i i) M e
      = wr M (Lp.rk k i)
          ((view A a k i - ∑ j ∈ range i, view Lp M k j * view Up U j i) / view Up U i i) := by
  obtain ⟨e1, e2, e3, _⟩ := lEntry_some A Lp Up i k e he
  have hpk := lEntry_present h i k hik hk e he
  have ht : Lp.rk k i < M.size := by rw [hM]; exact h.gL.rk_lt k i hk hi hpk
  simp only [dStepL, e1, e2, e3, dInit_view]
  rw [accum_init (fun (L : Array K) (p : Nat × Nat) => rd L p.1 * rd U p.2)
    _ _ M ht, sum_pairsOf, rd_wr_same _ _ _ ht, wr_wr_same,
    view_present _ _ _ _ ((pres_true _ _ _).mp (h.closed.diagU i hi))]
  -- the pairs read columns `j < i`
  intro p hp v
  obtain ⟨j, hj, hj1, _, rfl⟩ := mem_pairsOf _ _ _ _ _ _ hp
  show rd (wr M _ v) (Lp.rk k j) * _ = _
  rw [rd_wr_ne _ _ _ _ (h.gL.rk_ne hk hi hk (hj.trans hi) hpk hj1 fun hh => hj.ne' hh.2)]

end setup

section phases
variable {n : Nat} {A Lp Up : Pattern}

theorem uPhase (h : LUSetup n A Lp Up) (a L U0 : Array K) (i : Nat) (hi : i < n)
    (hUs : U0.size = Up.nnz) :
    (((rangeFrom i n).filterMap (uEntry A Lp Up i)).foldl (dStepU a L) U0).size = Up.nnz ∧
    (∀ k, i ≤ k → k < n → Up.zero? i k = false →
      view Up (((rangeFrom i n).filterMap (uEntry A Lp Up i)).foldl (dStepU a L) U0) i k
        = view A a i k - ∑ j ∈ range i, view Lp L i j * view Up U0 j k) ∧
    (∀ r c, r < n → c < n → ¬ (r = i ∧ i ≤ c) →
      view Up (((rangeFrom i n).filterMap (uEntry A Lp Up i)).foldl (dStepU a L) U0) r c
        = view Up U0 r c) := by
  obtain ⟨g1, g2, g3⟩ := phase_slots h.gU i n (uEntry A Lp Up i) (dStepU a L) U0 hUs
    (fun _ => i) (fun k => k) (fun k => Up.zero? i k = false)
    (fun k => view A a i k - ∑ j ∈ range i, view Lp L i j * view Up U0 j k)
    (fun k e h1 h2 he => uEntry_present h i k h1 h2 e he)
    (fun k h1 h2 hp => ⟨hi, h2, hp⟩) (fun k k' _ _ _ hc => hc)
    (by
      intro M k e h1 h2 he hMs hM _
      -- rows `j < i` are not written
      rw [dStepU_view h a L M hMs i k hi h1 h2 e he, sum_congr rfl fun j hj => by
        have hj' := mem_range.mp hj
        rw [hM j k (hj'.trans hi) h2 (fun k' _ _ _ hh => hj'.ne hh.1)]])
  refine ⟨g1, fun k h1 h2 hp => ?_, fun r c hr hc hne => g2 r c hr hc fun k h1 _ _ hh =>
    hne ⟨hh.1, hh.2 ▸ h1⟩⟩
  obtain ⟨e, he⟩ := uEntry_isSome h i k h1 h2 hp
  exact g3 k e h1 h2 he

theorem lPhase (h : LUSetup n A Lp Up) (a U1 L0 : Array K) (i : Nat) (hi : i < n)
    (hLs : L0.size = Lp.nnz) :
    (((rangeFrom (i + 1) n).filterMap (lEntry A Lp Up i)).foldl (dStepL a U1 (Up.rk i i))
        (wr L0 (Lp.rk i i) 1)).size = Lp.nnz ∧
    (∀ k, i < k → k < n → Lp.zero? k i = false →
      view Lp (((rangeFrom (i + 1) n).filterMap (lEntry A Lp Up i)).foldl
          (dStepL a U1 (Up.rk i i)) (wr L0 (Lp.rk i i) 1)) k i
        = (view A a k i - ∑ j ∈ range i, view Lp L0 k j * view Up U1 j i) / view Up U1 i i) ∧
    view Lp (((rangeFrom (i + 1) n).filterMap (lEntry A Lp Up i)).foldl (dStepL a U1 (Up.rk i i))
        (wr L0 (Lp.rk i i) 1)) i i = 1 ∧
    (∀ r c, r < n → c < n → ¬ (c = i ∧ i ≤ r) →
      view Lp (((rangeFrom (i + 1) n).filterMap (lEntry A Lp Up i)).foldl
          (dStepL a U1 (Up.rk i i)) (wr L0 (Lp.rk i i) 1)) r c = view Lp L0 r c) := by
  have hL1 : ∀ r c, r < n → c < n → view Lp (wr L0 (Lp.rk i i) 1) r c
      = if r = i ∧ c = i then 1 else view Lp L0 r c :=
    fun r c hr hc => view_wr h.gL L0 hLs hi hi (h.diagL i hi) 1 hr hc
  obtain ⟨g1, g2, g3⟩ := phase_slots h.gL (i + 1) n (lEntry A Lp Up i)
    (dStepL a U1 (Up.rk i i)) (wr L0 (Lp.rk i i) 1) (by rw [wr_size, hLs])
    (fun k => k) (fun _ => i) (fun k => Lp.zero? k i = false)
    (fun k => (view A a k i - ∑ j ∈ range i, view Lp L0 k j * view Up U1 j i) / view Up U1 i i)
    (fun k e h1 h2 he => lEntry_present h i k h1 h2 e he)
    (fun k h1 h2 hp => ⟨h2, hi, hp⟩) (fun k k' _ _ hr _ => hr)
    (by
      intro M k e h1 h2 he hMs hM _
      -- columns `j < i` are not written
      rw [dStepL_view h a U1 M hMs i k hi h1 h2 e he, sum_congr rfl fun j hj => by
        have hj' := mem_range.mp hj
        rw [hM k j h2 (hj'.trans hi) (fun k' _ _ _ hh => hj'.ne hh.2),
          hL1 k j h2 (hj'.trans hi), if_neg fun hh => hj'.ne hh.2]])
  refine ⟨g1, fun k h1 h2 hp => ?_, ?_, fun r c hr hc hne => ?_⟩
  · obtain ⟨e, he⟩ := lEntry_isSome h i k h1 h2 hp
    exact g3 k e h1 h2 he
  · rw [g2 i i hi hi fun k h1 _ _ hh => Nat.lt_irrefl i (hh.1 ▸ h1), hL1 i i hi hi,
      if_pos ⟨rfl, rfl⟩]
  · rw [g2 r c hr hc fun k h1 _ _ hh => hne ⟨hh.2, hh.1 ▸ Nat.le_of_lt h1⟩, hL1 r c hr hc,
      if_neg fun hh => hne ⟨hh.2, Nat.le_of_eq hh.1.symm⟩]

end phases

section rows
variable {n : Nat} {A Lp Up : Pattern}

theorem closed_dense_off (hc : Closed n (pres A) (pres Lp) (pres Up)) (Am : Nat → Nat → K)
    (hA : ∀ r c, pres A r c = false → Am r c = 0) :
    (∀ r c, r ≤ c → c < n → Up.zero? r c = true → (DenseLU.lu Am n).U r c = 0) ∧
    (∀ r c, c < r → r < n → Lp.zero? r c = true → (DenseLU.lu Am n).L r c = 0) :=
  ⟨fun r c hrc hcn hp => (SparseLU.dense_off hc Am hA).1 r c hrc hcn ((pres_false _ _ _).mpr hp),
    fun r c hcr hrn hp => (SparseLU.dense_off hc Am hA).2 r c hcr hrn ((pres_false _ _ _).mpr hp)⟩

theorem view_support (A : Pattern) (a : Array K) (r c : Nat) (hp : pres A r c = false) :
    view A a r c = 0 :=
  view_absent _ _ _ _ ((pres_false _ _ _).mp hp)

structure Final (n : Nat) (Lp Up : Pattern) (d : LU K) (i : Nat) (L U : Array K) : Prop where
  U_fin : ∀ r c, r < i → r ≤ c → c < n → view Up U r c = d.U r c
  L_fin : ∀ r c, c < i → c < r → r < n → view Lp L r c = d.L r c
  L_diag : ∀ r, r < i → view Lp L r r = 1

theorem views_eq_dense {d : LU K} {L U : Array K} (hsh : DenseLU.Shape n d)
    (lowL : ∀ r c, r < n → c < n → Lp.zero? r c = false → c ≤ r)
    (uppU : ∀ r c, r < n → c < n → Up.zero? r c = false → r ≤ c)
    (hU : ∀ r c, r ≤ c → c < n → view Up U r c = d.U r c)
    (hL : ∀ r c, c < r → r < n → view Lp L r c = d.L r c)
    (hd : ∀ r, r < n → view Lp L r r = 1) (r c : Nat) (hr : r < n) (hc : c < n) :
    view Lp L r c = d.L r c ∧ view Up U r c = d.U r c := by
  constructor
  · rcases Nat.lt_trichotomy c r with h | rfl | h
    · exact hL r c h hr
    · rw [hd c hc, hsh.L_diag c hc]
    · rw [hsh.L_up r c h, view_absent]
      cases hp : Lp.zero? r c
      · exact absurd (lowL r c hr hc hp) (Nat.not_le.mpr h)
      · rfl
  · by_cases h : r ≤ c
    · exact hU r c h hc
    · rw [hsh.U_low r c (Nat.not_le.mp h), view_absent]
      cases hp : Up.zero? r c
      · exact absurd (uppU r c hr hc hp) h
      · rfl

theorem dStep_final (h : LUSetup n A Lp Up) (a L U : Array K) (i : Nat) (hi : i < n)
    (hLs : L.size = Lp.nnz) (hUs : U.size = Up.nnz)
    (hf : Final n Lp Up (DenseLU.lu (view A a) n) i L U) :
    (dStep a (L, U) (dRow A Lp Up n i)).1.size = Lp.nnz ∧
    (dStep a (L, U) (dRow A Lp Up n i)).2.size = Up.nnz ∧
    Final n Lp Up (DenseLU.lu (view A a) n) (i + 1)
      (dStep a (L, U) (dRow A Lp Up n i)).1 (dStep a (L, U) (dRow A Lp Up n i)).2 := by
  obtain ⟨offU, offL⟩ := closed_dense_off h.closed (view A a) (view_support A a)
  obtain ⟨u1, u2, u3⟩ := uPhase h a L U i hi hUs
  simp only [dStep, dRow]
  generalize ((rangeFrom i n).filterMap (uEntry A Lp Up i)).foldl (dStepU a L) U = U1 at u1 u2 u3
  obtain ⟨l1, l2, l3, l4⟩ := lPhase h a U1 L i hi hLs
  generalize ((rangeFrom (i + 1) n).filterMap (lEntry A Lp Up i)).foldl (dStepL a U1 (Up.rk i i))
        (wr L (Lp.rk i i) 1) = L2 at l1 l2 l3 l4
  -- row `i` of `U`: the defining equation of the dense factor, read on finished rows and columns
  have hUi : ∀ c, i ≤ c → c < n → view Up U1 i c = (DenseLU.lu (view A a) n).U i c := by
    intro c hic hc
    cases hp : Up.zero? i c
    · rw [u2 c hic hc hp, DenseLU.lu_U_eq _ n i c hi hic]
      exact congrArg _ (sum_congr rfl fun j hj => by
        have := mem_range.mp hj
        rw [hf.L_fin i j this this hi, hf.U_fin j c this (this.trans_le hic).le hc])
    · rw [view_absent _ _ _ _ hp, offU i c hic hc hp]
  refine ⟨l1, u1, ⟨fun r c hr hrc hc => ?_, fun r c hc hcr hr => ?_, fun r hr => ?_⟩⟩
  · rcases Nat.lt_succ_iff_lt_or_eq.mp hr with hlt | rfl
    · rw [u3 r c (hlt.trans hi) hc fun hh => hlt.ne hh.1]; exact hf.U_fin r c hlt hrc hc
    · exact hUi c hrc hc
  · rcases Nat.lt_succ_iff_lt_or_eq.mp hc with hlt | rfl
    · rw [l4 r c hr (hlt.trans hi) fun hh => hlt.ne hh.1]; exact hf.L_fin r c hlt hcr hr
    · cases hp : Lp.zero? r c
      · rw [l2 r hcr hr hp, hUi c (le_refl c) hi, DenseLU.lu_L_eq _ n c r hi hcr]
        congr 2
        exact sum_congr rfl fun j hj => by
          have hj' := mem_range.mp hj
          rw [hf.L_fin r j hj' (hj'.trans hcr) hr, u3 j c (hj'.trans hi) hi fun hh => hj'.ne hh.1,
            hf.U_fin j c hj' hj'.le hi]
      · rw [view_absent _ _ _ _ hp, offL r c hcr hr hp]
  · rcases Nat.lt_succ_iff_lt_or_eq.mp hr with hlt | rfl
    · rw [l4 r r (hlt.trans hi) (hlt.trans hi) fun hh => hlt.ne hh.1]; exact hf.L_diag r hlt
    · exact l3

/-- C03 core for `doolittleCell`: on the block, the logical views of the results are the dense
    Doolittle factors of the logical view of `A`, whatever the arrays `l0`, `u0` held before. -/
theorem doolittleCell_view (h : LUSetup n A Lp Up) (hn : A.n = n) (a l0 u0 : Array K)
    (hLs : l0.size = Lp.nnz) (hUs : u0.size = Up.nnz) (r c : Nat) (hr : r < n) (hc : c < n) :
    view Lp (doolittleCell (doolittleRows A Lp Up) a (l0, u0)).1 r c
        = (DenseLU.lu (view A a) n).L r c ∧
    view Up (doolittleCell (doolittleRows A Lp Up) a (l0, u0)).2 r c
        = (DenseLU.lu (view A a) n).U r c := by
  rw [doolittleCell_eq, doolittleRows_eq, hn]
  obtain ⟨_, _, hfin⟩ := foldl_rows_induct (fun i S => S.1.size = Lp.nnz ∧ S.2.size = Up.nnz ∧
      Final n Lp Up (DenseLU.lu (view A a) n) i S.1 S.2) (dRow A Lp Up n) (dStep a) (l0, u0) n
    ⟨hLs, hUs, ⟨fun _ _ h => absurd h (Nat.not_lt_zero _), fun _ _ h => absurd h (Nat.not_lt_zero _),
      fun _ h => absurd h (Nat.not_lt_zero _)⟩⟩
    (fun i hi S hS => dStep_final h a S.1 S.2 i hi hS.1 hS.2.1 hS.2.2)
  exact views_eq_dense (DenseLU.lu_shape _ n) h.lowL h.uppU
    (fun r c hrc hc => hfin.U_fin r c (Nat.lt_of_le_of_lt hrc hc) hrc hc)
    (fun r c hcr hr => hfin.L_fin r c (hcr.trans hr) hcr hr) hfin.L_diag r c hr hc

end rows

def diUEntry (P : Pattern) (i k : Nat) : Option DIEntry :=
  if P.zero? i k then none else some ⟨P.rk i k, pairsOf P P i i k⟩

def diLEntry (P : Pattern) (i k : Nat) : Option DIEntry :=
  if P.zero? k i then none else some ⟨P.rk k i, pairsOf P P i k i⟩

def diRow (P : Pattern) (n i : Nat) : DIRow :=
  { aii := P.rk i i, u := (rangeFrom i n).filterMap (diUEntry P i),
    l := (rangeFrom (i + 1) n).filterMap (diLEntry P i) }

theorem doolittleInPlaceRows_eq (P : Pattern) :
    doolittleInPlaceRows P = (List.range P.n).map (diRow P P.n) := rfl

def diStepU (M : Array K) (e : DIEntry) : Array K :=
  e.pairs.foldl (fun M p => wr M e.t (rd M e.t - rd M p.1 * rd M p.2)) M

def diStepL (aii : Nat) (M : Array K) (e : DIEntry) : Array K :=
  let M := e.pairs.foldl (fun M p => wr M e.t (rd M e.t - rd M p.1 * rd M p.2)) M
  wr M e.t (rd M e.t / rd M aii)

def diStep (M : Array K) (r : DIRow) : Array K :=
  let M := r.u.foldl diStepU M
  r.l.foldl (diStepL r.aii) M

theorem doolittleInPlaceCell_eq (rows : List DIRow) (M : Array K) :
    doolittleInPlaceCell rows M = rows.foldl diStep M := rfl

theorem diUEntry_some (P : Pattern) (i k : Nat) (e : DIEntry) (he : diUEntry P i k = some e) :
    P.zero? i k = false ∧ e = ⟨P.rk i k, pairsOf P P i i k⟩ := by
  unfold diUEntry at he
  cases hz : P.zero? i k <;> simp [hz] at he
  exact ⟨rfl, he.symm⟩

theorem diLEntry_some (P : Pattern) (i k : Nat) (e : DIEntry) (he : diLEntry P i k = some e) :
    P.zero? k i = false ∧ e = ⟨P.rk k i, pairsOf P P i k i⟩ := by
  unfold diLEntry at he
  cases hz : P.zero? k i <;> simp [hz] at he
  exact ⟨rfl, he.symm⟩

def lowB (P : Pattern) (r c : Nat) : Bool := pres P r c && decide (c < r)
def uppB (P : Pattern) (r c : Nat) : Bool := pres P r c && decide (r ≤ c)

theorem lowB_eq (P : Pattern) (r c : Nat) (h : c < r) : lowB P r c = pres P r c := by
  simp [lowB, h]
theorem uppB_eq (P : Pattern) (r c : Nat) (h : r ≤ c) : uppB P r c = pres P r c := by
  simp [uppB, h]

structure IPSetup (n : Nat) (P : Pattern) : Prop where
  g : GoodPattern n P
  diag : ∀ i, i < n → P.zero? i i = false
  fill : ∀ r c j, r < n → c < n → j < r → j < c →
    P.zero? r j = false → P.zero? j c = false → P.zero? r c = false

theorem IPSetup.closed {n : Nat} {P : Pattern} (h : IPSetup n P) :
    Closed n (pres P) (lowB P) (uppB P) where
  diagU := by intro i hi; rw [uppB_eq _ _ _ (le_refl i), pres_true]; exact h.diag i hi
  supU := by intro r c hrc _ hp; rw [uppB_eq _ _ _ hrc]; exact hp
  supL := by intro r c hcr _ hp; rw [lowB_eq _ _ _ hcr]; exact hp
  fillU := by
    intro i j k hj hik hk h1 h2
    rw [lowB_eq _ _ _ hj, pres_true] at h1
    rw [uppB_eq _ _ _ (hj.trans_le hik).le, pres_true] at h2
    rw [uppB_eq _ _ _ hik, pres_true]
    exact h.fill i k j (Nat.lt_of_le_of_lt hik hk) hk hj (hj.trans_le hik) h1 h2
  fillL := by
    intro i j k hj hik hk h1 h2
    rw [lowB_eq _ _ _ (hj.trans hik), pres_true] at h1
    rw [uppB_eq _ _ _ hj.le, pres_true] at h2
    rw [lowB_eq _ _ _ hik, pres_true]
    exact h.fill k i j hk (hik.trans hk) (hj.trans hik) hj h1 h2

theorem IPSetup.dense_off {n : Nat} {P : Pattern} (h : IPSetup n P) (Am : Nat → Nat → K)
    (hA : ∀ r c, pres P r c = false → Am r c = 0) :
    (∀ r c, r ≤ c → c < n → P.zero? r c = true → (DenseLU.lu Am n).U r c = 0) ∧
    (∀ r c, c < r → r < n → P.zero? r c = true → (DenseLU.lu Am n).L r c = 0) :=
  ⟨fun r c hrc hc hp => (SparseLU.dense_off h.closed Am hA).1 r c hrc hc
      (by rw [uppB_eq _ _ _ hrc]; exact (pres_false _ _ _).mpr hp),
    fun r c hcr hr hp => (SparseLU.dense_off h.closed Am hA).2 r c hcr hr
      (by rw [lowB_eq _ _ _ hcr]; exact (pres_false _ _ _).mpr hp)⟩

structure FinalIP (n : Nat) (P : Pattern) (d : LU K) (rest : Nat → Nat → K) (i : Nat)
    (M : Array K) : Prop where
  U_fin : ∀ r c, r < i → r ≤ c → c < n → view P M r c = d.U r c
  L_fin : ∀ r c, c < i → c < r → r < n → view P M r c = d.L r c
  rest : ∀ r c, i ≤ r → r < n → i ≤ c → c < n → view P M r c = rest r c

section inplace
variable {n : Nat} {P : Pattern}

theorem diStepU_view (h : IPSetup n P) (M : Array K) (hM : M.size = P.nnz) (i k : Nat)
    (hi : i < n) (hik : i ≤ k) (hk : k < n) (hp : P.zero? i k = false) :
    diStepU M ⟨P.rk i k, pairsOf P P i i k⟩
      = wr M (P.rk i k) (view P M i k - ∑ j ∈ range i, view P M i j * view P M j k) := by
  simp only [diStepU]
  rw [accum (fun (M : Array K) (p : Nat × Nat) => rd M p.1 * rd M p.2) _ _ M
    (by rw [hM]; exact h.g.rk_lt i k hi hk hp), sum_pairsOf, view_present _ _ _ _ hp]
  intro p hq v
  obtain ⟨j, hj, hj1, hj2, rfl⟩ := mem_pairsOf _ _ _ _ _ _ hq
  show rd (wr M _ v) (P.rk i j) * rd (wr M _ v) (P.rk j k) = _
  rw [rd_wr_ne _ _ _ _ (h.g.rk_ne hi hk hi (hj.trans hi) hp hj1 fun hh => (hj.trans_le hik).ne' hh.2),
    rd_wr_ne _ _ _ _ (h.g.rk_ne hi hk (hj.trans hi) hk hp hj2 fun hh => hj.ne' hh.1)]

theorem diStepL_view (h : IPSetup n P) (M : Array K) (hM : M.size = P.nnz) (i k : Nat)
    (hi : i < n) (hik : i < k) (hk : k < n) (hp : P.zero? k i = false) :
    diStepL (P.rk i i) M ⟨P.rk k i, pairsOf P P i k i⟩
      = wr M (P.rk k i)
          ((view P M k i - ∑ j ∈ range i, view P M k j * view P M j i) / view P M i i) := by
  have ht : P.rk k i < M.size := by rw [hM]; exact h.g.rk_lt k i hk hi hp
  simp only [diStepL]
  rw [accum (fun (M : Array K) (p : Nat × Nat) => rd M p.1 * rd M p.2) _ _ M ht, sum_pairsOf,
    rd_wr_same _ _ _ ht, wr_wr_same,
    rd_wr_ne _ _ _ _ (h.g.rk_ne hk hi hi hi hp (h.diag i hi) fun hh => hik.ne' hh.1),
    view_present _ _ _ _ hp, view_present _ _ _ _ (h.diag i hi)]
  intro p hq v
  obtain ⟨j, hj, hj1, hj2, rfl⟩ := mem_pairsOf _ _ _ _ _ _ hq
  show rd (wr M _ v) (P.rk k j) * rd (wr M _ v) (P.rk j i) = _
  rw [rd_wr_ne _ _ _ _ (h.g.rk_ne hk hi hk (hj.trans hi) hp hj1 fun hh => hj.ne' hh.2),
    rd_wr_ne _ _ _ _ (h.g.rk_ne hk hi (hj.trans hi) hi hp hj2 fun hh => (hj.trans hik).ne' hh.1)]

theorem diUPhase (h : IPSetup n P) (M : Array K) (i : Nat) (hi : i < n) (hMs : M.size = P.nnz) :
    (((rangeFrom i n).filterMap (diUEntry P i)).foldl diStepU M).size = P.nnz ∧
    (∀ k, i ≤ k → k < n → P.zero? i k = false →
      view P (((rangeFrom i n).filterMap (diUEntry P i)).foldl diStepU M) i k
        = view P M i k - ∑ j ∈ range i, view P M i j * view P M j k) ∧
    (∀ r c, r < n → c < n → ¬ (r = i ∧ i ≤ c) →
      view P (((rangeFrom i n).filterMap (diUEntry P i)).foldl diStepU M) r c = view P M r c) := by
  obtain ⟨g1, g2, g3⟩ := phase_slots h.g i n (diUEntry P i) diStepU M hMs
    (fun _ => i) (fun k => k) (fun k => P.zero? i k = false)
    (fun k => view P M i k - ∑ j ∈ range i, view P M i j * view P M j k)
    (fun k e _ _ he => (diUEntry_some P i k e he).1)
    (fun k h1 h2 hp => ⟨hi, h2, hp⟩) (fun k k' _ _ _ hc => hc)
    (by
      intro M' k e h1 h2 he hMs' hM hown
      obtain ⟨hp, rfl⟩ := diUEntry_some P i k e he
      -- row `i` left of the diagonal and the rows `j < i` are not written
      rw [diStepU_view h M' hMs' i k hi h1 h2 hp, hown, sum_congr rfl fun j hj => by
        have hj' := mem_range.mp hj
        rw [hM i j hi (hj'.trans hi) (fun k' a1 _ _ hh => Nat.not_lt.mpr a1 (hh.2 ▸ hj')),
          hM j k (hj'.trans hi) h2 (fun k' _ _ _ hh => hj'.ne hh.1)]])
  exact ⟨g1, fun k h1 h2 hp => g3 k ⟨P.rk i k, pairsOf P P i i k⟩ h1 h2 (by simp [diUEntry, hp]),
    fun r c hr hc hne => g2 r c hr hc fun k h1 _ _ hh => hne ⟨hh.1, hh.2 ▸ h1⟩⟩

theorem diLPhase (h : IPSetup n P) (M : Array K) (i : Nat) (hi : i < n) (hMs : M.size = P.nnz) :
    (((rangeFrom (i + 1) n).filterMap (diLEntry P i)).foldl (diStepL (P.rk i i)) M).size = P.nnz ∧
    (∀ k, i < k → k < n → P.zero? k i = false →
      view P (((rangeFrom (i + 1) n).filterMap (diLEntry P i)).foldl (diStepL (P.rk i i)) M) k i
        = (view P M k i - ∑ j ∈ range i, view P M k j * view P M j i) / view P M i i) ∧
    (∀ r c, r < n → c < n → ¬ (c = i ∧ i < r) →
      view P (((rangeFrom (i + 1) n).filterMap (diLEntry P i)).foldl (diStepL (P.rk i i)) M) r c
        = view P M r c) := by
  obtain ⟨g1, g2, g3⟩ := phase_slots h.g (i + 1) n (diLEntry P i)
    (diStepL (P.rk i i)) M hMs (fun k => k) (fun _ => i) (fun k => P.zero? k i = false)
    (fun k => (view P M k i - ∑ j ∈ range i, view P M k j * view P M j i) / view P M i i)
    (fun k e _ _ he => (diLEntry_some P i k e he).1)
    (fun k h1 h2 hp => ⟨h2, hi, hp⟩) (fun k k' _ _ hr _ => hr)
    (by
      intro M' k e h1 h2 he hMs' hM hown
      obtain ⟨hp, rfl⟩ := diLEntry_some P i k e he
      -- the pivot, the columns `j < i` and the rows `j < i` are not written
      rw [diStepL_view h M' hMs' i k hi h1 h2 hp, hown,
        hM i i hi hi (fun k' a1 _ _ hh => Nat.lt_irrefl i (hh.1 ▸ a1)), sum_congr rfl fun j hj => by
        have hj' := mem_range.mp hj
        rw [hM k j h2 (hj'.trans hi) (fun k' _ _ _ hh => hj'.ne hh.2),
          hM j i (hj'.trans hi) hi (fun k' a1 _ _ hh => Nat.lt_irrefl j (hj'.trans (hh.1 ▸ a1)))]])
  exact ⟨g1, fun k h1 h2 hp => g3 k ⟨P.rk k i, pairsOf P P i k i⟩ h1 h2 (by simp [diLEntry, hp]),
    fun r c hr hc hne => g2 r c hr hc fun k h1 _ _ hh => hne ⟨hh.2, hh.1 ▸ h1⟩⟩

theorem diStep_final (h : IPSetup n P) (M0 M : Array K) (i : Nat) (hi : i < n)
    (hMs : M.size = P.nnz)
    (hf : FinalIP n P (DenseLU.lu (view P M0) n) (view P M0) i M) :
    (diStep M (diRow P n i)).size = P.nnz ∧
    FinalIP n P (DenseLU.lu (view P M0) n) (view P M0) (i + 1) (diStep M (diRow P n i)) := by
  obtain ⟨offU, offL⟩ := h.dense_off (view P M0) (view_support P M0)
  obtain ⟨u1, u2, u3⟩ := diUPhase h M i hi hMs
  simp only [diStep, diRow]
  generalize ((rangeFrom i n).filterMap (diUEntry P i)).foldl diStepU M = M1 at u1 u2 u3
  obtain ⟨l1, l2, l3⟩ := diLPhase h M1 i hi u1
  generalize ((rangeFrom (i + 1) n).filterMap (diLEntry P i)).foldl (diStepL (P.rk i i)) M1
    = M2 at l1 l2 l3
  have hUi : ∀ c, i ≤ c → c < n → view P M1 i c = (DenseLU.lu (view P M0) n).U i c := by
    intro c hic hc
    cases hp : P.zero? i c
    · rw [u2 c hic hc hp, hf.rest i c (le_refl i) hi hic hc, DenseLU.lu_U_eq _ n i c hi hic]
      exact congrArg _ (sum_congr rfl fun j hj => by
        have := mem_range.mp hj
        rw [hf.L_fin i j this this hi, hf.U_fin j c this (this.trans_le hic).le hc])
    · rw [view_absent _ _ _ _ hp, offU i c hic hc hp]
  refine ⟨l1, ⟨fun r c hr hrc hc => ?_, fun r c hc hcr hr => ?_, fun r c hir hr hic hc => ?_⟩⟩
  · rw [l3 r c (Nat.lt_of_le_of_lt hrc hc) hc fun hh => Nat.lt_irrefl r
      (Nat.lt_of_le_of_lt (hh.1 ▸ hrc) hh.2)]
    rcases Nat.lt_succ_iff_lt_or_eq.mp hr with hlt | rfl
    · rw [u3 r c (hlt.trans hi) hc fun hh => hlt.ne hh.1]; exact hf.U_fin r c hlt hrc hc
    · exact hUi c hrc hc
  · rcases Nat.lt_succ_iff_lt_or_eq.mp hc with hlt | rfl
    · rw [l3 r c hr (hlt.trans hi) fun hh => hlt.ne hh.1,
        u3 r c hr (hlt.trans hi) fun hh => Nat.lt_irrefl c (Nat.lt_of_lt_of_le hlt hh.2)]
      exact hf.L_fin r c hlt hcr hr
    · cases hp : P.zero? r c
      · rw [l2 r hcr hr hp, hUi c (le_refl c) hi, u3 r c hr hi fun hh => hcr.ne' hh.1,
          hf.rest r c hcr.le hr (le_refl c) hi, DenseLU.lu_L_eq _ n c r hi hcr]
        congr 2
        exact sum_congr rfl fun j hj => by
          have hj' := mem_range.mp hj
          rw [u3 r j hr (hj'.trans hi) fun hh => hcr.ne' hh.1,
            u3 j c (hj'.trans hi) hi fun hh => hj'.ne hh.1,
            hf.L_fin r j hj' (hj'.trans hcr) hr, hf.U_fin j c hj' hj'.le hi]
      · rw [view_absent _ _ _ _ hp, offL r c hcr hr hp]
  · rw [l3 r c hr hc fun hh => Nat.lt_irrefl c (hh.1 ▸ hic), u3 r c hr hc fun hh =>
      Nat.lt_irrefl r (hh.1 ▸ hir)]
    exact hf.rest r c (Nat.le_of_succ_le hir) hr (Nat.le_of_succ_le hic) hc

/-- C03 core for `doolittleInPlaceCell`: the array that held `A` (zero on the fill-in slots, as
    the contract requires: it is all part of `view P m0`) holds afterwards the strict lower part
    of the dense Doolittle `L` and the upper part of `U`. -/
theorem doolittleInPlaceCell_view (h : IPSetup n P) (hn : P.n = n) (m0 : Array K)
    (hMs : m0.size = P.nnz) (r c : Nat) (hr : r < n) (hc : c < n) :
    view P (doolittleInPlaceCell (doolittleInPlaceRows P) m0) r c
      = if c < r then (DenseLU.lu (view P m0) n).L r c else (DenseLU.lu (view P m0) n).U r c := by
  rw [doolittleInPlaceCell_eq, doolittleInPlaceRows_eq, hn]
  obtain ⟨_, hfin⟩ := foldl_rows_induct (fun i M => M.size = P.nnz ∧
      FinalIP n P (DenseLU.lu (view P m0) n) (view P m0) i M) (diRow P n) diStep m0 n
    ⟨hMs, ⟨fun _ _ h => absurd h (Nat.not_lt_zero _), fun _ _ h => absurd h (Nat.not_lt_zero _),
      fun _ _ _ _ _ _ => rfl⟩⟩
    (fun i hi M hM => diStep_final h m0 M i hi hM.1 hM.2)
  split
  · next hcr => exact hfin.L_fin r c hc hcr hr
  · next hcr => exact hfin.U_fin r c hr (Nat.not_lt.mp hcr) hc

end inplace

/-- composed with an LU factorisation of `A` (what C03 delivers): `Factor; Solve` solves `A y = b` -/
theorem factor_solve (Lp Up : Pattern) (L U x : Array K) (n : Nat) (A : Nat → Nat → K)
    (hn : Lp.n = n) (hx : x.size = n) (hLU : DenseLU.IsLU n A (view Lp L) (view Up U))
    (hUd : ∀ i, i < n → view Up U i i ≠ 0) (i : Nat) (hi : i < n) :
    ∑ j ∈ range n, A i j * rd (solveCell (solverRows Lp Up).1 (solverRows Lp Up).2 L U x) j
      = rd x i := by
  rw [← solveCell_correct Lp Up L U x n hn hx
    (fun i hi => by rw [hLU.L_diag i hi]; exact one_ne_zero) hLU.L_up hUd hLU.U_low i hi]
  exact sum_congr rfl fun j hj => by rw [hLU.prod i j hi (mem_range.mp hj)]

theorem lu_isLU_of_pivots {n : Nat} {Am Um : Nat → Nat → K}
    (hU : ∀ i, i < n → Um i i = (DenseLU.lu Am n).U i i) (hpiv : ∀ i, i < n → Um i i ≠ 0) :
    DenseLU.IsLU n Am (DenseLU.lu Am n).L (DenseLU.lu Am n).U :=
  DenseLU.lu_isLU Am n fun i hi => by rw [← hU i hi]; exact hpiv i hi

theorem IsLU_congr {n : Nat} {A Lm Um Lm' Um' : Nat → Nat → K} (h : DenseLU.IsLU n A Lm Um)
    (hL : ∀ r c, r < n → c < n → Lm' r c = Lm r c)
    (hU : ∀ r c, r < n → c < n → Um' r c = Um r c) : DenseLU.IsLU n A Lm' Um' where
  L_diag := fun i hi => by rw [hL i i hi hi]; exact h.L_diag i hi
  L_up := fun r c hr hc hrc => by rw [hL r c hr hc]; exact h.L_up r c hr hc hrc
  U_low := fun r c hr hc hcr => by rw [hU r c hr hc]; exact h.U_low r c hr hc hcr
  prod := fun r c hr hc => by
    rw [← h.prod r c hr hc]
    exact sum_congr rfl fun j hj => by rw [hL r j hr (mem_range.mp hj), hU j c (mem_range.mp hj) hc]

theorem IsLU_of_views {n : Nat} (Am : Nat → Nat → K) (Lp Up : Pattern) (L U : Array K)
    (hv : ∀ r c, r < n → c < n → view Lp L r c = (DenseLU.lu Am n).L r c ∧
      view Up U r c = (DenseLU.lu Am n).U r c)
    (hpiv : ∀ i, i < n → view Up U i i ≠ 0) :
    DenseLU.IsLU n Am (view Lp L) (view Up U) :=
  IsLU_congr (lu_isLU_of_pivots (fun i hi => (hv i i hi hi).2) hpiv)
    (fun r c hr hc => (hv r c hr hc).1) (fun r c hr hc => (hv r c hr hc).2)

theorem solve_of_views (Lp Up : Pattern) (L U b : Array K) (n : Nat) (Am : Nat → Nat → K)
    (hnL : Lp.n = n) (hb : b.size = n)
    (hv : ∀ r c, r < n → c < n → view Lp L r c = (DenseLU.lu Am n).L r c ∧
      view Up U r c = (DenseLU.lu Am n).U r c)
    (hpiv : ∀ i, i < n → view Up U i i ≠ 0) (i : Nat) (hi : i < n) :
    ∑ j ∈ range n, Am i j * rd (solveCell (solverRows Lp Up).1 (solverRows Lp Up).2 L U b) j
      = rd b i :=
  factor_solve Lp Up L U b n Am hnL hb (IsLU_of_views Am Lp Up L U hv hpiv) hpiv i hi

theorem packed_factors {n : Nat} {V : Nat → Nat → K} {d : LU K} (hsh : DenseLU.Shape n d)
    (hv : ∀ r c, r < n → c < n → V r c = if c < r then d.L r c else d.U r c)
    (r c : Nat) (hr : r < n) (hc : c < n) :
    lowerUnit V r c = d.L r c ∧ upperPart V r c = d.U r c := by
  unfold lowerUnit upperPart
  rw [hv r c hr hc]
  rcases Nat.lt_trichotomy c r with h | rfl | h
  · rw [if_pos h, if_pos h, if_neg (by omega)]
    exact ⟨rfl, (hsh.U_low r c h).symm⟩
  · rw [if_neg (Nat.lt_irrefl c), if_pos rfl, if_pos (le_refl c), if_neg (Nat.lt_irrefl c)]
    exact ⟨(hsh.L_diag c hr).symm, rfl⟩
  · rw [if_neg (by omega), if_neg (by omega), if_pos (by omega), if_neg (by omega)]
    exact ⟨(hsh.L_up r c h).symm, rfl⟩

theorem solve_of_view_inplace (P : Pattern) (M b : Array K) (n : Nat) (Am : Nat → Nat → K)
    (hnP : P.n = n) (hb : b.size = n)
    (hv : ∀ r c, r < n → c < n → view P M r c
      = if c < r then (DenseLU.lu Am n).L r c else (DenseLU.lu Am n).U r c)
    (hpiv : ∀ i, i < n → view P M i i ≠ 0) (i : Nat) (hi : i < n) :
    ∑ j ∈ range n, Am i j * rd (solveInPlaceCell (solverRows P P).1 (solverRows P P).2 M b) j
      = rd b i := by
  have hpk := packed_factors (DenseLU.lu_shape Am n) hv
  have hlu := lu_isLU_of_pivots (fun i hi => (hv i i hi hi).trans (if_neg (Nat.lt_irrefl i))) hpiv
  rw [← solveInPlaceCell_correct P M b n hnP hb hpiv i hi]
  refine sum_congr rfl fun j hj => ?_
  have hj' := mem_range.mp hj
  rw [← hlu.prod i j hi hj']
  refine congrArg (· * _) (sum_congr rfl fun k hk => ?_)
  have hk' := mem_range.mp hk
  rw [(hpk i k hi hk').1, (hpk k j hk' hj').2]

theorem both_eq {α β : Type} {x x' l : α} {y y' u : β} (h : x = l ∧ y = u) (h' : x' = l ∧ y' = u) :
    x = x' ∧ y = y' :=
  ⟨h.1.trans h'.1.symm, h.2.trans h'.2.symm⟩

end Micm
