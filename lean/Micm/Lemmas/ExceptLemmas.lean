/-
`Except` as the model uses it (`do` blocks that `throw`, `mapM` over a list, `map` of a result):
the bind on a value, and what a successful computation went through.  Core Lean only.
-/
namespace Micm
variable {ε ε' α β γ : Type}

theorem Except.ok_bind (a : α) (f : α → Except ε β) : (Except.ok a >>= f) = f a := rfl

theorem Except.error_bind (e : ε) (f : α → Except ε β) : (Except.error e >>= f) = .error e := rfl

theorem Except.bind_eq_ok_iff {x : Except ε α} {f : α → Except ε β} {b : β} :
    x >>= f = .ok b ↔ ∃ a, x = .ok a ∧ f a = .ok b := by
  cases x with
  | error e => exact ⟨nofun, nofun⟩
  | ok a => exact ⟨fun h => ⟨a, rfl, h⟩, fun ⟨_, h, h'⟩ => Except.ok.inj h ▸ h'⟩

theorem Except.mapError_bind_eq_ok {x : Except ε α} {k : ε → ε'} {f : α → Except ε' β} {b : β}
    (h : x.mapError k >>= f = .ok b) : ∃ a, x = .ok a ∧ f a = .ok b := by
  cases x with
  | error e => cases h
  | ok a => exact ⟨a, rfl, h⟩

theorem Except.pure_eq_ok_iff (a b : α) : (pure a : Except ε α) = .ok b ↔ a = b := by
  simp [pure, Except.pure]

theorem Except.mapM_eq_ok_iff (f : α → Except ε β) (P : α → Prop) (g : α → β)
    (h : ∀ x v, f x = .ok v ↔ P x ∧ v = g x) (l : List α) (r : List β) :
    l.mapM f = .ok r ↔ (∀ x ∈ l, P x) ∧ r = l.map g := by
  induction l generalizing r with
  | nil => simp [pure, Except.pure, eq_comm]
  | cons a l ih =>
    simp only [List.mapM_cons, Except.bind_eq_ok_iff, Except.pure_eq_ok_iff, h, ih, List.mem_cons,
      forall_eq_or_imp, List.map_cons]
    constructor
    · rintro ⟨_, ⟨ha, rfl⟩, _, ⟨hl, rfl⟩, rfl⟩
      exact ⟨⟨ha, hl⟩, rfl⟩
    · rintro ⟨⟨ha, hl⟩, rfl⟩
      exact ⟨_, ⟨ha, rfl⟩, _, ⟨hl, rfl⟩, rfl⟩

theorem Except.map_eq_ok_iff (f : α → β) (e : Except ε α) (c : β) :
    e.map f = .ok c ↔ ∃ k, e = .ok k ∧ f k = c := by
  cases e <;> simp [Except.map]

theorem Except.map_eq_error_iff (f : α → β) (e : Except ε α) (x : ε) :
    e.map f = .error x ↔ e = .error x := by
  cases e <;> simp [Except.map]

end Micm
