/-
The process-set tables, for C01 (forcing = mass-action rate law) and, through `builtTables` and `resolveProc`,
for C02; core Lean only. Two ideas: `forcingGo` on concatenated streams is a fold of single-reaction updates,
and each constructor loop (`reactIdsOf`, `prodIdsOf`, `buildForcing`, `ProcessSet.build`) equals
`firstErrOr (the unknown names in source order) (the tables in closed form)`.
The field-dependent part (mass action, conservation) is in `Micm/Lemmas/ForcingField.lean`.
-/
import Micm.Model.ProcessSet
import Micm.Lemmas.ArrayFold
namespace Micm

/-- a resolved reaction: non-parameterized reactant ids (with repetitions, in source order) and
    (product id, yield) pairs -/
abbrev RRxn (α : Type) := List Nat × List (Nat × α)

section SpecDefs
variable {α : Type}

def Resolves (m : NameMap) (procs : List (Process α)) (rxns : List (RRxn α)) : Prop :=
  procs.map (fun p => (reactIdsOf m p.reactants, prodIdsOf m p.products))
    = rxns.map (fun rx => (Except.ok rx.1, Except.ok rx.2))

def tablesOf (rxns : List (RRxn α)) : PSTables α :=
  { nReact := rxns.map (·.1.length), reactIds := rxns.flatMap (·.1),
    nProd := rxns.map (·.2.length), prodIds := rxns.flatMap (·.2.map (·.1)),
    yields := rxns.flatMap (·.2.map (·.2)) }

/-- the value of `reactIdsOf` when it succeeds (`reactIdsOf_eq`) -/
def reactIdsP (m : NameMap) (l : List SpecRef) : List Nat :=
  l.filterMap fun r => if r.param then none else nmLookup m r.name

def prodIdsP (m : NameMap) (l : List (SpecRef × α)) : List (Nat × α) :=
  l.filterMap fun p => if p.1.param then none else (nmLookup m p.1.name).map fun i => (i, p.2)

def resolveP (m : NameMap) (p : Process α) : RRxn α := (reactIdsP m p.reactants, prodIdsP m p.products)

def specReactIds (m : NameMap) (l : List SpecRef) : List Nat :=
  l.filterMap fun r => if r.param then none else nmLookup m r.name

def specProdIds (m : NameMap) (l : List (SpecRef × α)) : List (Nat × α) :=
  l.filterMap fun p => if p.1.param then none else (nmLookup m p.1.name).map fun i => (i, p.2)

/-- a process with its resolved reactant ids and products, as `ProcessSet.build` uses it -/
def resolveProc (m : NameMap) (p : Process α) : Process α × List Nat × List (Nat × α) :=
  (p, specReactIds m p.reactants, specProdIds m p.products)

/-- the C02 statements say `specReactIds`, the C01 statements `reactIdsP`: one list -/
theorem specReactIds_eq (m : NameMap) (l : List SpecRef) : specReactIds m l = reactIdsP m l := rfl

theorem specProdIds_eq (m : NameMap) (l : List (SpecRef × α)) : specProdIds m l = prodIdsP m l := rfl

def unknownReactants (m : NameMap) (l : List SpecRef) : List PSErr :=
  l.filterMap fun r =>
    if r.param then none else if (nmLookup m r.name).isNone then some (.reactantDoesNotExist r.name) else none

def unknownProducts (m : NameMap) (l : List (SpecRef × α)) : List PSErr :=
  l.filterMap fun p =>
    if p.1.param then none else if (nmLookup m p.1.name).isNone then some (.productDoesNotExist p.1.name) else none

def unknownNames (m : NameMap) (procs : List (Process α)) : List PSErr :=
  procs.flatMap fun p => unknownReactants m p.reactants ++ unknownProducts m p.products

end SpecDefs

section KernelSpec
variable {α : Type} [OfNat α 0] [Add α] [Sub α] [Mul α]

/-- `rate := k * y[r₁] * y[r₂] * …` (left fold, the source's `rate *= …` loop) -/
def rxnRate (y : Array α) (k : α) (rs : List Nat) : α := rs.foldl (fun acc i => acc * rd y i) k

def rxnStep (y : Array α) (f : Array α) (k : α) (rx : RRxn α) : Array α :=
  let rate := rxnRate y k rx.1
  let f := rx.1.foldl (fun f i => wr f i (rd f i - rate)) f
  rx.2.foldl (fun f p => wr f p.1 (rd f p.1 + p.2 * rate)) f

def forcingSpec (y : Array α) (rxns : List (RRxn α)) (ks : List α) (f : Array α) : Array α :=
  (rxns.zip ks).foldl (fun f rk => rxnStep y f rk.2 rk.1) f

end KernelSpec

section Decode
variable {α : Type} [OfNat α 0] [Add α] [Sub α] [Mul α]

theorem forcingGo_decode (y : Array α) (rxns : List (RRxn α)) (ks : List α) (f : Array α) :
    forcingGo y (rxns.map (·.1.length)) (rxns.map (·.2.length)) (rxns.flatMap (·.1))
      (rxns.flatMap (·.2.map (·.1))) (rxns.flatMap (·.2.map (·.2))) ks f
    = forcingSpec y rxns ks f := by
  unfold forcingSpec
  induction rxns generalizing ks f with
  | nil => simp [forcingGo]
  | cons rx rest ih =>
    cases ks with
    | nil => simp [forcingGo]
    | cons k ks =>
      -- each cursor takes exactly the reaction's own segment off its stream
      simp only [List.map_cons, List.flatMap_cons, forcingGo, List.zip_cons_cons, List.foldl_cons,
        List.take_left' rfl, List.drop_left' rfl, List.take_left' (List.length_map _),
        List.drop_left' (List.length_map _), ← List.zip_of_prod rfl rfl, ih]
      rfl

theorem addForcingCell_tablesOf (rxns : List (RRxn α)) (k y f : Array α) :
    (tablesOf rxns).addForcingCell k y f = forcingSpec y rxns k.toList f := by
  unfold PSTables.addForcingCell tablesOf
  exact forcingGo_decode y rxns k.toList f

@[simp] theorem forcingSpec_nil (y : Array α) (ks : List α) (f : Array α) : forcingSpec y [] ks f = f := by
  simp [forcingSpec]

@[simp] theorem forcingSpec_nil_ks (y : Array α) (rxns : List (RRxn α)) (f : Array α) :
    forcingSpec y rxns [] f = f := by
  simp [forcingSpec]

@[simp] theorem forcingSpec_cons (y : Array α) (rx : RRxn α) (rxns : List (RRxn α)) (k : α) (ks : List α)
    (f : Array α) : forcingSpec y (rx :: rxns) (k :: ks) f = forcingSpec y rxns ks (rxnStep y f k rx) := by
  simp [forcingSpec]

end Decode

section Frame
variable {α : Type} [OfNat α 0] [Add α] [Sub α] [Mul α]

theorem rxnStep_size (y f : Array α) (k : α) (rx : RRxn α) : (rxnStep y f k rx).size = f.size := by
  unfold rxnStep
  rw [foldl_wr_size, foldl_wr_size]

theorem rxnStep_rd_of_not_mem (y f : Array α) (k : α) (rx : RRxn α) (i : Nat)
    (hr : i ∉ rx.1) (hp : ∀ p ∈ rx.2, p.1 ≠ i) : rd (rxnStep y f k rx) i = rd f i := by
  unfold rxnStep
  rw [foldl_wr_rd_of_not_mem _ _ _ _ _ hp, foldl_wr_rd_of_not_mem (fun j : Nat => j)]
  exact fun b hb e => hr (e ▸ hb)

theorem forcingSpec_size (y : Array α) (rxns : List (RRxn α)) (ks : List α) (f : Array α) :
    (forcingSpec y rxns ks f).size = f.size := by
  induction rxns generalizing ks f with
  | nil => simp
  | cons rx rest ih =>
    cases ks with
    | nil => simp
    | cons k ks => rw [forcingSpec_cons, ih, rxnStep_size]

theorem forcingGo_size (y : Array α) (nr np rids pids : List Nat) (ylds ks : List α) (f : Array α) :
    (forcingGo y nr np rids pids ylds ks f).size = f.size := by
  fun_induction forcingGo y nr np rids pids ylds ks f with
  | case1 nr nrs np nps rids pids ylds k ks f rs rate f1 f2 ih =>
    rw [ih, foldl_wr_size, foldl_wr_size]
  | case2 => rfl

theorem forcingGo_rd_of_not_mem (y : Array α) (nr np rids pids : List Nat) (ylds ks : List α) (f : Array α)
    (i : Nat) (hr : i ∉ rids) (hp : i ∉ pids) :
    rd (forcingGo y nr np rids pids ylds ks f) i = rd f i := by
  fun_induction forcingGo y nr np rids pids ylds ks f with
  | case1 nr nrs np nps rids pids ylds k ks f rs rate f1 f2 ih =>
    rw [ih (fun h => hr (List.mem_of_mem_drop h)) (fun h => hp (List.mem_of_mem_drop h)),
      foldl_wr_rd_of_not_mem, foldl_wr_rd_of_not_mem]
    · intro b hb e
      exact hr (e ▸ List.mem_of_mem_take hb)
    · intro b hb e
      exact hp (e ▸ List.mem_of_mem_take (List.of_mem_zip hb).1)
  | case2 => rfl

end Frame

section Tables
variable {α : Type}

def firstErrOr {ε β : Type} (l : List ε) (v : β) : Except ε β :=
  match l with
  | [] => .ok v
  | e :: _ => .error e

theorem firstErrOr_ok_iff {ε β : Type} (l : List ε) (v t : β) :
    firstErrOr l v = Except.ok t ↔ l = [] ∧ t = v := by
  cases l with
  | nil => simp [firstErrOr, eq_comm]
  | cons a l => simp [firstErrOr]

theorem firstErrOr_error_iff {ε β : Type} (l : List ε) (v : β) (e : ε) :
    firstErrOr l v = Except.error e ↔ l.head? = some e := by
  cases l with
  | nil => simp [firstErrOr]
  | cons a l => simp [firstErrOr]

theorem firstErrOr_nil {ε β : Type} (v : β) : firstErrOr ([] : List ε) v = pure v := rfl

theorem firstErrOr_bind {ε β γ : Type} (l l' : List ε) (v : β) (w : β → γ) :
    (firstErrOr l v >>= fun a => firstErrOr l' (w a)) = firstErrOr (l ++ l') (w v) := by
  cases l <;> rfl

theorem resolves_nil (m : NameMap) : Resolves m ([] : List (Process α)) [] := rfl

theorem resolves_cons_iff (m : NameMap) (p : Process α) (ps : List (Process α)) (rx : RRxn α)
    (rxs : List (RRxn α)) :
    Resolves m (p :: ps) (rx :: rxs) ↔
      reactIdsOf m p.reactants = .ok rx.1 ∧ prodIdsOf m p.products = .ok rx.2 ∧ Resolves m ps rxs := by
  simp [Resolves, and_assoc]

theorem Resolves.length_eq {m : NameMap} {procs : List (Process α)} {rxns : List (RRxn α)}
    (h : Resolves m procs rxns) : rxns.length = procs.length := by
  have := congrArg List.length h
  simpa using this.symm

theorem reactIdsOf_eq (m : NameMap) (l : List SpecRef) :
    reactIdsOf m l = firstErrOr (unknownReactants m l) (reactIdsP m l) := by
  unfold firstErrOr
  induction l with
  | nil => rfl
  | cons r rs ih =>
    unfold reactIdsOf
    by_cases hp : r.param
    · simp [hp, ih, unknownReactants, reactIdsP]
    · cases hl : nmLookup m r.name with
      | none => simp [hp, hl, unknownReactants]
      | some i =>
        simp [hp, hl, ih, unknownReactants, reactIdsP]
        -- what is left: `(i :: ·) <$>` commutes with the `match` on the list of unknown names
        split <;> rfl

theorem prodIdsOf_eq (m : NameMap) (l : List (SpecRef × α)) :
    prodIdsOf m l = firstErrOr (unknownProducts m l) (prodIdsP m l) := by
  unfold firstErrOr
  induction l with
  | nil => rfl
  | cons r rs ih =>
    unfold prodIdsOf
    by_cases hp : r.1.param
    · simp [hp, ih, unknownProducts, prodIdsP]
    · cases hl : nmLookup m r.1.name with
      | none => simp [hp, hl, unknownProducts]
      | some i =>
        simp [hp, hl, ih, unknownProducts, prodIdsP]
        split <;> rfl  -- as in `reactIdsOf_eq`

theorem buildForcing_eq (m : NameMap) (procs : List (Process α)) :
    buildForcing m procs = firstErrOr (unknownNames m procs) (tablesOf (procs.map (resolveP m))) := by
  induction procs with
  | nil => rfl
  | cons p ps ih =>
    unfold buildForcing
    rw [reactIdsOf_eq, prodIdsOf_eq, ih]
    simp only [← firstErrOr_nil, firstErrOr_bind, List.append_nil, ← List.append_assoc]
    rfl

/-- the per-process resolution pass of `ProcessSet.build` (second use of `reactIdsOf`/`prodIdsOf`) -/
theorem mapM_resolve_eq (m : NameMap) (procs : List (Process α)) :
    (procs.mapM fun p => do
      let rs ← reactIdsOf m p.reactants
      let pr ← prodIdsOf m p.products
      pure (p, rs, pr)) = firstErrOr (unknownNames m procs) (procs.map (resolveProc m)) := by
  induction procs with
  | nil => rfl
  | cons p ps ih =>
    rw [List.mapM_cons, ih, reactIdsOf_eq, prodIdsOf_eq]
    simp only [← firstErrOr_nil, firstErrOr_bind, List.append_nil]
    rfl

/-- the record `ProcessSet.build` returns when no name is unknown: the forcing streams of the
    resolved reactions, the Jacobian streams of the nested second loop over the resolved processes -/
def builtTables (m : NameMap) (procs : List (Process α)) : PSTables α :=
  let es := buildJacobianEntries (sortByIdx m) (procs.map (resolveProc m))
  { tablesOf (procs.map (resolveP m)) with
    jInfo := es.map (·.info), jReactIds := es.flatMap (·.deps),
    jProdIds := es.flatMap fun e => e.prods.map (·.1),
    jYields := es.flatMap fun e => e.prods.map (·.2) }

theorem ProcessSet.build_eq (procs : List (Process α)) (m : NameMap) :
    ProcessSet.build procs m = firstErrOr (unknownNames m procs) (builtTables m procs) := by
  unfold ProcessSet.build
  rw [buildForcing_eq, mapM_resolve_eq]
  cases unknownNames m procs <;> rfl

theorem ProcessSet.build_ok_iff (procs : List (Process α)) (m : NameMap) (t : PSTables α) :
    ProcessSet.build procs m = .ok t ↔ unknownNames m procs = [] ∧ t = builtTables m procs := by
  rw [ProcessSet.build_eq, firstErrOr_ok_iff]

theorem reactIdsOf_ok_iff (m : NameMap) (l : List SpecRef) (ids : List Nat) :
    reactIdsOf m l = .ok ids ↔ unknownReactants m l = [] ∧ ids = reactIdsP m l := by
  rw [reactIdsOf_eq, firstErrOr_ok_iff]

theorem reactIdsOf_error_iff (m : NameMap) (l : List SpecRef) (e : PSErr) :
    reactIdsOf m l = .error e ↔ (unknownReactants m l).head? = some e := by
  rw [reactIdsOf_eq, firstErrOr_error_iff]

theorem prodIdsOf_ok_iff (m : NameMap) (l : List (SpecRef × α)) (ids : List (Nat × α)) :
    prodIdsOf m l = .ok ids ↔ unknownProducts m l = [] ∧ ids = prodIdsP m l := by
  rw [prodIdsOf_eq, firstErrOr_ok_iff]

theorem prodIdsOf_error_iff (m : NameMap) (l : List (SpecRef × α)) (e : PSErr) :
    prodIdsOf m l = .error e ↔ (unknownProducts m l).head? = some e := by
  rw [prodIdsOf_eq, firstErrOr_error_iff]

theorem unknown_none_iff (b : Bool) (o : Option Nat) (e : PSErr) :
    (if b = true then none else if o.isNone = true then some e else none) = none ↔
      (b = false → o.isSome = true) := by
  cases b <;> cases o <;> simp

theorem unknownReactants_eq_nil_iff (m : NameMap) (l : List SpecRef) :
    unknownReactants m l = [] ↔ ∀ r ∈ l, r.param = false → (nmLookup m r.name).isSome = true := by
  simp only [unknownReactants, List.filterMap_eq_nil_iff, unknown_none_iff]

theorem unknownProducts_eq_nil_iff (m : NameMap) (l : List (SpecRef × α)) :
    unknownProducts m l = [] ↔ ∀ p ∈ l, p.1.param = false → (nmLookup m p.1.name).isSome = true := by
  simp only [unknownProducts, List.filterMap_eq_nil_iff, unknown_none_iff]

theorem unknownNames_eq_nil_iff (m : NameMap) (procs : List (Process α)) :
    unknownNames m procs = [] ↔
      ∀ p ∈ procs, unknownReactants m p.reactants = [] ∧ unknownProducts m p.products = [] := by
  simp [unknownNames]

theorem resolves_iff (m : NameMap) (procs : List (Process α)) (rxns : List (RRxn α)) :
    Resolves m procs rxns ↔ unknownNames m procs = [] ∧ rxns = procs.map (resolveP m) := by
  induction procs generalizing rxns with
  | nil =>
    cases rxns with
    | nil => simp [Resolves, unknownNames]
    | cons rx rxs => simp [Resolves]
  | cons p ps ih =>
    cases rxns with
    | nil => simp [Resolves]
    | cons rx rxs =>
      rw [resolves_cons_iff, ih, reactIdsOf_ok_iff, prodIdsOf_ok_iff]
      simp only [unknownNames, List.flatMap_cons, List.append_eq_nil_iff, List.map_cons, List.cons.injEq,
        resolveP, Prod.ext_iff]
      constructor
      · rintro ⟨⟨a, b⟩, ⟨c, d⟩, e, g⟩; exact ⟨⟨⟨a, c⟩, e⟩, ⟨b, d⟩, g⟩
      · rintro ⟨⟨⟨a, c⟩, e⟩, ⟨b, d⟩, g⟩; exact ⟨⟨a, b⟩, ⟨c, d⟩, e, g⟩

theorem Resolves.eq_map {m : NameMap} {procs : List (Process α)} {rxns : List (RRxn α)}
    (h : Resolves m procs rxns) : rxns = procs.map (resolveP m) :=
  ((resolves_iff m procs rxns).1 h).2

theorem buildForcing_ok_iff (m : NameMap) (procs : List (Process α)) (t : PSTables α) :
    buildForcing m procs = .ok t ↔ ∃ rxns, Resolves m procs rxns ∧ t = tablesOf rxns := by
  rw [buildForcing_eq, firstErrOr_ok_iff]
  constructor
  · rintro ⟨h, rfl⟩
    exact ⟨_, (resolves_iff m procs _).2 ⟨h, rfl⟩, rfl⟩
  · rintro ⟨rxns, hr, rfl⟩
    exact ⟨((resolves_iff m procs _).1 hr).1, congrArg tablesOf hr.eq_map⟩

theorem buildForcing_error_iff (m : NameMap) (procs : List (Process α)) (e : PSErr) :
    buildForcing m procs = .error e ↔ (unknownNames m procs).head? = some e := by
  rw [buildForcing_eq, firstErrOr_error_iff]

theorem buildForcing_isOk_iff (m : NameMap) (procs : List (Process α)) :
    (∃ t, buildForcing m procs = .ok t) ↔ unknownNames m procs = [] := by
  simp only [buildForcing_eq, firstErrOr_ok_iff, exists_and_left, exists_eq, and_true]

theorem ProcessSet.build_error_iff (m : NameMap) (procs : List (Process α)) (e : PSErr) :
    ProcessSet.build procs m = .error e ↔ buildForcing m procs = .error e := by
  rw [ProcessSet.build_eq, buildForcing_eq, firstErrOr_error_iff, firstErrOr_error_iff]

theorem ProcessSet.build_isOk_iff (m : NameMap) (procs : List (Process α)) :
    (∃ t, ProcessSet.build procs m = .ok t) ↔ ∃ t0, buildForcing m procs = .ok t0 := by
  simp only [ProcessSet.build_eq, buildForcing_eq, firstErrOr_ok_iff, exists_and_left, exists_eq, and_true]

theorem ProcessSet.build_ok_resolves {m : NameMap} {procs : List (Process α)} {t : PSTables α}
    (h : ProcessSet.build procs m = .ok t) : ∃ rxns, Resolves m procs rxns :=
  ⟨_, (resolves_iff m procs _).2 ⟨((ProcessSet.build_ok_iff procs m t).1 h).1, rfl⟩⟩

/-- for either constructor entry point; `tablesOf` has no Jacobian streams, hence the `with` -/
theorem built_forcing_tables {m : NameMap} {procs : List (Process α)} {t : PSTables α}
    (h : buildForcing m procs = .ok t ∨ ProcessSet.build procs m = .ok t) :
    unknownNames m procs = [] ∧
      { t with jInfo := [], jReactIds := [], jProdIds := [], jYields := [] }
        = tablesOf (procs.map (resolveP m)) := by
  cases h with
  | inl h =>
    obtain ⟨hu, rfl⟩ := (firstErrOr_ok_iff _ _ _).1 ((buildForcing_eq m procs).symm.trans h)
    exact ⟨hu, rfl⟩
  | inr h =>
    obtain ⟨hu, rfl⟩ := (ProcessSet.build_ok_iff procs m t).1 h
    exact ⟨hu, rfl⟩
end Tables

section Bounds
variable {α : Type}

theorem nmLookup_nil (k : String) : nmLookup [] k = none := rfl

theorem nmLookup_cons (e : String × Nat) (l : NameMap) (k : String) :
    nmLookup (e :: l) k = if e.1 = k then some e.2 else nmLookup l k := by
  unfold nmLookup
  by_cases h : e.1 = k
  · simp [h]
  · simp [h]

theorem nmLookup_eq_some_mem {m : NameMap} {k : String} {v : Nat} (h : nmLookup m k = some v) : (k, v) ∈ m := by
  unfold nmLookup at h
  obtain ⟨e, hf, rfl⟩ := Option.map_eq_some_iff.1 h
  have hs : e.1 = k := by simpa using List.find?_some hf
  exact hs ▸ List.mem_of_find?_eq_some hf

theorem nmLookup_of_mem {m : NameMap} (hn : (m.map (·.1)).Nodup) {e : String × Nat} (he : e ∈ m) :
    nmLookup m e.1 = some e.2 := by
  induction m with
  | nil => cases he
  | cons a l ih =>
    rw [List.map_cons, List.nodup_cons] at hn
    rw [nmLookup_cons]
    rcases List.mem_cons.1 he with h | h
    · simp [h]
    · have : ¬ a.1 = e.1 := by
        intro heq
        exact hn.1 (heq ▸ List.mem_map_of_mem h)
      simp only [this, if_false]
      exact ih hn.2 h

theorem reactIdsP_mem {m : NameMap} {l : List SpecRef} {j : Nat} (h : j ∈ reactIdsP m l) :
    ∃ e ∈ m, e.2 = j := by
  obtain ⟨r, -, hr⟩ := List.mem_filterMap.1 h
  split at hr
  · cases hr
  · exact ⟨_, nmLookup_eq_some_mem hr, rfl⟩

theorem prodIdsP_mem {m : NameMap} {l : List (SpecRef × α)} {p : Nat × α} (h : p ∈ prodIdsP m l) :
    ∃ e ∈ m, e.2 = p.1 := by
  obtain ⟨r, -, hr⟩ := List.mem_filterMap.1 h
  split at hr
  · cases hr
  · obtain ⟨i, hi, rfl⟩ := Option.map_eq_some_iff.1 hr
    exact ⟨_, nmLookup_eq_some_mem hi, rfl⟩

theorem resolves_bounds {m : NameMap} {procs : List (Process α)} {rxns : List (RRxn α)} {n : Nat}
    (hm : ∀ e ∈ m, e.2 < n) (h : Resolves m procs rxns) :
    ∀ rx ∈ rxns, (∀ j ∈ rx.1, j < n) ∧ ∀ p ∈ rx.2, p.1 < n := by
  intro rx hrx
  rw [h.eq_map] at hrx
  obtain ⟨p, -, rfl⟩ := List.mem_map.1 hrx
  constructor
  · intro j hj
    obtain ⟨e, he, rfl⟩ := reactIdsP_mem hj
    exact hm e he
  · intro q hq
    obtain ⟨e, he, hh⟩ := prodIdsP_mem hq
    exact hh ▸ hm e he

theorem tablesOf_reactIds_mem {rxns : List (RRxn α)} {j : Nat} :
    j ∈ (tablesOf rxns).reactIds ↔ ∃ rx ∈ rxns, j ∈ rx.1 := by
  simp only [tablesOf, List.mem_flatMap]

theorem tablesOf_prodIds_mem {rxns : List (RRxn α)} {j : Nat} :
    j ∈ (tablesOf rxns).prodIds ↔ ∃ rx ∈ rxns, ∃ p ∈ rx.2, p.1 = j := by
  simp only [tablesOf, List.mem_flatMap, List.mem_map]

end Bounds

section BuiltKernel
variable {α : Type} [OfNat α 0] [Add α] [Sub α] [Mul α]

/-- `addForcingCell` reads the five forcing streams only, and on the built tables those are the
    streams of `tablesOf` (`built_forcing_tables`) -/
theorem built_addForcingCell {m : NameMap} {procs : List (Process α)} {t : PSTables α} {rxns : List (RRxn α)}
    (h : buildForcing m procs = .ok t ∨ ProcessSet.build procs m = .ok t) (hr : Resolves m procs rxns)
    (k y f : Array α) : t.addForcingCell k y f = forcingSpec y rxns k.toList f := by
  rw [hr.eq_map, ← addForcingCell_tablesOf, ← (built_forcing_tables h).2]
  rfl

theorem buildForcing_ok_addForcingCell {m : NameMap} {procs : List (Process α)} {t : PSTables α}
    {rxns : List (RRxn α)} (h : buildForcing m procs = .ok t) (hr : Resolves m procs rxns) (k y f : Array α) :
    t.addForcingCell k y f = forcingSpec y rxns k.toList f :=
  built_addForcingCell (.inl h) hr k y f

theorem ProcessSet.build_ok_addForcingCell {m : NameMap} {procs : List (Process α)} {t : PSTables α}
    {rxns : List (RRxn α)} (h : ProcessSet.build procs m = .ok t) (hr : Resolves m procs rxns) (k y f : Array α) :
    t.addForcingCell k y f = forcingSpec y rxns k.toList f :=
  built_addForcingCell (.inr h) hr k y f

omit [OfNat α 0] [Add α] [Sub α] [Mul α] in
theorem forcing_zip_complete {m : NameMap} {procs : List (Process α)} {rxns : List (RRxn α)}
    (hr : Resolves m procs rxns) (ks : List α) (hk : ks.length = procs.length) :
    (rxns.zip ks).map (·.1) = rxns ∧ (rxns.zip ks).map (·.2) = ks := by
  have hl := hr.length_eq
  constructor
  · exact List.map_fst_zip (by omega)
  · exact List.map_snd_zip (by omega)

end BuiltKernel

end Micm
