/-
Lemmas for C11 (a `State` can be reused indefinitely): the results of `rosStep` / `rosLoop` /
`rosSolve` and of `beStep` / `beLoop` / `beSolve` do not depend on the *contents* of the scratch
storage carried by the State, only on its *shape*.  Dataflow only — any carrier.
-/
import Micm.Lemmas.Simulation
namespace Micm
set_option linter.unusedSectionVars false

section Shape
variable {α : Type}

def shape (m : Mat α) : Array Nat := m.map Array.size
def kshape (k : Array (Mat α)) : Array (Array Nat) := k.map shape

theorem shape_size (m : Mat α) : (shape m).size = m.size := by simp [shape]

theorem size_eq_of_shape {a b : Mat α} (h : shape a = shape b) : a.size = b.size := by
  rw [← shape_size a, ← shape_size b, h]

theorem size_eq_of_kshape {a b : Array (Mat α)} (h : kshape a = kshape b) : a.size = b.size := by
  have := congrArg Array.size h
  simpa [kshape] using this

theorem fillM_eq_shape (m : Mat α) (v : α) :
    fillM m v = (shape m).map (fun n => Array.replicate n v) := by
  simp [fillM, shape, Array.map_map, Function.comp_def, Array.map_const']

theorem fillM_congr {a b : Mat α} (h : shape a = shape b) (v : α) : fillM a v = fillM b v := by
  rw [fillM_eq_shape, fillM_eq_shape, h]

theorem shape_fillM (m : Mat α) (v : α) : shape (fillM m v) = shape m := by
  simp [fillM, shape, Array.map_map, Function.comp_def]

theorem shape_empty : shape (#[] : Mat α) = #[] := by simp [shape]

theorem shape_getD (K : Array (Mat α)) (j : Nat) :
    shape (K.getD j #[]) = (kshape K).getD j #[] := by
  have := getD_map (shape (α := α)) K j #[]
  rw [← this, shape_empty]; rfl

theorem shape_getD_congr {K K' : Array (Mat α)} (h : kshape K = kshape K') (j : Nat) :
    shape (K.getD j #[]) = shape (K'.getD j #[]) := by
  rw [shape_getD, shape_getD, h]

theorem size_getD_congr {a b : Mat α} (h : shape a = shape b) (c : Nat) :
    (a.getD c #[]).size = (b.getD c #[]).size := by
  have h1 := getD_map (Array.size (α := α)) a c #[]
  have h2 := getD_map (Array.size (α := α)) b c #[]
  rw [← h1, ← h2]
  show (shape a).getD c _ = (shape b).getD c _
  rw [h]

theorem kshape_ext {K K' : Array (Mat α)} (hs : K.size = K'.size)
    (h : ∀ j, j < K.size → shape (K.getD j #[]) = shape (K'.getD j #[])) : kshape K = kshape K' := by
  apply Array.ext
  · rw [kshape, kshape, Array.size_map, Array.size_map, hs]
  · intro j h1 h2
    rw [kshape, Array.size_map] at h1
    have := h j h1
    rwa [shape_getD, shape_getD, Array.getD, Array.getD, dif_pos (by rwa [kshape, Array.size_map]),
      dif_pos (by rw [kshape, Array.size_map, ← hs]; exact h1)] at this

end Shape

section Factor
variable {α : Type} [OfNat α 0] [OfNat α 1] [Add α] [Sub α] [Mul α] [Div α]
variable (s : SolverCfg α)

/-- the per-cell LU kernel of the separate-`L`/`U` variants (identity for the in-place variants,
    whose `Factor` does not touch `lower_matrix_`/`upper_matrix_`) -/
def luCellSep (A : Array α) (LU : Array α × Array α) : Array α × Array α :=
  match s.la.kind with
  | .doolittle => doolittleCell s.la.dRows A LU
  | .mozart => mozartCell s.la.mInit s.la.mRows A LU
  | _ => LU

/-- **LU dataflow fact** (proved separately for the Doolittle tables over a field as
    `C03_prior_contents`; a hypothesis here): on `L`/`U` arrays of sizes `nL`/`nU` the kernel writes
    every slot before reading it, i.e. its result does not depend on the prior contents. -/
def LUOverwrites (nL nU : Nat) : Prop :=
  ∀ (A L U L' U' : Array α), L.size = nL → L'.size = nL → U.size = nU → U'.size = nU →
    luCellSep s A (L, U) = luCellSep s A (L', U')

def LUOverwritesFor (Lo Up : Mat α) : Prop :=
  ∀ c, LUOverwrites s (Lo.getD c #[]).size (Up.getD c #[]).size

/-- the scratch of a State is fit for its solver: nothing is required of the in-place variants -/
def LUInv (sc : Scratch α) : Prop :=
  s.la.kind.inPlace = false → LUOverwritesFor s sc.lower sc.upper

theorem LUOverwrites_zero : LUOverwrites s 0 0 := by
  intro A L U L' U' h1 h2 h3 h4
  rw [Array.eq_empty_of_size_eq_zero h1, Array.eq_empty_of_size_eq_zero h2,
    Array.eq_empty_of_size_eq_zero h3, Array.eq_empty_of_size_eq_zero h4]

theorem luCellSep_size (A : Array α) (LU : Array α × Array α) :
    (luCellSep s A LU).1.size = LU.1.size ∧ (luCellSep s A LU).2.size = LU.2.size := by
  unfold luCellSep
  split
  · exact doolittleCell_size _ _ _
  · exact mozartCell_size _ _ _ _
  · exact ⟨rfl, rfl⟩

theorem factor_sep (hk : s.la.kind.inPlace = false) (J Lo Up : Mat α) :
    s.factor J Lo Up =
      (J, (J.mapIdx fun c A => luCellSep s A (Lo.getD c #[], Up.getD c #[])).map (·.1),
          (J.mapIdx fun c A => luCellSep s A (Lo.getD c #[], Up.getD c #[])).map (·.2)) := by
  unfold SolverCfg.factor luCellSep
  cases hkind : s.la.kind
  · rfl
  · rfl
  · rw [hkind] at hk; cases hk
  · rw [hkind] at hk; cases hk

theorem factor_inplace (hk : s.la.kind.inPlace = true) (J Lo Up : Mat α) :
    (s.factor J Lo Up).2 = (Lo, Up) ∧ ∀ Lo' Up', (s.factor J Lo' Up').1 = (s.factor J Lo Up).1 := by
  unfold SolverCfg.factor
  cases hkind : s.la.kind
  · rw [hkind] at hk; cases hk
  · rw [hkind] at hk; cases hk
  · exact ⟨rfl, fun _ _ => rfl⟩
  · exact ⟨rfl, fun _ _ => rfl⟩

theorem linSolve_inplace (hk : s.la.kind.inPlace = true) (J Lo Up Lo' Up' x : Mat α) :
    s.linSolve J Lo Up x = s.linSolve J Lo' Up' x := by
  unfold SolverCfg.linSolve; simp [hk]

theorem factor_congr (J Lo Up Lo' Up' : Mat α) (hL : shape Lo = shape Lo') (hU : shape Up = shape Up')
    (hlu : s.la.kind.inPlace = false → LUOverwritesFor s Lo Up) :
    (s.factor J Lo Up).1 = (s.factor J Lo' Up').1 ∧
    shape (s.factor J Lo Up).2.1 = shape (s.factor J Lo' Up').2.1 ∧
    shape (s.factor J Lo Up).2.2 = shape (s.factor J Lo' Up').2.2 ∧
    (∀ x, s.linSolve (s.factor J Lo Up).1 (s.factor J Lo Up).2.1 (s.factor J Lo Up).2.2 x =
          s.linSolve (s.factor J Lo' Up').1 (s.factor J Lo' Up').2.1 (s.factor J Lo' Up').2.2 x) := by
  cases hk : s.la.kind.inPlace
  · -- separate L/U: the two factorisations are equal
    have hfun : (fun (c : Nat) (A : Array α) => luCellSep s A (Lo.getD c #[], Up.getD c #[])) =
        (fun (c : Nat) (A : Array α) => luCellSep s A (Lo'.getD c #[], Up'.getD c #[])) := by
      funext c A
      exact hlu hk c A _ _ _ _ rfl (size_getD_congr hL c).symm rfl (size_getD_congr hU c).symm
    rw [factor_sep s hk, factor_sep s hk, hfun]
    exact ⟨rfl, rfl, rfl, fun _ => rfl⟩
  · obtain ⟨h2, h1⟩ := factor_inplace s hk J Lo Up
    obtain ⟨h2', _⟩ := factor_inplace s hk J Lo' Up'
    refine ⟨(h1 Lo' Up').symm, ?_, ?_, ?_⟩
    · rw [h2, h2']; exact hL
    · rw [h2, h2']; exact hU
    · intro x; rw [h1 Lo' Up']; exact linSolve_inplace s hk _ _ _ _ _ _

theorem factor_LUOverwritesFor (J Lo Up : Mat α)
    (hlu : s.la.kind.inPlace = false → LUOverwritesFor s Lo Up) :
    s.la.kind.inPlace = false → LUOverwritesFor s (s.factor J Lo Up).2.1 (s.factor J Lo Up).2.2 := by
  intro hk c
  rw [factor_sep s hk]
  simp only [Array.getD_eq_getD_getElem?, Array.getElem?_map, Array.getElem?_mapIdx]
  by_cases hc : c < J.size
  · simp only [Array.getElem?_eq_getElem hc, Option.map_some, Option.getD_some]
    rw [(luCellSep_size s _ _).1, (luCellSep_size s _ _).2]
    have := hlu hk c
    simpa only [Array.getD_eq_getD_getElem?] using this
  · have : J[c]? = none := by simp [hc]
    simp only [this, Option.map_none, Option.getD_none]
    exact LUOverwrites_zero s

end Factor

section Rel
variable {α : Type}

structure ScratchShapeEq (a b : Scratch α) : Prop where
  jac : shape a.jac = shape b.jac
  lower : shape a.lower = shape b.lower
  upper : shape a.upper = shape b.upper
  ynew : shape a.ynew = shape b.ynew
  f0 : shape a.f0 = shape b.f0
  k : kshape a.k = kshape b.k
  yerr : shape a.yerr = shape b.yerr

theorem ScratchShapeEq.refl (a : Scratch α) : ScratchShapeEq a a := ⟨rfl, rfl, rfl, rfl, rfl, rfl, rfl⟩
theorem ScratchShapeEq.symm {a b : Scratch α} (h : ScratchShapeEq a b) : ScratchShapeEq b a :=
  ⟨h.jac.symm, h.lower.symm, h.upper.symm, h.ynew.symm, h.f0.symm, h.k.symm, h.yerr.symm⟩
theorem ScratchShapeEq.trans {a b c : Scratch α} (h : ScratchShapeEq a b) (g : ScratchShapeEq b c) :
    ScratchShapeEq a c :=
  ⟨h.jac.trans g.jac, h.lower.trans g.lower, h.upper.trans g.upper, h.ynew.trans g.ynew,
   h.f0.trans g.f0, h.k.trans g.k, h.yerr.trans g.yerr⟩

/-- the relation kept between the scratch of two runs: shape-equal always; inside a step
    (`inStep = true`) the two objects computed by the step prologue — initial forcing and
    Jacobian — are equal -/
def ScratchRel (inStep : Bool) (a b : Scratch α) : Prop :=
  ScratchShapeEq a b ∧ (inStep = true → a.f0 = b.f0 ∧ a.jac = b.jac)

end Rel

section Ros
variable {α : Type} [OfNat α 0] [OfNat α 1] [Add α] [Sub α] [Mul α] [Div α]
variable (o : Ops α) (cs : Consts α) (s : SolverCfg α) (p : RosParams α) (kc : Mat α)
    (atol : Array α) (rtol : α) (timeStep hm : α)

theorem rosPrologue_lu (r : RState α) :
    (rosPrologue o cs s p kc timeStep r).sc.lower = r.sc.lower ∧
    (rosPrologue o cs s p kc timeStep r).sc.upper = r.sc.upper := by
  rcases rosPrologue_congr o cs s s p kc timeStep r r rfl rfl rfl with ⟨e, _⟩ | ⟨_, st, _, e, _⟩ | ⟨_, e, _⟩ <;>
    rw [e] <;> exact ⟨rfl, rfl⟩

def ScratchSim (r r' : RState α) : Prop :=
  r' = { r with sc := r'.sc } ∧ ScratchRel r.inStep r.sc r'.sc ∧ LUInv s r.sc

theorem ScratchSim.status {s : SolverCfg α} {r r' : RState α} (h : ScratchSim s r r') :
    r.status = r'.status := by rw [h.1]

theorem ScratchSim_prologue (r r' : RState α) (h : ScratchSim s r r') :
    ScratchSim s (rosPrologue o cs s p kc timeStep r) (rosPrologue o cs s p kc timeStep r') := by
  obtain ⟨e, hrel, hlu⟩ := h
  generalize r'.sc = sc' at e hrel
  subst e
  rcases rosPrologue_congr o cs s s p kc timeStep r { r with sc := sc' } rfl rfl rfl with
    ⟨e₁, e₂⟩ | ⟨_, st, _, e₁, e₂⟩ | ⟨hi, e₁, e₂⟩
  · rw [e₁, e₂]; exact ⟨rfl, hrel, hlu⟩
  · rw [e₁, e₂]; exact ⟨rfl, hrel, hlu⟩
  · -- a step starts: both runs compute the forcing and the Jacobian into zeroed buffers of one shape
    rw [e₁, e₂]
    refine ⟨rfl, ⟨⟨?_, hrel.1.lower, hrel.1.upper, hrel.1.ynew, ?_, hrel.1.k, hrel.1.yerr⟩, fun _ => ⟨?_, ?_⟩⟩, hlu⟩
    all_goals simp only [startStep, fillM_congr hrel.1.f0 0, fillM_congr hrel.1.jac 0]

section Attempt
variable (r : RState α) (sc' : Scratch α)
  (hsh : ScratchShapeEq r.sc sc') (hf0 : r.sc.f0 = sc'.f0) (hjac : r.sc.jac = sc'.jac)
  (hlu : LUInv s r.sc)

theorem attMatrix_scratch (hjac : r.sc.jac = sc'.jac) :
    attMatrix s p { r with sc := sc' } = attMatrix s p r := by
  unfold attMatrix attAlpha attAlpha0
  simp only [← hjac]

theorem attFactor_scratch (hsh : ScratchShapeEq r.sc sc') (hjac : r.sc.jac = sc'.jac) (hlu : LUInv s r.sc) :
    (attFactor s p r).1 = (attFactor s p { r with sc := sc' }).1 ∧
    shape (attFactor s p r).2.1 = shape (attFactor s p { r with sc := sc' }).2.1 ∧
    shape (attFactor s p r).2.2 = shape (attFactor s p { r with sc := sc' }).2.2 ∧
    (∀ x, s.linSolve (attFactor s p r).1 (attFactor s p r).2.1 (attFactor s p r).2.2 x =
          s.linSolve (attFactor s p { r with sc := sc' }).1 (attFactor s p { r with sc := sc' }).2.1
            (attFactor s p { r with sc := sc' }).2.2 x) := by
  unfold attFactor
  rw [attMatrix_scratch s p r sc' hjac]
  exact factor_congr s _ _ _ _ _ hsh.lower hsh.upper hlu

/-- the stage loop writes every `K[i]` before it reads it: scratches of the same shape that agree on
    the initial forcing give the same stage vectors (`stagesGo_rel` with equality for what has been
    computed and equality of shapes for the rest) -/
theorem attStages_scratch (hsh : ScratchShapeEq r.sc sc') (hf0 : r.sc.f0 = sc'.f0)
    (hjac : r.sc.jac = sc'.jac) (hlu : LUInv s r.sc) :
    kshape (attStages s p kc r).1 = kshape (attStages s p kc { r with sc := sc' }).1 ∧
    (∀ j, j < p.stages → (attStages s p kc r).1.getD j #[] =
                         (attStages s p kc { r with sc := sc' }).1.getD j #[]) ∧
    (attStages s p kc r).2.2 = (attStages s p kc { r with sc := sc' }).2.2 := by
  obtain ⟨_, _, _, hsolve⟩ := attFactor_scratch s p r sc' hsh hjac hlu
  have hsz := size_eq_of_kshape hsh.k
  unfold attStages
  generalize attFactor s p r = F at hsolve ⊢
  generalize attFactor s p { r with sc := sc' } = F' at hsolve ⊢
  obtain ⟨hK, _⟩ := stagesGo_rel (Rm := Eq) (Sh := fun X X' => shape X = shape X') (Ry := Eq)
    (Ro := fun _ _ => True) s s p kc (fun e => congrArg shape e) (fun _ => trivial) (fun e => fillM_congr e 0)
    (fun a _ _ _ _ e₁ e₂ => by rw [e₁, e₂]) (fun a _ _ _ _ e₁ e₂ => by rw [e₁, e₂])
    (fun e₁ e₂ => by rw [e₁, e₂]) F.1 F.2.1 F.2.2 F'.1 F'.2.1 F'.2.2
    (fun {x x'} e => by rw [e]; exact hsolve x') (rfl : r.Y = r.Y) r.ctl.h p.stages 0
    (Ks := r.sc.k.setIfInBounds 0 r.sc.f0) (Ks' := sc'.k.setIfInBounds 0 sc'.f0)
    ⟨fun j _ => by rw [Array.size_setIfInBounds, Array.size_setIfInBounds, hsz],
      fun j _ _ => rel_getD_set (R := fun X X' => shape X = shape X') 0 j (by rw [hsz])
        (fun _ _ => congrArg shape hf0) (fun _ => shape_getD_congr hsh.k j),
      fun j hj => absurd hj (Nat.not_lt_zero j)⟩
    (fun _ _ => rel_getD_set (R := Eq) 0 0 (by rw [hsz]) (fun _ _ => hf0) (fun h => by
      have h0 : r.sc.k.size ≤ 0 := Nat.le_of_not_lt fun h' => h ⟨rfl, h'⟩
      rw [getD_of_size_le _ _ _ h0, getD_of_size_le _ _ _ (hsz ▸ h0)]))
    (Or.inl rfl) (Nat.le_of_eq (Nat.zero_add _)) (ynew := r.sc.ynew) (ynew' := sc'.ynew) trivial
    { r.stats with decompositions := r.stats.decompositions + 1 }
    { r.stats with decompositions := r.stats.decompositions + 1 }
  rw [Nat.zero_add] at hK
  have hsz' : (stagesGo s p kc r.Y F.1 F.2.1 F.2.2 r.ctl.h p.stages 0 (r.sc.k.setIfInBounds 0 r.sc.f0) r.sc.ynew
        { r.stats with decompositions := r.stats.decompositions + 1 }).1.size =
      (stagesGo s p kc r.Y F'.1 F'.2.1 F'.2.2 r.ctl.h p.stages 0 (sc'.k.setIfInBounds 0 sc'.f0) sc'.ynew
        { r.stats with decompositions := r.stats.decompositions + 1 }).1.size := by
    rw [stagesGo_K_size, stagesGo_K_size, Array.size_setIfInBounds, Array.size_setIfInBounds, hsz]
  exact ⟨kshape_ext hsz' (fun j hj => hK.shape j hj (hsz' ▸ hj)), hK.lt,
    stagesGo_stats_indep s s p kc _ _ _ _ _ _ _ _ _ _ _ _ _ _ _ _ _⟩

theorem attResults_scratch (hsh : ScratchShapeEq r.sc sc') (hf0 : r.sc.f0 = sc'.f0)
    (hjac : r.sc.jac = sc'.jac) (hlu : LUInv s r.sc) :
    attYnew s p kc { r with sc := sc' } = attYnew s p kc r ∧
    attYerr s p kc { r with sc := sc' } = attYerr s p kc r ∧
    attDecide o cs s p kc atol rtol hm { r with sc := sc' } = attDecide o cs s p kc atol rtol hm r ∧
    attRecord o cs s p kc atol rtol hm { r with sc := sc' } = attRecord o cs s p kc atol rtol hm r := by
  obtain ⟨_, hk, _⟩ := attStages_scratch s p kc r sc' hsh hf0 hjac hlu
  have hYn : attYnew s p kc { r with sc := sc' } = attYnew s p kc r := by
    unfold attYnew
    exact foldl_congr_of_mem _ _ _ (fun a i hi => by rw [hk i (List.mem_range.1 hi)]) _
  have hYe : attYerr s p kc { r with sc := sc' } = attYerr s p kc r := by
    unfold attYerr
    show List.foldl _ (fillM sc'.yerr 0) _ = _
    rw [← fillM_congr hsh.yerr 0]
    exact foldl_congr_of_mem _ _ _ (fun a i hi => by rw [hk i (List.mem_range.1 hi)]) _
  have hE : attError o cs s p kc atol rtol { r with sc := sc' } = attError o cs s p kc atol rtol r := by
    unfold attError; rw [hYn, hYe]
  have hD : attDecide o cs s p kc atol rtol hm { r with sc := sc' } = attDecide o cs s p kc atol rtol hm r := by
    unfold attDecide; rw [hE]
  refine ⟨hYn, hYe, hD, ?_⟩
  unfold attRecord
  rw [hE, hD, attMatrix_scratch s p r sc' hjac]
  rfl

end Attempt

theorem rosAttempt_lu (r : RState α) :
    (rosAttempt o cs s p kc atol rtol hm r).sc.lower = (attFactor s p r).2.1 ∧
    (rosAttempt o cs s p kc atol rtol hm r).sc.upper = (attFactor s p r).2.2 := by
  unfold rosAttempt; simp only []
  split
  · exact ⟨rfl, rfl⟩
  · exact ⟨rfl, rfl⟩
  · exact ⟨rfl, rfl⟩
  · split <;> exact ⟨rfl, rfl⟩

theorem LUInv_attempt (r : RState α) (hlu : LUInv s r.sc) :
    LUInv s (rosAttempt o cs s p kc atol rtol hm r).sc := by
  unfold LUInv
  rw [(rosAttempt_lu o cs s p kc atol rtol hm r).1, (rosAttempt_lu o cs s p kc atol rtol hm r).2]
  unfold attFactor
  exact factor_LUOverwritesFor s _ _ _ hlu

theorem ScratchSim_attempt (q q' : RState α) (h : ScratchSim s q q') (hi : q.inStep = true) :
    ScratchSim s (rosAttempt o cs s p kc atol rtol hm q) (rosAttempt o cs s p kc atol rtol hm q') := by
  obtain ⟨e, hrel, hlu⟩ := h
  generalize q'.sc = sc' at e hrel
  subst e
  obtain ⟨hsh, hfj⟩ := hrel
  obtain ⟨hf0, hjac⟩ := hfj hi
  obtain ⟨f1, f2, f3, _⟩ := attFactor_scratch s p q sc' hsh hjac hlu
  obtain ⟨k1, _, k3⟩ := attStages_scratch s p kc q sc' hsh hf0 hjac hlu
  obtain ⟨e3, e4, e1, e2⟩ := attResults_scratch o cs s p kc atol rtol hm q sc' hsh hf0 hjac hlu
  have e5 : attLastAlpha s p { q with sc := sc' } = attLastAlpha s p q := rfl
  have hlu' := LUInv_attempt o cs s p kc atol rtol hm q hlu
  -- name the two results: everything but the scratch is built from the projections just compared
  generalize e₁ : rosAttempt o cs s p kc atol rtol hm q = t at hlu'
  generalize e₂ : rosAttempt o cs s p kc atol rtol hm { q with sc := sc' } = t'
  unfold rosAttempt at e₁ e₂
  simp only [e1, e2, e3, e4, e5, ← k3, ← f1] at e₂
  cases hd : (attDecide o cs s p kc atol rtol hm q).1 <;> simp only [hd] at e₁ e₂
  case reject =>
    cases hk : s.la.kind.inPlace <;> simp only [hk, Bool.false_eq_true, if_false, if_true] at e₁ e₂ <;>
      subst e₁ e₂ <;> exact ⟨rfl, ⟨⟨rfl, f2, f3, rfl, hsh.f0, k1, rfl⟩, fun _ => ⟨hf0, rfl⟩⟩, hlu'⟩
  all_goals
    subst e₁ e₂
    exact ⟨rfl, ⟨⟨rfl, f2, f3, rfl, hsh.f0, k1, rfl⟩, fun _ => ⟨hf0, rfl⟩⟩, hlu'⟩

theorem ScratchSim_step (r r' : RState α) (h : ScratchSim s r r') :
    ScratchSim s (rosStep o cs s p kc atol rtol timeStep hm r) (rosStep o cs s p kc atol rtol timeStep hm r') :=
  rosStep_sim o cs s s p kc atol atol rtol timeStep hm (ScratchSim s) (fun _ _ h => h.status) r r'
    (ScratchSim_prologue o cs s p kc timeStep r r' h)
    (fun _ hin => ScratchSim_attempt o cs s p kc atol rtol hm _ _
      (ScratchSim_prologue o cs s p kc timeStep r r' h) hin)

theorem ScratchSim_loop (fuel : Nat) (r r' : RState α) (h : ScratchSim s r r') :
    ScratchSim s (rosLoop o cs s p kc atol rtol timeStep hm fuel r)
      (rosLoop o cs s p kc atol rtol timeStep hm fuel r') :=
  rosLoop_sim o cs s s p kc atol atol rtol timeStep hm (ScratchSim s) (fun _ _ => True)
    (fun _ _ h => h.status)
    (fun r r' _ h _ => ScratchSim_step o cs s p kc atol rtol timeStep hm r r' h)
    (fun _ _ h => ⟨congrArg (fun q : RState α => { q with status := .outOfFuel }) h.1, h.2.1, h.2.2⟩)
    fuel r r' h (fun _ _ => trivial)

theorem rosStep_lu_inplace (hk : s.la.kind.inPlace = true) (r : RState α) :
    (rosStep o cs s p kc atol rtol timeStep hm r).sc.lower = r.sc.lower ∧
    (rosStep o cs s p kc atol rtol timeStep hm r).sc.upper = r.sc.upper := by
  rw [rosStep_eq]
  split
  · rw [(rosAttempt_lu o cs s p kc atol rtol hm _).1, (rosAttempt_lu o cs s p kc atol rtol hm _).2]
    unfold attFactor
    rw [(factor_inplace s hk _ _ _).1]
    exact rosPrologue_lu o cs s p kc timeStep r
  · exact rosPrologue_lu o cs s p kc timeStep r

end Ros

section Ext
variable {α : Type}

theorem RState.eq_with_sc {r r' : RState α} (hY : r'.Y = r.Y) (hctl : r'.ctl = r.ctl)
    (hstats : r'.stats = r.stats) (hstatus : r'.status = r.status) (hin : r'.inStep = r.inStep)
    (hla : r'.lastAlpha = r.lastAlpha) (htr : r'.trace = r.trace) : r' = { r with sc := r'.sc } := by
  cases r; cases r'; simp_all

theorem BEState.eq_with_sc {r r' : BEState α} (h1 : r'.Yn1 = r.Yn1) (h2 : r'.Yn = r.Yn) (h3 : r'.t = r.t)
    (h4 : r'.h = r.h) (h5 : r'.nSucc = r.nSucc) (h6 : r'.nFail = r.nFail)
    (h7 : r'.iterations = r.iterations) (h8 : r'.stats = r.stats) (h9 : r'.status = r.status)
    (h10 : r'.done = r.done) (h11 : r'.trace = r.trace) : r' = { r with sc := r'.sc } := by
  cases r; cases r'; simp_all

theorem LUInv_inplace [OfNat α 0] [OfNat α 1] [Add α] [Sub α] [Mul α] [Div α]
    (s : SolverCfg α) (hk : s.la.kind.inPlace = true) (sc : Scratch α) : LUInv s sc := by
  intro h; rw [hk] at h; cases h

end Ext

section BE
variable {α : Type} [OfNat α 0] [OfNat α 1] [OfNat α 2] [Add α] [Sub α] [Mul α] [Div α]
variable (o : Ops α) (s : SolverCfg α) (p : BEParams α) (kc : Mat α) (atol : Array α) (rtol : α)
    (timeStep : α)

theorem beHead_scratch (r : BEState α) (sc' : Scratch α) :
    beHead o timeStep { r with sc := sc' } = { beHead o timeStep r with sc := sc' } ∧
    (beHead o timeStep r).sc = r.sc := by
  unfold beHead
  simp only []
  split
  · split <;> exact ⟨rfl, rfl⟩
  · exact ⟨rfl, rfl⟩

theorem beReject_scratch (r : BEState α) (sc' : Scratch α) :
    beReject o p timeStep { r with sc := sc' } = { beReject o p timeStep r with sc := sc' } ∧
    (beReject o p timeStep r).sc = r.sc := by
  unfold beReject
  simp only []
  split <;> exact ⟨rfl, rfl⟩

theorem beAccept_scratch (r : BEState α) (sc' : Scratch α) :
    beAccept o timeStep { r with sc := sc' } = { beAccept o timeStep r with sc := sc' } ∧
    (beAccept o timeStep r).sc = r.sc := ⟨rfl, rfl⟩

/-- unlike `ScratchRel` this asks for equal shapes only: every scratch object an iteration of backward
    Euler reads is `Fill(0)`-ed first -/
def BEScratchSim (r r' : BEState α) : Prop :=
  r' = { r with sc := r'.sc } ∧ ScratchShapeEq r.sc r'.sc ∧ LUInv s r.sc

theorem BEScratchSim.of_frame {s : SolverCfg α} {f : BEState α → BEState α}
    (hf : ∀ (r : BEState α) (sc' : Scratch α), f { r with sc := sc' } = { f r with sc := sc' } ∧ (f r).sc = r.sc)
    {r r' : BEState α} (h : BEScratchSim s r r') : BEScratchSim s (f r) (f r') := by
  obtain ⟨e, hsh, hlu⟩ := h
  generalize r'.sc = sc' at e hsh
  subst e
  obtain ⟨e1, e2⟩ := hf r sc'
  rw [e1]
  exact ⟨rfl, by rw [e2]; exact hsh, by rw [e2]; exact hlu⟩

/-- the Newton update reads `forcing` and `jacobian` only after `Fill(0)`, and the `L`/`U` storage
    only through the factorisation -/
theorem beNewton_scratch (r : BEState α) (sc' : Scratch α) (hsh : ScratchShapeEq r.sc sc') (hlu : LUInv s r.sc) :
    beConv o s p kc atol rtol { r with sc := sc' } = beConv o s p kc atol rtol r ∧
    BEScratchSim s (beNewton o s kc r) (beNewton o s kc { r with sc := sc' }) := by
  have eF : beForcing s kc { r with sc := sc' } = beForcing s kc r := by
    unfold beForcing
    show s.forcing kc r.Yn1 (fillM sc'.f0 0) = _
    rw [← fillM_congr hsh.f0 0]
  have eM : beMatrix s kc { r with sc := sc' } = beMatrix s kc r := by
    unfold beMatrix
    show addDiag s.diag (s.jacobian kc r.Yn1 (fillM sc'.jac 0)) (1 / r.h) = _
    rw [← fillM_congr hsh.jac 0]
  obtain ⟨f1, f2, f3, hsolve⟩ := factor_congr s (beMatrix s kc r) _ _ _ _ hsh.lower hsh.upper hlu
  have eR : beResidual s kc { r with sc := sc' } = beResidual s kc r := by
    unfold beResidual beFactor
    rw [eM, eF]
    exact (hsolve _).symm
  have eY : beNewY o s kc { r with sc := sc' } = beNewY o s kc r := by
    unfold beNewY; rw [eR]
  refine ⟨by unfold beConv; rw [eR, eY], ?_⟩
  have hN : ∃ sc'', beNewton o s kc { r with sc := sc' } = { beNewton o s kc r with sc := sc'' } ∧
      ScratchShapeEq (beNewton o s kc r).sc sc'' ∧ LUInv s (beNewton o s kc r).sc := by
    unfold beNewton beFactor
    simp only [eR, eY, eM, ← f1]
    exact ⟨_, rfl, ⟨rfl, f2, f3, hsh.ynew, rfl, hsh.k, hsh.yerr⟩, fun hk => factor_LUOverwritesFor s _ _ _ hlu hk⟩
  obtain ⟨sc2, e2, h2, h3⟩ := hN
  rw [e2]
  exact ⟨rfl, h2, h3⟩

theorem BEScratchSim_step (r r' : BEState α) (h : BEScratchSim s r r') :
    BEScratchSim s (beStep o s p kc atol rtol timeStep r) (beStep o s p kc atol rtol timeStep r') := by
  have hH := h.of_frame (beHead_scratch o timeStep)
  -- name the two results, so that the case analysis rewrites two equations and not the goal
  generalize e₁ : beStep o s p kc atol rtol timeStep r = t
  generalize e₂ : beStep o s p kc atol rtol timeStep r' = t'
  rw [beStep_eq] at e₁ e₂
  simp only [] at e₁ e₂
  generalize beHead o timeStep r = q at hH e₁
  generalize beHead o timeStep r' = q' at hH e₂
  obtain ⟨e, hsh, hlu⟩ := hH
  generalize q'.sc = sc' at e hsh
  subst e
  obtain ⟨hconv, hN⟩ := beNewton_scratch o s p kc atol rtol q sc' hsh hlu
  rw [hconv] at e₂
  by_cases hd : q.done = true
  · rw [if_pos hd] at e₁; rw [if_pos hd] at e₂; subst e₁ e₂; exact ⟨rfl, hsh, hlu⟩
  rw [if_neg hd] at e₁; rw [if_neg hd] at e₂
  by_cases hc : (!beConv o s p kc atol rtol q && decide (q.iterations + 1 < p.maxSteps)) = true
  · rw [if_pos hc] at e₁; rw [if_pos hc] at e₂; subst e₁ e₂; exact hN
  rw [if_neg hc] at e₁; rw [if_neg hc] at e₂
  by_cases hv : (!beConv o s p kc atol rtol q) = true
  · rw [if_pos hv] at e₁ e₂; subst e₁ e₂; exact hN.of_frame (beReject_scratch o p timeStep)
  · rw [if_neg hv] at e₁ e₂; subst e₁ e₂; exact hN.of_frame (beAccept_scratch o timeStep)

theorem BEScratchSim_loop (fuel : Nat) (r r' : BEState α) (h : BEScratchSim s r r') :
    BEScratchSim s (beLoop o s p kc atol rtol timeStep fuel r) (beLoop o s p kc atol rtol timeStep fuel r') :=
  beLoop_sim o s s p kc atol atol rtol timeStep (BEScratchSim s) (fun _ _ => True)
    (fun _ _ h => by rw [h.1])
    (fun r r' _ h _ => BEScratchSim_step o s p kc atol rtol timeStep r r' h)
    (fun _ _ h => ⟨congrArg (fun q : BEState α => { q with status := .outOfFuel }) h.1, h.2.1, h.2.2⟩)
    fuel r r' h (fun _ _ => trivial)

end BE

section History
variable {α : Type} [OfNat α 0] [OfNat α 1] [Add α] [Sub α] [Mul α] [Div α]

/-- what `GetState` allocates, with the shapes of `sc` -/
def zeroScratch (sc : Scratch α) : Scratch α :=
  { jac := fillM sc.jac 0, lower := fillM sc.lower 0, upper := fillM sc.upper 0, ynew := fillM sc.ynew 0,
    f0 := fillM sc.f0 0, k := sc.k.map (fillM · 0), yerr := fillM sc.yerr 0 }

theorem zeroScratch_shape (sc : Scratch α) : ScratchShapeEq sc (zeroScratch sc) := by
  refine ⟨(shape_fillM _ _).symm, (shape_fillM _ _).symm, (shape_fillM _ _).symm, (shape_fillM _ _).symm,
    (shape_fillM _ _).symm, ?_, (shape_fillM _ _).symm⟩
  simp only [zeroScratch, kshape, Array.map_map]
  apply Array.map_congr_left
  intro m _
  exact (shape_fillM m 0).symm

theorem LUInv_congr (s : SolverCfg α) {a b : Scratch α} (h : ScratchShapeEq a b) (hlu : LUInv s a) :
    LUInv s b := by
  intro hk c
  rw [← size_getD_congr h.lower c, ← size_getD_congr h.upper c]
  exact hlu hk c

/-- the inputs of one `Solve` call on a State (everything the user may have set in between) -/
structure SolveIn (α : Type) where
  p : RosParams α
  kc : Mat α
  atol : Array α
  rtol : α
  timeStep : α
  Y : Mat α
  fuel : Nat

/-- what the user sees of a result (everything but the scratch) -/
def SolveResult.core (r : SolveResult α) : Status × α × Stats × Mat α × List (Attempt α) :=
  (r.status, r.finalTime, r.stats, r.Y, r.trace)

variable (o : Ops α) (cs : Consts α) (s : SolverCfg α)

/-- a sequence of Rosenbrock solves on ONE State: the scratch left by each solve feeds the next.
    Returns, per solve, the scratch it started from and its result. -/
def rosHistory : Scratch α → List (SolveIn α) → List (Scratch α × SolveResult α)
  | _, [] => []
  | sc, i :: is =>
    let r := rosSolve o cs s i.p i.kc i.atol i.rtol i.timeStep i.Y sc i.fuel
    (sc, r) :: rosHistory r.sc is

end History

section HistoryBE
variable {α : Type} [OfNat α 0] [OfNat α 1] [OfNat α 2] [Add α] [Sub α] [Mul α] [Div α]

structure BESolveIn (α : Type) where
  p : BEParams α
  kc : Mat α
  atol : Array α
  rtol : α
  timeStep : α
  Y : Mat α
  fuel : Nat

variable (o : Ops α) (s : SolverCfg α)

def beHistory : Scratch α → List (BESolveIn α) → List (Scratch α × SolveResult α)
  | _, [] => []
  | sc, i :: is =>
    let r := beSolve o s i.p i.kc i.atol i.rtol i.timeStep i.Y sc i.fuel
    (sc, r) :: beHistory r.sc is

end HistoryBE

end Micm
