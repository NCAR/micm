/-
Lemmas for the time-bound part of C06: along the flattened Rosenbrock loop over an ordered field the
current time stays in `[0, T]`, and inside a step `t + H ≤ T`, `0 ≤ H` (`0 < H` when `round_off > 0`).
Also: the accepted step sizes recorded in the trace are bounded by the current time, and the
documented continuation loop (`Solve` again with `T − final_time`).
-/
import Micm.Lemmas.RosLoop

namespace Micm
set_option linter.unusedSectionVars false

section TimeInv
variable {K : Type} [Field K] [LinearOrder K] [IsStrictOrderedRing K]
variable {o : Ops K} (cs : Consts K) (s : SolverCfg K) (p : RosParams K) (kc : Mat K)
    (atol : Array K) (rtol : K) (T hm : K)

structure TimeInv (p : RosParams K) (T : K) (r : RState K) : Prop where
  t_nonneg : 0 ≤ r.ctl.t
  t_le : r.ctl.t ≤ T
  h_nonneg : r.inStep = true → 0 ≤ r.ctl.h
  fits : r.inStep = true → r.ctl.t + r.ctl.h ≤ T
  h_pos : r.inStep = true → 0 < p.roundOff → 0 < r.ctl.h
  acc_le : ∀ a ∈ r.trace, a.accepted = true → 0 ≤ a.h ∧ a.h ≤ r.ctl.t

theorem TimeInv_init (h0 : K) (Y : Mat K) (sc : Scratch K) (hT : 0 ≤ T) :
    TimeInv p T (rosInit h0 Y sc) :=
  ⟨le_refl _, hT, fun h => (by cases h), fun h => (by cases h), fun h => (by cases h),
   fun _ h => (by cases h)⟩

theorem TimeInv.status {r : RState K} (h : TimeInv p T r) (st : Status) :
    TimeInv p T { r with status := st } :=
  ⟨h.1, h.2, h.3, h.4, h.5, h.6⟩

theorem TimeInv_prologue (ho : OrderedOps o) (hro : 0 ≤ p.roundOff) (r : RState K)
    (h : TimeInv p T r) : TimeInv p T (rosPrologue o cs s p kc T r) := by
  refine rosPrologue_inv o cs s p kc T (TimeInv p T) r (fun st _ h => h.status p T st) ?_ h
  intro _ ht _ hsm _
  -- a step starts only with `round_off ≤ T − t` and `round_off < H`, and with `H ← min H |T − t|`
  rw [ho.le, decide_eq_true_eq, sub_add_eq_add_sub, sub_nonpos] at ht
  have hrem : p.roundOff ≤ T - r.ctl.t := le_sub_iff_add_le'.mpr ht
  have hTt : 0 ≤ T - r.ctl.t := le_trans hro hrem
  have hh : p.roundOff < r.ctl.h := by
    have := (Bool.or_eq_false_iff.mp hsm).2
    rw [ho.le] at this
    exact not_le.mp (of_decide_eq_false this)
  have e : (startStep o s kc T r).ctl.h = min r.ctl.h (T - r.ctl.t) := by
    show cmin o r.ctl.h (o.abs (T - r.ctl.t)) = _
    rw [ho.cmin_eq, ho.abs, abs_of_nonneg hTt]
  refine ⟨h.1, h.2, fun _ => ?_, fun _ => ?_, fun _ hp => ?_, h.6⟩
  · rw [e]; exact le_min (le_of_lt (lt_of_le_of_lt hro hh)) hTt
  · rw [e]
    exact le_trans (add_le_add (le_refl r.ctl.t) (min_le_right _ _)) (le_of_eq (add_sub_cancel _ _))
  · rw [e]; exact lt_min (lt_trans hp hh) (lt_of_lt_of_le hp hrem)

theorem attDecide_cases (ho : OrderedOps o) (r : RState K) :
    (attDecide o cs s p kc atol rtol hm r).1 = .accept ∨
    (attDecide o cs s p kc atol rtol hm r).1 = .reject :=
  ho.decision_cases p hm r.ctl _

theorem TimeInv_attempt (ho : OrderedOps o) (lp : LegalParams p) (hs1 : p.safety < 1)
    (hpow : ∀ x, 1 ≤ x → 1 ≤ o.pow x (1 / p.order)) (r : RState K) (hi : r.inStep = true)
    (h : TimeInv p T r) : TimeInv p T (rosAttempt o cs s p kc atol rtol hm r) := by
  have hh := h.h_nonneg hi
  have hf := h.fits hi
  rcases attDecide_cases cs s p kc atol rtol hm ho r with hd | hd
  · -- accepted: `t' = t + H`, and the step is left
    have ht : (rosAttempt o cs s p kc atol rtol hm r).ctl.t = r.ctl.t + r.ctl.h := by
      rw [rosAttempt_ctl]; exact congrArg Ctl.t (ho.accept_next p hm r.ctl _ hd)
    have hin : (rosAttempt o cs s p kc atol rtol hm r).inStep = true → False := fun h1 => by
      rw [rosAttempt_inStep, if_pos hd] at h1; cases h1
    have ht0 : r.ctl.t ≤ r.ctl.t + r.ctl.h := le_add_of_nonneg_right hh
    refine ⟨by rw [ht]; exact add_nonneg h.1 hh, by rw [ht]; exact hf, fun h1 => (hin h1).elim,
      fun h1 => (hin h1).elim, fun h1 => (hin h1).elim, ?_⟩
    intro a ha hacc
    rw [rosAttempt_trace] at ha
    rw [ht]
    rcases List.mem_cons.mp ha with rfl | ha
    · exact ⟨hh, le_add_of_nonneg_left h.1⟩
    · exact ⟨(h.acc_le a ha hacc).1, le_trans (h.acc_le a ha hacc).2 ht0⟩
  · -- rejected: `t' = t`, `H' = H·f` with `0 < f < 1`
    obtain ⟨f, f0, f1, e⟩ := ho.reject_factor p hm lp hpow r.ctl _ hd
    have fq : f ≤ 1 := le_of_lt (lt_of_le_of_lt f1 (rejFactor_lt_one p lp hs1))
    have hc := (rosAttempt_ctl o cs s p kc atol rtol hm r).trans e
    refine ⟨by rw [hc]; exact h.1, by rw [hc]; exact h.2, fun _ => by rw [hc]; exact mul_nonneg hh (le_of_lt f0),
      fun _ => ?_, fun _ hp => by rw [hc]; exact mul_pos (h.h_pos hi hp) f0, ?_⟩
    · rw [hc]; exact le_trans (add_le_add (le_refl r.ctl.t) (mul_le_of_le_one_right hh fq)) hf
    · intro a ha hacc
      rw [rosAttempt_trace] at ha
      rw [hc]
      rcases List.mem_cons.mp ha with rfl | ha
      · have : (attRecord o cs s p kc atol rtol hm r).accepted = false := by
          show ((attDecide o cs s p kc atol rtol hm r).1 == Decision.accept) = false
          rw [hd]; rfl
        rw [this] at hacc; cases hacc
      · exact h.acc_le a ha hacc

theorem TimeInv_step (ho : OrderedOps o) (lp : LegalParams p) (hs1 : p.safety < 1)
    (hpow : ∀ x, 1 ≤ x → 1 ≤ o.pow x (1 / p.order)) (hro : 0 ≤ p.roundOff) (r : RState K)
    (h : TimeInv p T r) : TimeInv p T (rosStep o cs s p kc atol rtol T hm r) :=
  rosStep_inv o cs s p kc atol rtol T hm (TimeInv p T) r (TimeInv_prologue cs s p kc T ho hro r)
    (fun r' _ hi h' => TimeInv_attempt cs s p kc atol rtol T hm ho lp hs1 hpow r' hi h') h

theorem TimeInv_loop (ho : OrderedOps o) (lp : LegalParams p) (hs1 : p.safety < 1)
    (hpow : ∀ x, 1 ≤ x → 1 ≤ o.pow x (1 / p.order)) (hro : 0 ≤ p.roundOff) (fuel : Nat) (r : RState K)
    (h : TimeInv p T r) : TimeInv p T (rosLoop o cs s p kc atol rtol T hm fuel r) :=
  rosLoop_inv o cs s p kc atol rtol T hm (TimeInv p T)
    (fun r _ h => TimeInv_step cs s p kc atol rtol T hm ho lp hs1 hpow hro r h)
    (fun _ _ h => h.status p T _) fuel r h

end TimeInv

section Continuation
variable {α : Type} [OfNat α 0] [OfNat α 1] [Add α] [Sub α] [Mul α] [Div α]

/-- state of the documented continuation loop after `k` calls:
    (remaining time, solution, scratch).  Call `k+1` is `Solve(remaining, …)` on the current state;
    the new remainder is `remaining − final_time`. -/
def contLoop (o : Ops α) (cs : Consts α) (s : SolverCfg α) (p : RosParams α) (kc : Mat α)
    (atol : Array α) (rtol : α) (fuel : Nat) (T : α) (Y : Mat α) (sc : Scratch α) :
    Nat → α × Mat α × Scratch α
  | 0 => (T, Y, sc)
  | k + 1 =>
    let st := contLoop o cs s p kc atol rtol fuel T Y sc k
    let res := rosSolve o cs s p kc atol rtol st.1 st.2.1 st.2.2 fuel
    (st.1 - res.finalTime, res.Y, res.sc)

end Continuation

end Micm
