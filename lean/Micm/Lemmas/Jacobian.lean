/-
Lemmas for C02 (Jacobian = minus the formal partial derivatives of the forcing).

`jacGo` and `flatIdsGo` replay three concatenated streams; the decode lemmas turn that into a fold over
entries, and the frame and numeric lemmas read one slot of the result: an entry adds its rate once per
occurrence of the slot among its ids.  `dMonomial` is the formal derivative of a monomial whose variables are
listed with multiplicity.  `buildJacobianEntries` and `nonZeroGo` describe the second constructor loop and
the pattern it yields (the tables themselves are `builtTables` of `Micm/Lemmas/Forcing.lean`).  The last part
sums entry coefficient × rate over a built process set and identifies the sum with `forcingPartial`.
-/
import Micm.Lemmas.Forcing
import Micm.Lemmas.ArraySum
import Micm.Lemmas.PairSet
import Micm.Lemmas.SparseIndex
import Micm.Lemmas.ExceptLemmas
import Mathlib.Data.List.Nodup

namespace Micm

section Decode
variable {α : Type}

def JEntry.WF (e : JEntry α) : Prop :=
  e.info.nDep = e.deps.length ∧ e.info.nProd = e.prods.length

/-- flat ids of the `+=` writes of one entry: one per dependent reactant, then the diagonal -/
def entryAddIds (rk : Nat → Nat → Nat) (e : JEntry α) : List Nat :=
  e.deps.map (fun x => rk x e.info.ind) ++ [rk e.info.ind e.info.ind]

/-- flat ids of the `-=` writes of one entry: one per product -/
def entryProdIds (rk : Nat → Nat → Nat) (e : JEntry α) : List Nat :=
  e.prods.map (fun p => rk p.1 e.info.ind)

def entrySubIds (rk : Nat → Nat → Nat) (e : JEntry α) : List (Nat × α) :=
  e.prods.map (fun p => (rk p.1 e.info.ind, p.2))

/-- all flat ids pushed by `SetJacobianFlatIds` for one entry, in the code's order -/
def entryFlatIds (rk : Nat → Nat → Nat) (e : JEntry α) : List Nat :=
  entryAddIds rk e ++ entryProdIds rk e

variable [OfNat α 0] [Add α] [Sub α] [Mul α]

/-- the update `SubtractJacobianTerms` performs for one `ProcessInfo`, with its operands decoded -/
def jacEntryStep (k y : Array α) (pid : Nat) (deps addIds : List Nat) (subIds : List (Nat × α))
    (J : Array α) : Array α :=
  let d := deps.foldl (fun acc i => acc * rd y i) (rd k pid)
  let J := addIds.foldl (fun J id => wr J id (rd J id + d)) J
  subIds.foldl (fun J p => wr J p.1 (rd J p.1 - p.2 * d)) J

theorem jacGo_decode_gen (k y : Array α) (fa fb : JEntry α → List Nat) (es : List (JEntry α))
    (hwf : ∀ e ∈ es, e.WF)
    (hfa : ∀ e ∈ es, (fa e).length = e.deps.length + 1)
    (hfb : ∀ e ∈ es, (fb e).length = e.prods.length)
    (r1 : List Nat) (r2 : List α) (r3 : List Nat) (J : Array α) :
    jacGo k y (es.map (·.info)) (es.flatMap (·.deps) ++ r1)
        (es.flatMap (fun e => e.prods.map (·.2)) ++ r2)
        (es.flatMap (fun e => fa e ++ fb e) ++ r3) J
      = es.foldl (fun J e => jacEntryStep k y e.info.pid e.deps (fa e)
          ((fb e).zip (e.prods.map (·.2))) J) J := by
  induction es generalizing J with
  | nil => simp [jacGo]
  | cons e es ih =>
    obtain ⟨h1, h2⟩ := hwf e List.mem_cons_self
    have h3 : (fa e).length = e.info.nDep + 1 := h1 ▸ hfa e List.mem_cons_self
    have h4 : (fb e).length = e.info.nProd := h2 ▸ hfb e List.mem_cons_self
    have h5 : (e.prods.map (·.2)).length = e.info.nProd := h2 ▸ List.length_map _
    -- each cursor takes exactly the entry's own segment off its stream
    simp only [List.map_cons, List.flatMap_cons, List.append_assoc, jacGo, List.foldl_cons,
      List.take_left' h1.symm, List.drop_left' h1.symm, List.take_left' h3, List.drop_left' h3,
      List.take_left' h4, List.drop_left' h4, List.take_left' h5, List.drop_left' h5]
    rw [ih (fun e he => hwf e (List.mem_cons_of_mem _ he)) (fun e he => hfa e (List.mem_cons_of_mem _ he))
      (fun e he => hfb e (List.mem_cons_of_mem _ he))]
    rfl

theorem jacGo_decode (k y : Array α) (rk : Nat → Nat → Nat) (es : List (JEntry α))
    (hwf : ∀ e ∈ es, e.WF) (r1 : List Nat) (r2 : List α) (r3 : List Nat) (J : Array α) :
    jacGo k y (es.map (·.info)) (es.flatMap (·.deps) ++ r1)
        (es.flatMap (fun e => e.prods.map (·.2)) ++ r2)
        (es.flatMap (entryFlatIds rk) ++ r3) J
      = es.foldl (fun J e => jacEntryStep k y e.info.pid e.deps (entryAddIds rk e)
          (entrySubIds rk e) J) J := by
  have h := jacGo_decode_gen k y (entryAddIds rk) (entryProdIds rk) es hwf
    (fun e _ => by simp [entryAddIds]) (fun e _ => by simp [entryProdIds]) r1 r2 r3 J
  have hz : ∀ e : JEntry α, (entryProdIds rk e).zip (e.prods.map (·.2)) = entrySubIds rk e := fun e =>
    (List.zip_of_prod (by simp [entrySubIds, entryProdIds]) (by simp [entrySubIds])).symm
  simp only [hz] at h
  exact h

omit [OfNat α 0] [Add α] [Sub α] [Mul α]

def Pattern.Present (p : Pattern) (r c : Nat) : Prop := p.rank r c = .ok (p.rk r c)

theorem Pattern.present_of_ok (p : Pattern) (r c v : Nat) (h : p.rank r c = .ok v) :
    p.Present r c := by
  unfold Pattern.Present; rw [p.rank_ok_rk r c v h]; exact h

theorem Pattern.rank_eq_ok_iff (p : Pattern) (r c v : Nat) :
    p.rank r c = .ok v ↔ p.Present r c ∧ v = p.rk r c :=
  ⟨fun h => ⟨p.present_of_ok r c v h, (p.rank_ok_rk r c v h).symm⟩, fun h => h.2 ▸ h.1⟩

def JEntry.Present (p : Pattern) (e : JEntry α) : Prop :=
  (∀ x ∈ e.deps, p.Present x e.info.ind) ∧ p.Present e.info.ind e.info.ind ∧
    ∀ pr ∈ e.prods, p.Present pr.1 e.info.ind

theorem flatIdsGo_decode (p : Pattern) (es : List (JEntry α)) (hwf : ∀ e ∈ es, e.WF)
    (r1 r2 : List Nat) (flat : List Nat) :
    flatIdsGo p (es.map (·.info)) (es.flatMap (·.deps) ++ r1)
        (es.flatMap (fun e => e.prods.map (·.1)) ++ r2) = .ok flat
      ↔ (∀ e ∈ es, e.Present p) ∧ flat = es.flatMap (entryFlatIds p.rk) := by
  induction es generalizing flat with
  | nil => simp [flatIdsGo, eq_comm]
  | cons e es ih =>
    obtain ⟨h1, h2⟩ := hwf e List.mem_cons_self
    have h5 : (e.prods.map (·.1)).length = e.info.nProd := h2 ▸ List.length_map _
    -- every bind succeeds iff its operand is present, and then yields the `rk` value
    simp only [List.map_cons, List.flatMap_cons, List.append_assoc, flatIdsGo,
      List.take_left' h1.symm, List.drop_left' h1.symm, List.take_left' h5, List.drop_left' h5,
      Except.bind_eq_ok_iff, Except.pure_eq_ok_iff, p.rank_eq_ok_iff,
      Except.mapM_eq_ok_iff _ _ _ (fun x v => p.rank_eq_ok_iff x e.info.ind v),
      ih (fun e he => hwf e (List.mem_cons_of_mem _ he)), List.mem_cons, forall_eq_or_imp,
      JEntry.Present, List.forall_mem_map]
    constructor
    · rintro ⟨_, ⟨ha, rfl⟩, _, ⟨hd, rfl⟩, _, ⟨hb, rfl⟩, _, ⟨hr, rfl⟩, rfl⟩
      exact ⟨⟨⟨ha, hd, hb⟩, hr⟩, by simp [entryFlatIds, entryAddIds, entryProdIds]⟩
    · rintro ⟨⟨⟨ha, hd, hb⟩, hr⟩, rfl⟩
      exact ⟨_, ⟨ha, rfl⟩, _, ⟨hd, rfl⟩, _, ⟨hb, rfl⟩, _, ⟨hr, rfl⟩,
        by simp [entryFlatIds, entryAddIds, entryProdIds]⟩

end Decode

section Frame
variable {α : Type} [OfNat α 0] [Add α] [Sub α] [Mul α]

theorem jacEntryStep_size (k y : Array α) (pid : Nat) (deps addIds : List Nat)
    (subIds : List (Nat × α)) (J : Array α) :
    (jacEntryStep k y pid deps addIds subIds J).size = J.size := by
  unfold jacEntryStep
  rw [foldl_wr_size, foldl_wr_size]

theorem jacGo_size (k y : Array α) (infos : List ProcessInfo) (jr : List Nat) (jy : List α)
    (flat : List Nat) (J : Array α) : (jacGo k y infos jr jy flat J).size = J.size := by
  induction infos generalizing jr jy flat J with
  | nil => simp [jacGo]
  | cons info infos ih =>
    simp only [jacGo]
    rw [ih, foldl_wr_size, foldl_wr_size]

theorem jacGo_untouched (k y : Array α) (infos : List ProcessInfo) (jr : List Nat) (jy : List α)
    (flat : List Nat) (J : Array α) (q : Nat) (hq : q ∉ flat) :
    rd (jacGo k y infos jr jy flat J) q = rd J q := by
  induction infos generalizing jr jy flat J with
  | nil => simp [jacGo]
  | cons info infos ih =>
    simp only [jacGo]
    rw [ih _ _ _ _ fun h => hq (List.mem_of_mem_drop (List.mem_of_mem_drop h)),
      foldl_wr_rd_of_not_mem, foldl_wr_rd_of_not_mem]
    · intro b hb hbq
      exact hq (hbq ▸ List.mem_of_mem_take hb)
    · intro b hb hbq
      exact hq (hbq ▸ List.mem_of_mem_drop (List.mem_of_mem_take (List.of_mem_zip hb).1))

end Frame

section Numeric
variable {K : Type} [CommRing K]

def entryRate (k y : Array K) (e : JEntry K) : K := rd k e.info.pid * (e.deps.map (rd y)).prod

theorem jacEntryStep_rd (k y : Array K) (pid : Nat) (deps addIds : List Nat)
    (subIds : List (Nat × K)) (J : Array K) (q : Nat) (hq : q < J.size) :
    rd (jacEntryStep k y pid deps addIds subIds J) q
      = rd J q + ((addIds.count q : K) - ((subIds.filter (fun p => p.1 = q)).map (·.2)).sum)
          * (rd k pid * (deps.map (rd y)).prod) := by
  unfold jacEntryStep
  simp only [sub_eq_add_neg, ← mul_neg]
  rw [rd_foldl_wr_add_smul _ _ _ q (by rw [foldl_wr_size]; exact hq), rd_foldl_wr_add_const _ _ _ q hq,
    foldl_mul_eq]
  ring

theorem jacEntries_rd (k y : Array K) (rk : Nat → Nat → Nat) (es : List (JEntry K)) (J : Array K)
    (q : Nat) (hq : q < J.size) :
    rd (es.foldl (fun J e => jacEntryStep k y e.info.pid e.deps (entryAddIds rk e) (entrySubIds rk e) J) J) q
      = rd J q + (es.map fun e =>
          (((entryAddIds rk e).count q : K) - (((entrySubIds rk e).filter (fun p => p.1 = q)).map (·.2)).sum)
            * entryRate k y e).sum := by
  induction es generalizing J with
  | nil => simp
  | cons e es ih =>
    rw [List.foldl_cons, ih _ (by rw [jacEntryStep_size]; exact hq), jacEntryStep_rd _ _ _ _ _ _ _ _ hq,
      List.map_cons, List.sum_cons, entryRate]
    ring

end Numeric

section Deriv
variable {K : Type} [CommRing K]

def rateMonomial (y : Nat → K) (rs : List Nat) : K := (rs.map y).prod

/-- formal partial derivative of `rateMonomial y rs` with respect to the variable `j`:
    `(multiplicity of j) * Π (rs with one occurrence of j removed)`. -/
def dMonomial (y : Nat → K) (rs : List Nat) (j : Nat) : K :=
  (rs.count j : K) * ((rs.erase j).map y).prod

def dMonomialLeibniz (y : Nat → K) : List Nat → Nat → K
  | [], _ => 0
  | a :: l, j => (if a = j then 1 else 0) * (l.map y).prod + y a * dMonomialLeibniz y l j

def dMonomialPos (y : Nat → K) (rs : List Nat) (j : Nat) : K :=
  (((List.range rs.length).filter (fun q => rs[q]? = some j)).map
    (fun q => ((rs.eraseIdx q).map y).prod)).sum

theorem dMonomial_eq_leibniz (y : Nat → K) (rs : List Nat) (j : Nat) :
    dMonomial y rs j = dMonomialLeibniz y rs j := by
  induction rs with
  | nil => simp [dMonomial, dMonomialLeibniz]
  | cons a l ih =>
    rw [dMonomialLeibniz, ← ih]
    unfold dMonomial
    by_cases h : a = j
    · subst h
      simp only [List.count_cons_self, List.erase_cons_head, if_true, Nat.cast_add, Nat.cast_one]
      by_cases hm : a ∈ l
      · have := List.prod_map_erase y hm
        rw [← this]; ring
      · simp [List.count_eq_zero_of_not_mem hm]
    · have h' : ¬ (a == j) = true := by simpa using h
      simp only [List.count_cons_of_ne h, List.erase_cons_tail h', h, if_false, List.map_cons,
        List.prod_cons]
      ring

theorem dMonomialLeibniz_eq_pos (y : Nat → K) (rs : List Nat) (j : Nat) :
    dMonomialLeibniz y rs j = dMonomialPos y rs j := by
  induction rs with
  | nil => simp [dMonomialPos, dMonomialLeibniz]
  | cons a l ih =>
    rw [dMonomialLeibniz, ih]
    unfold dMonomialPos
    -- positions of `a :: l`: position 0, and the successors of the positions of `l`, each of whose
    -- products gains the factor `y a`
    rw [List.length_cons, List.range_succ_eq_map, List.filter_cons, List.filter_map]
    have hf : ((fun q => decide ((a :: l)[q]? = some j)) ∘ Nat.succ) = fun q => decide (l[q]? = some j) := by
      funext q; simp
    have hm : ∀ qs : List Nat, List.map (fun q => (List.map y ((a :: l).eraseIdx q)).prod) (List.map Nat.succ qs)
        = List.map (fun q => y a * (List.map y (l.eraseIdx q)).prod) qs := fun qs => by
      rw [List.map_map]
      exact List.map_congr_left fun q _ => by simp
    rw [hf]
    by_cases h : a = j
    · subst h
      simp only [List.getElem?_cons_zero, decide_true, if_true, List.map_cons, List.sum_cons,
        List.eraseIdx_cons_zero, one_mul]
      rw [hm, sum_map_mul_left]
    · have : ¬ (some a = some j) := by simpa using h
      simp only [h, List.getElem?_cons_zero, this, decide_false, if_false, zero_mul, zero_add,
        Bool.false_eq_true]
      rw [hm, sum_map_mul_left]

/-- `dMonomial` is the expanded product-rule derivative, so its closed form is not ad hoc -/
theorem dMonomial_eq_pos (y : Nat → K) (rs : List Nat) (j : Nat) :
    dMonomial y rs j = dMonomialPos y rs j :=
  (dMonomial_eq_leibniz y rs j).trans (dMonomialLeibniz_eq_pos y rs j)

theorem dMonomial_of_not_mem (y : Nat → K) (rs : List Nat) (j : Nat) (h : j ∉ rs) :
    dMonomial y rs j = 0 := by
  simp [dMonomial, List.count_eq_zero_of_not_mem h]

theorem count_erase_add (rs : List Nat) (i j : Nat) (h : j ∈ rs) :
    (rs.erase j).count i + (if i = j then 1 else 0) = rs.count i := by
  by_cases hij : i = j
  · subst hij
    have := List.count_pos_iff.mpr h
    rw [if_pos rfl, List.count_erase_self]
    omega
  · rw [if_neg hij, List.count_erase_of_ne hij, Nat.add_zero]

end Deriv

section Build
variable {α : Type}

theorem dependents_true (ind : Nat) (l : List Nat) : dependents ind l true = l := by
  induction l with
  | nil => rfl
  | cons a l ih => simp [dependents, ih]

theorem dependents_false (ind : Nat) (l : List Nat) : dependents ind l false = l.erase ind := by
  induction l with
  | nil => rfl
  | cons a l ih =>
    by_cases h : a = ind
    · subst h; simp [dependents, dependents_true]
    · have h' : ¬ (a == ind) = true := by simpa using h
      simp [dependents, h, ih, List.erase_cons_tail h']

omit α in
theorem resolves_of_name (m : NameMap) (hk : (m.map (·.1)).Nodup) (nv : String × Nat) (hnv : nv ∈ m)
    (r : SpecRef) (hp : r.param = true → nmLookup m r.name = none) (hn : r.name = nv.1) :
    (if r.param = true then none else nmLookup m r.name) = some nv.2 := by
  have hl : nmLookup m r.name = some nv.2 := hn ▸ nmLookup_of_mem hk hnv
  rw [if_neg fun h => by rw [hp h] at hl; cases hl]
  exact hl

omit α in
theorem name_of_resolves (m : NameMap) (hv : (m.map (·.2)).Nodup) (nv : String × Nat) (hnv : nv ∈ m)
    (r : SpecRef) (h : (if r.param = true then none else nmLookup m r.name) = some nv.2) :
    r.name = nv.1 := by
  split at h
  · cases h
  · exact congrArg Prod.fst (List.inj_on_of_nodup_map hv (nmLookup_eq_some_mem h) hnv rfl)

omit α in
/-- the constructor loop tests names, the sums below count ids: with distinct keys and distinct indices
    both select the same reactant occurrences -/
theorem count_name_eq_count_id (m : NameMap) (hk : (m.map (·.1)).Nodup) (hv : (m.map (·.2)).Nodup)
    (nv : String × Nat) (hnv : nv ∈ m) (l : List SpecRef)
    (hparam : ∀ r ∈ l, r.param = true → nmLookup m r.name = none) :
    (l.filter (fun r => r.name == nv.1)).length = (specReactIds m l).count nv.2 := by
  rw [← List.countP_eq_length_filter, specReactIds, List.count_filterMap]
  refine List.countP_congr fun r hr => ?_
  rw [beq_iff_eq, beq_iff_eq]
  exact ⟨resolves_of_name m hk nv hnv r (hparam r hr), name_of_resolves m hv nv hnv r⟩

omit α in
theorem insertByIdx_perm (a : String × Nat) (l : List (String × Nat)) :
    (insertByIdx a l).Perm (a :: l) := by
  induction l with
  | nil => exact List.Perm.refl _
  | cons b l ih =>
    unfold insertByIdx
    split
    · exact List.Perm.refl _
    · exact (List.Perm.cons b ih).trans (List.Perm.swap a b l)

omit α in
theorem sortByIdx_perm (m : NameMap) : (sortByIdx m).Perm m := by
  unfold sortByIdx
  induction m with
  | nil => exact List.Perm.refl _
  | cons a m ih => exact (insertByIdx_perm a _).trans (List.Perm.cons a ih)

/-- the entry created for variable `nv`, process `pip.1` (resolved) with index `pip.2` -/
def mkEntry (nv : String × Nat) (pip : (Process α × List Nat × List (Nat × α)) × Nat) : JEntry α :=
  { info := ⟨pip.2, nv.2, (pip.1.2.1.erase nv.2).length, pip.1.2.2.length⟩,
    deps := pip.1.2.1.erase nv.2, prods := pip.1.2.2 }

theorem buildJacobianEntries_eq (names : List (String × Nat))
    (R : List (Process α × List Nat × List (Nat × α))) :
    buildJacobianEntries names R = names.flatMap fun nv => R.zipIdx.flatMap fun pip =>
      List.replicate (pip.1.1.reactants.filter (fun r => r.name == nv.1)).length (mkEntry nv pip) := by
  unfold buildJacobianEntries
  congr 1
  funext nv
  congr 1
  funext pip
  obtain ⟨⟨p, rs, pr⟩, ip⟩ := pip
  simp only [dependents_false, mkEntry]
  rw [List.map_const']

theorem mkEntry_WF (nv : String × Nat) (pip : (Process α × List Nat × List (Nat × α)) × Nat) :
    (mkEntry nv pip).WF := ⟨rfl, rfl⟩

theorem mem_buildJacobianEntries (names : List (String × Nat))
    (R : List (Process α × List Nat × List (Nat × α))) (e : JEntry α)
    (h : e ∈ buildJacobianEntries names R) :
    ∃ nv ∈ names, ∃ pip ∈ R.zipIdx, (∃ r ∈ pip.1.1.reactants, r.name = nv.1) ∧ e = mkEntry nv pip := by
  rw [buildJacobianEntries_eq] at h
  obtain ⟨nv, hnv, h⟩ := List.mem_flatMap.mp h
  obtain ⟨pip, hpip, h⟩ := List.mem_flatMap.mp h
  obtain ⟨hne, he⟩ := List.mem_replicate.mp h
  refine ⟨nv, hnv, pip, hpip, ?_, he⟩
  have : 0 < (pip.1.1.reactants.filter (fun r => r.name == nv.1)).length := Nat.pos_of_ne_zero hne
  obtain ⟨r, hr⟩ := List.exists_mem_of_length_pos this
  obtain ⟨hr1, hr2⟩ := List.mem_filter.mp hr
  exact ⟨r, hr1, by simpa using hr2⟩

theorem buildJacobianEntries_WF (names : List (String × Nat))
    (R : List (Process α × List Nat × List (Nat × α))) :
    ∀ e ∈ buildJacobianEntries names R, e.WF := by
  intro e he
  obtain ⟨nv, _, pip, _, _, rfl⟩ := mem_buildJacobianEntries names R e he
  exact mkEntry_WF nv pip

end Build

section NonZero

theorem nonZero_step_eq (rs ps l : List Nat) (s : List Pair) :
    l.foldl (fun s ind =>
        let s := rs.foldl (fun s dep => setInsert (dep, ind) s) s
        ps.foldl (fun s dep => setInsert (dep, ind) s) s) s
      = (l.flatMap fun ind => (rs ++ ps).map fun dep => (dep, ind)).foldl (fun s a => setInsert a s) s := by
  simp only [List.foldl_flatMap, List.foldl_map, List.foldl_append]

theorem mem_nonZero_step (rs ps l : List Nat) (s : List Pair) (x : Pair) :
    x ∈ l.foldl (fun s ind =>
        let s := rs.foldl (fun s dep => setInsert (dep, ind) s) s
        ps.foldl (fun s dep => setInsert (dep, ind) s) s) s
      ↔ x ∈ s ∨ (x.2 ∈ l ∧ (x.1 ∈ rs ∨ x.1 ∈ ps)) := by
  rw [nonZero_step_eq, mem_foldl_setInsert fun a => a]
  simp only [List.mem_flatMap, List.mem_map, List.mem_append]
  refine or_congr_right ⟨?_, fun ⟨h1, h2⟩ => ⟨x, ⟨x.2, h1, x.1, h2, rfl⟩, rfl⟩⟩
  rintro ⟨_, ⟨ind, h1, dep, h2, rfl⟩, rfl⟩
  exact ⟨h1, h2⟩

/-- `f a`, `g a`: the reactant and product ids of reaction `a` -/
theorem mem_nonZeroGo {ι : Type} (l : List ι) (f g : ι → List Nat) (r1 r2 : List Nat) (s : List Pair)
    (x : Pair) :
    x ∈ nonZeroGo (l.map fun a => (f a).length) (l.map fun a => (g a).length) (l.flatMap f ++ r1)
        (l.flatMap g ++ r2) s
      ↔ x ∈ s ∨ ∃ a ∈ l, x.2 ∈ f a ∧ (x.1 ∈ f a ∨ x.1 ∈ g a) := by
  induction l generalizing s with
  | nil => simp [nonZeroGo]
  | cons a l ih =>
    simp only [List.map_cons, List.flatMap_cons, List.append_assoc, nonZeroGo]
    rw [List.take_left' rfl, List.drop_left' rfl, List.take_left' rfl, List.drop_left' rfl, ih,
      mem_nonZero_step]
    simp only [List.mem_cons, exists_eq_or_imp]
    exact or_assoc

/-- strictly sorted, hence duplicate-free: the order in which the `std::set` of the source is iterated -/
theorem nonZeroGo_sorted (nr np rids pids : List Nat) (s : List Pair) (h : PairSorted s) :
    PairSorted (nonZeroGo nr np rids pids s) := by
  fun_induction nonZeroGo nr np rids pids s with
  | case1 nr nrs np nps rids pids s rs ps s' ih =>
    apply ih
    show PairSorted (rs.foldl _ s)
    rw [nonZero_step_eq]
    exact sorted_foldl_setInsert (fun a => a) _ _ h
  | case2 => exact h

end NonZero

section Complete
variable {α : Type}

theorem mem_nonZero_of_build (procs : List (Process α)) (m : NameMap) (t : PSTables α)
    (hb : ProcessSet.build procs m = .ok t) (x : Pair) :
    x ∈ t.nonZeroJacobianElements ↔ ∃ p ∈ procs, x.2 ∈ specReactIds m p.reactants ∧
      (x.1 ∈ specReactIds m p.reactants ∨ x.1 ∈ (specProdIds m p.products).map (·.1)) := by
  obtain ⟨-, rfl⟩ := (ProcessSet.build_ok_iff procs m t).1 hb
  have := mem_nonZeroGo procs (fun p => specReactIds m p.reactants)
    (fun p => (specProdIds m p.products).map (·.1)) [] [] [] x
  simpa only [PSTables.nonZeroJacobianElements, builtTables, tablesOf, resolveP, specReactIds_eq,
    specProdIds_eq, List.map_map,
    List.flatMap_map, Function.comp_def, List.length_map, List.append_nil, List.not_mem_nil, false_or]
    using this

omit α in
theorem ind_mem_specReactIds (m : NameMap) (hk : (m.map (·.1)).Nodup) (nv : String × Nat)
    (hnv : nv ∈ m) (l : List SpecRef)
    (hparam : ∀ r ∈ l, r.param = true → nmLookup m r.name = none)
    (h : ∃ r ∈ l, r.name = nv.1) : nv.2 ∈ specReactIds m l := by
  obtain ⟨r, hr, hn⟩ := h
  exact List.mem_filterMap.mpr ⟨r, hr, resolves_of_name m hk nv hnv r (hparam r hr) hn⟩

/-- every position a Jacobian entry writes is a declared non-zero element -/
theorem entries_in_nonZero (procs : List (Process α)) (m : NameMap) (t : PSTables α)
    (hb : ProcessSet.build procs m = .ok t) (hk : (m.map (·.1)).Nodup)
    (hparam : ∀ p ∈ procs, ∀ r ∈ p.reactants, r.param = true → nmLookup m r.name = none) :
    ∀ e ∈ buildJacobianEntries (sortByIdx m) (procs.map (resolveProc m)),
      (∀ x ∈ e.deps, (x, e.info.ind) ∈ t.nonZeroJacobianElements) ∧
      (e.info.ind, e.info.ind) ∈ t.nonZeroJacobianElements ∧
      ∀ pr ∈ e.prods, (pr.1, e.info.ind) ∈ t.nonZeroJacobianElements := by
  intro e he
  obtain ⟨nv, hnv, pip, hpip, hr, rfl⟩ := mem_buildJacobianEntries _ _ e he
  have hnv' : nv ∈ m := (sortByIdx_perm m).mem_iff.mp hnv
  obtain ⟨p, hp, hpe⟩ := List.mem_map.mp (List.fst_mem_of_mem_zipIdx hpip)
  obtain ⟨pp, ip⟩ := pip
  simp only at hpe hr
  subst hpe
  have hind := ind_mem_specReactIds m hk nv hnv' p.reactants (hparam p hp) hr
  simp only [mkEntry, resolveProc, mem_nonZero_of_build procs m t hb]
  refine ⟨fun x hx => ⟨p, hp, hind, Or.inl (List.mem_of_mem_erase hx)⟩, ⟨p, hp, hind, Or.inl hind⟩,
    fun pr hpr => ⟨p, hp, hind, Or.inr (List.mem_map.mpr ⟨pr, hpr, rfl⟩)⟩⟩

end Complete

section Assemble
variable {K : Type} [CommRing K]

theorem sum_map_flatMap {β γ : Type} (l : List β) (f : β → List γ) (g : γ → K) :
    ((l.flatMap f).map g).sum = (l.map fun a => ((f a).map g).sum).sum := by
  induction l with
  | nil => simp
  | cons a l ih => simp [List.flatMap_cons, ih]

theorem sum_map_replicate {γ : Type} (n : Nat) (c : γ) (g : γ → K) :
    ((List.replicate n c).map g).sum = (n : K) * g c := by
  induction n with
  | zero => simp
  | succ n ih =>
    rw [List.replicate_succ, List.map_cons, List.sum_cons, ih]; push_cast; ring

theorem sum_map_neg {β : Type} (l : List β) (f : β → K) :
    (l.map fun a => - f a).sum = - (l.map f).sum := by
  induction l with
  | nil => exact neg_zero.symm
  | cons a l ih => rw [List.map_cons, List.sum_cons, ih, List.map_cons, List.sum_cons, neg_add]

theorem jac_sum_map_zero {β : Type} (l : List β) (f : β → K) (h : ∀ a ∈ l, f a = 0) :
    (l.map f).sum = 0 := by
  induction l with
  | nil => simp
  | cons a l ih => simp [h a (by simp), ih (fun a ha => h a (by simp [ha]))]

theorem sum_ite_nodup (l : List (String × Nat)) (hv : (l.map (·.2)).Nodup) (j : Nat) (S : K) :
    (l.map fun nv => if nv.2 = j then S else 0).sum = if j ∈ l.map (·.2) then S else 0 := by
  induction l with
  | nil => simp
  | cons a l ih =>
    rw [List.map_cons, List.nodup_cons] at hv
    rw [List.map_cons, List.sum_cons, ih hv.2]
    by_cases h : a.2 = j
    · have : j ∉ l.map (·.2) := h ▸ hv.1
      simp [h, this]
    · have h' : ¬ j = a.2 := fun e => h e.symm
      have hm : (j ∈ List.map (·.2) (a :: l)) ↔ (j ∈ List.map (·.2) l) := by
        rw [List.map_cons, List.mem_cons]
        exact ⟨fun h0 => h0.resolve_left h', Or.inr⟩
      simp only [h, if_false, zero_add, hm]

theorem sum_buildJacobianEntries (names : List (String × Nat))
    (R : List (Process K × List Nat × List (Nat × K))) (G : JEntry K → K) :
    ((buildJacobianEntries names R).map G).sum
      = (names.map fun nv => (R.zipIdx.map fun pip =>
          ((pip.1.1.reactants.filter (fun r => r.name == nv.1)).length : K)
            * G (mkEntry nv pip)).sum).sum := by
  rw [buildJacobianEntries_eq, sum_map_flatMap]
  congr 1
  apply List.map_congr_left
  intro nv _
  rw [sum_map_flatMap]
  congr 1
  apply List.map_congr_left
  intro pip _
  rw [sum_map_replicate]

/-- coefficient with which the writes of one entry contribute to element `(i, j)` -/
def entryCoef (e : JEntry K) (i j : Nat) : K :=
  if e.info.ind = j then
    (((e.deps.count i + (if i = j then 1 else 0) : Nat) : K)
      - ((e.prods.filter (fun p => p.1 = i)).map (·.2)).sum)
  else 0

section Rank
-- Counting ids needs only that `rk` is injective on the present positions `P`, so both stay variables here;
-- `jacGo_entries_rd` puts in `p.Present` and `p.rk`.
variable (P : Nat → Nat → Prop) (rk : Nat → Nat → Nat)
  (hinj : ∀ r c r' c', P r c → P r' c' → rk r c = rk r' c' → r = r' ∧ c = c')
include hinj

omit [CommRing K] in
theorem count_map_rk (l : List Nat) (ind i j : Nat) (hl : ∀ x ∈ l, P x ind) (hij : P i j) :
    (l.map (fun x => rk x ind)).count (rk i j) = if ind = j then l.count i else 0 := by
  induction l with
  | nil => simp
  | cons a l ih =>
    rw [List.map_cons, List.count_cons, ih (fun x hx => hl x (by simp [hx])), List.count_cons]
    by_cases h : rk a ind = rk i j
    · obtain ⟨rfl, rfl⟩ := hinj _ _ _ _ (hl a (by simp)) hij h
      simp
    · have : ¬ (a = i ∧ ind = j) := fun ⟨h1, h2⟩ => h (by rw [h1, h2])
      by_cases hj : ind = j
      · subst hj
        have : ¬ a = i := fun h1 => this ⟨h1, rfl⟩
        simp [h, this]
      · simp [h, hj]

theorem sum_filter_rk (l : List (Nat × K)) (ind i j : Nat) (hl : ∀ pr ∈ l, P pr.1 ind)
    (hij : P i j) :
    (((l.map fun p => (rk p.1 ind, p.2)).filter (fun p => p.1 = rk i j)).map (·.2)).sum
      = if ind = j then ((l.filter (fun p => p.1 = i)).map (·.2)).sum else 0 := by
  induction l with
  | nil => simp
  | cons a l ih =>
    rw [List.map_cons, List.filter_cons, List.filter_cons]
    have ih' := ih (fun x hx => hl x (by simp [hx]))
    by_cases h : rk a.1 ind = rk i j
    · obtain ⟨h1, rfl⟩ := hinj _ _ _ _ (hl a (by simp)) hij h
      simp only [decide_true, if_true, List.map_cons, List.sum_cons, ih', h1]
    · have : ¬ (a.1 = i ∧ ind = j) := fun ⟨h1, h2⟩ => h (by rw [h1, h2])
      by_cases hj : ind = j
      · subst hj
        have : ¬ a.1 = i := fun h1 => this ⟨h1, rfl⟩
        simp only [h, decide_false, Bool.false_eq_true, if_false, ih', if_true, this]
      · simp only [h, decide_false, Bool.false_eq_true, if_false, ih', hj]

theorem entry_coef (e : JEntry K) (i j : Nat) (hd : ∀ x ∈ e.deps, P x e.info.ind)
    (hdiag : P e.info.ind e.info.ind) (hp : ∀ pr ∈ e.prods, P pr.1 e.info.ind) (hij : P i j) :
    (((entryAddIds rk e).count (rk i j) : Nat) : K)
        - (((entrySubIds rk e).filter (fun p => p.1 = rk i j)).map (·.2)).sum
      = entryCoef e i j := by
  unfold entryAddIds entrySubIds entryCoef
  rw [List.count_append, count_map_rk P rk hinj e.deps e.info.ind i j hd hij,
    sum_filter_rk P rk hinj e.prods e.info.ind i j hp hij, List.count_singleton]
  by_cases hj : e.info.ind = j
  · subst hj
    by_cases hi : i = e.info.ind
    · subst hi; simp
    · have : ¬ (rk e.info.ind e.info.ind = rk i e.info.ind) := fun h =>
        hi (hinj _ _ _ _ hdiag hij h).1.symm
      simp [hi, this]
  · have : ¬ (rk e.info.ind e.info.ind = rk i j) := fun h => hj (hinj _ _ _ _ hdiag hij h).2
    simp [hj, this]

end Rank

/-- one (variable, process) pair: (number of entries) × (entry contribution) is minus the net
    coefficient times the rate constant times the formal derivative of the rate monomial -/
theorem pair_contribution (y : Nat → K) (kr : K) (rs : List Nat) (pr : List (Nat × K)) (i j : Nat) :
    (rs.count j : K) * ((((rs.erase j).count i + (if i = j then 1 else 0) : Nat) : K)
        - ((pr.filter (fun p => p.1 = i)).map (·.2)).sum) * (kr * ((rs.erase j).map y).prod)
      = - (jacNet rs pr i * (kr * dMonomial y rs j)) := by
  unfold jacNet dMonomial
  by_cases h : j ∈ rs
  · -- the entry was made from `rs.erase j` plus the diagonal; that count is `rs.count i`, as in `jacNet`
    rw [count_erase_add rs i j h]; ring
  · simp [List.count_eq_zero_of_not_mem h]

/-- the value `SubtractJacobianTerms` leaves in the slot of a present element `(i, j)`: every entry
    contributes its coefficient times its rate -/
theorem jacGo_entries_rd (p : Pattern) (es : List (JEntry K)) (hwf : ∀ e ∈ es, e.WF)
    (hpres : ∀ e ∈ es, e.Present p)
    (hinj : ∀ r c r' c', p.Present r c → p.Present r' c' → p.rk r c = p.rk r' c' → r = r' ∧ c = c')
    (k y J0 : Array K) (i j : Nat) (hij : p.Present i j) (hq : p.rk i j < J0.size) :
    rd (jacGo k y (es.map (·.info)) (es.flatMap (·.deps)) (es.flatMap fun e => e.prods.map (·.2))
        (es.flatMap (entryFlatIds p.rk)) J0) (p.rk i j)
      = rd J0 (p.rk i j) + (es.map fun e => entryCoef e i j * entryRate k y e).sum := by
  have hdec := jacGo_decode k y p.rk es hwf [] [] [] J0
  simp only [List.append_nil] at hdec
  rw [hdec, jacEntries_rd k y p.rk es J0 _ hq]
  congr 2
  apply List.map_congr_left
  intro e he
  obtain ⟨hd, hdiag, hp⟩ := hpres e he
  rw [entry_coef p.Present p.rk hinj e i j hd hdiag hp hij]

/-- `∂f_i/∂y_j` of the mass-action forcing `f_i = Σ_r net_r(i) · k_r · Π_{l ∈ reactants r} y_l` (C01) of
    the mechanism `procs` resolved through `m` -/
def forcingPartial (m : NameMap) (procs : List (Process K)) (k y : Array K) (i j : Nat) : K :=
  (procs.zipIdx.map fun pi =>
    jacNet (specReactIds m pi.1.reactants) (specProdIds m pi.1.products) i
      * (rd k pi.2 * dMonomial (rd y) (specReactIds m pi.1.reactants) j)).sum

/-- the entries created for one variable `nv` of the map contribute to column `nv.2` only, and there
    minus the whole partial derivative: per process, (number of entries) × (one entry) is one term -/
theorem sum_entries_var (m : NameMap) (hk : (m.map (·.1)).Nodup) (hv : (m.map (·.2)).Nodup)
    (nv : String × Nat) (hnv : nv ∈ m) (procs : List (Process K))
    (hparam : ∀ p ∈ procs, ∀ r ∈ p.reactants, r.param = true → nmLookup m r.name = none)
    (k y : Array K) (i j : Nat) :
    ((procs.map (resolveProc m)).zipIdx.map fun pip =>
        ((pip.1.1.reactants.filter (fun r => r.name == nv.1)).length : K)
          * (entryCoef (mkEntry nv pip) i j * entryRate k y (mkEntry nv pip))).sum
      = if nv.2 = j then - forcingPartial m procs k y i j else 0 := by
  rw [List.zipIdx_map, List.map_map]
  by_cases hj : nv.2 = j
  · rw [if_pos hj, forcingPartial, ← sum_map_neg]
    congr 1
    apply List.map_congr_left
    intro pi hpi
    simp only [Function.comp_def, Prod.map, id, mkEntry, resolveProc, entryCoef, entryRate, hj, if_true]
    rw [count_name_eq_count_id m hk hv nv hnv pi.1.reactants (hparam pi.1 (List.fst_mem_of_mem_zipIdx hpi)),
      hj, ← pair_contribution]
    ring
  · rw [if_neg hj]
    apply jac_sum_map_zero
    intro pi _
    simp [mkEntry, entryCoef, hj]

theorem sum_entries_build (m : NameMap) (hk : (m.map (·.1)).Nodup) (hv : (m.map (·.2)).Nodup)
    (procs : List (Process K))
    (hparam : ∀ p ∈ procs, ∀ r ∈ p.reactants, r.param = true → nmLookup m r.name = none)
    (k y : Array K) (i j : Nat) :
    ((buildJacobianEntries (sortByIdx m) (procs.map (resolveProc m))).map fun e =>
        entryCoef e i j * entryRate k y e).sum = - forcingPartial m procs k y i j := by
  -- the order in which the variables are visited does not matter for the sum
  rw [sum_buildJacobianEntries, ((sortByIdx_perm m).map _).sum_eq,
    List.map_congr_left fun nv hnv => sum_entries_var m hk hv nv hnv procs hparam k y i j,
    sum_ite_nodup _ hv]
  split
  · rfl
  · -- `j` is not an index of the map: no reactant list contains it and the derivative vanishes
    rename_i hjm
    rw [forcingPartial, jac_sum_map_zero _ _ fun pi _ => by
      rw [dMonomial_of_not_mem (rd y) (specReactIds m pi.1.reactants) j fun h =>
        hjm (List.mem_map.2 (reactIdsP_mem h))]; ring]
    exact neg_zero.symm

omit [CommRing K] in
theorem entries_single (m : NameMap) (hk : (m.map (·.1)).Nodup) (hv : (m.map (·.2)).Nodup)
    (nv : String × Nat) (hnv : nv ∈ m) (p : Process K)
    (hparam : ∀ r ∈ p.reactants, r.param = true → nmLookup m r.name = none) :
    buildJacobianEntries [nv] [resolveProc m p]
      = List.replicate ((specReactIds m p.reactants).count nv.2) (mkEntry nv (resolveProc m p, 0)) := by
  rw [buildJacobianEntries_eq]
  simp only [List.zipIdx_cons, List.zipIdx_nil, List.flatMap_cons, List.flatMap_nil, List.append_nil]
  rw [← count_name_eq_count_id m hk hv nv hnv p.reactants hparam]
  rfl

/-- the `d_rate_d_ind` values of the entries of one reaction and one variable add up to `k · ∂(Π y)/∂y_ind` -/
theorem entries_single_sum (m : NameMap) (hk : (m.map (·.1)).Nodup) (hv : (m.map (·.2)).Nodup)
    (nv : String × Nat) (hnv : nv ∈ m) (p : Process K)
    (hparam : ∀ r ∈ p.reactants, r.param = true → nmLookup m r.name = none) (y : Array K) (kr : K) :
    ((buildJacobianEntries [nv] [resolveProc m p]).map
        (fun e => e.deps.foldl (fun acc i => acc * rd y i) kr)).sum
      = kr * dMonomial (rd y) (specReactIds m p.reactants) nv.2 := by
  rw [entries_single m hk hv nv hnv p hparam, sum_map_replicate, foldl_mul_eq]
  simp only [mkEntry, resolveProc, dMonomial]
  ring

end Assemble

section Defined
variable {α : Type}

theorem jacobianFlatIds_built (m : NameMap) (procs : List (Process α)) (p : Pattern) (flat : List Nat) :
    (builtTables m procs).jacobianFlatIds p = .ok flat ↔
      (∀ e ∈ buildJacobianEntries (sortByIdx m) (procs.map (resolveProc m)), e.Present p) ∧
      flat = (buildJacobianEntries (sortByIdx m) (procs.map (resolveProc m))).flatMap (entryFlatIds p.rk) := by
  have h := flatIdsGo_decode p _ (buildJacobianEntries_WF (sortByIdx m) (procs.map (resolveProc m))) [] [] flat
  simp only [List.append_nil] at h
  exact h

/-- `SetJacobianFlatIds` cannot throw on any pattern that contains the declared elements -/
theorem flatIds_defined (procs : List (Process α)) (m : NameMap) (t : PSTables α)
    (hb : ProcessSet.build procs m = .ok t) (hk : (m.map (·.1)).Nodup)
    (hparam : ∀ p ∈ procs, ∀ r ∈ p.reactants, r.param = true → nmLookup m r.name = none)
    (p : Pattern) (hp : ∀ x ∈ t.nonZeroJacobianElements, ∃ q, p.rank x.1 x.2 = .ok q) :
    t.jacobianFlatIds p = .ok ((buildJacobianEntries (sortByIdx m) (procs.map (resolveProc m))).flatMap
      (entryFlatIds p.rk)) := by
  have pres : ∀ r c, (r, c) ∈ t.nonZeroJacobianElements → p.Present r c := fun r c hx => by
    obtain ⟨q, hq⟩ := hp (r, c) hx
    exact p.present_of_ok r c q hq
  rw [((ProcessSet.build_ok_iff procs m t).1 hb).2, jacobianFlatIds_built]
  refine ⟨fun e he => ?_, rfl⟩
  obtain ⟨hd, hdiag, hpr⟩ := entries_in_nonZero procs m t hb hk hparam e he
  exact ⟨fun x hx => pres _ _ (hd x hx), pres _ _ hdiag, fun pr hpr' => pres _ _ (hpr pr hpr')⟩

end Defined

end Micm
