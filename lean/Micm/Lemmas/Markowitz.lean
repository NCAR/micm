/-
Helper lemmas for C14/C20: `markowitzRow` only swaps two in-range entries of the permutation
vector, so `markowitz order pat` (for `order ≥ 1`) returns a permutation of `0 … order-1` for every
pattern.  Core Lean only.
-/
import Micm.Model.Builder
import Micm.Lemmas.LUFolds
namespace Micm

theorem foldl_select_mem {β : Type} (P : β × Nat → Nat → Prop) [∀ bm c, Decidable (P bm c)]
    (g : β × Nat → Nat → β) (l : List Nat) (init : β × Nat) :
    (l.foldl (fun bm col => if P bm col then (g bm col, col) else bm) init).2 = init.2 ∨
    (l.foldl (fun bm col => if P bm col then (g bm col, col) else bm) init).2 ∈ l := by
  induction l generalizing init with
  | nil => exact .inl rfl
  | cons a l ih =>
    rw [List.foldl_cons]
    rcases ih (if P init a then (g init a, a) else init) with h | h
    · by_cases hp : P init a
      · simp only [hp, if_true] at h ⊢
        exact .inr (by rw [h]; exact List.mem_cons_self)
      · simp only [hp] at h ⊢
        exact .inl h
    · exact .inr (List.mem_cons_of_mem _ h)

theorem markowitzRow_fst (order : Nat) (perm : Array Nat) (pat : IMat) (row : Nat) :
    (markowitzRow order (perm, pat) row).1 = perm ∨
    ∃ j, row < j ∧ j < order ∧
      (markowitzRow order (perm, pat) row).1
        = (perm.setIfInBounds row (perm.getD j 0)).setIfInBounds j (perm.getD row 0) := by
  unfold markowitzRow
  simp only []
  generalize hsel : (List.foldl _ (UInt64.ofNat (order - 1) * UInt64.ofNat (order - 1), row)
    (rangeFrom row order)) = sel
  have hmem : sel.2 = row ∨ sel.2 ∈ rangeFrom row order := by
    rw [← hsel]
    exact foldl_select_mem _ _ _ _
  obtain ⟨cnt, maxRow⟩ := sel
  simp only [] at hmem ⊢
  by_cases hne : maxRow = row
  · left
    simp [hne]
  · right
    refine ⟨maxRow, ?_, ?_, ?_⟩
    · rcases hmem with h | h
      · exact absurd h hne
      · have := (mem_rangeFrom.1 h).1; omega
    · rcases hmem with h | h
      · exact absurd h hne
      · exact (mem_rangeFrom.1 h).2
    · simp [hne]

theorem swap_toList_perm (perm : Array Nat) (i j : Nat) (hi : i < perm.size) (hj : j < perm.size) :
    ((perm.setIfInBounds i (perm.getD j 0)).setIfInBounds j (perm.getD i 0)).toList.Perm perm.toList := by
  have h := Array.swap_perm (xs := perm) hi hj
  rw [Array.perm_iff_toList_perm] at h
  have e : (perm.setIfInBounds i (perm.getD j 0)).setIfInBounds j (perm.getD i 0) = perm.swap i j hi hj := by
    simp [Array.swap, Array.getD, hi, hj, Array.setIfInBounds]
  rw [e]
  exact h

theorem markowitzRow_inv (order : Nat) (st : Array Nat × IMat) (row : Nat)
    (hs : st.1.size = order) (hp : st.1.toList.Perm (List.range order)) (hr : row < order) :
    (markowitzRow order st row).1.size = order ∧
    (markowitzRow order st row).1.toList.Perm (List.range order) := by
  obtain ⟨perm, pat⟩ := st
  rcases markowitzRow_fst order perm pat row with h | ⟨j, hj1, hj2, h⟩
  · rw [h]; exact ⟨hs, hp⟩
  · rw [h]
    simp only [] at hs hp
    refine ⟨by simp [hs], ?_⟩
    exact (swap_toList_perm perm row j (by omega) (by omega)).trans hp

theorem markowitz_fold_inv (order : Nat) (rows : List Nat) (st : Array Nat × IMat)
    (hs : st.1.size = order) (hp : st.1.toList.Perm (List.range order)) (hr : ∀ r ∈ rows, r < order) :
    (rows.foldl (markowitzRow order) st).1.size = order ∧
    (rows.foldl (markowitzRow order) st).1.toList.Perm (List.range order) := by
  induction rows generalizing st with
  | nil => exact ⟨hs, hp⟩
  | cons r rows ih =>
    rw [List.foldl_cons]
    obtain ⟨h1, h2⟩ := markowitzRow_inv order st r hs hp (hr r List.mem_cons_self)
    exact ih _ h1 h2 fun r' hr' => hr r' (List.mem_cons_of_mem _ hr')

/-- `DiagonalMarkowitzReorder` returns a permutation of `0 … order-1` for every pattern, `order ≥ 1` -/
theorem markowitz_perm (order : Nat) (pat : IMat) (h : 1 ≤ order) :
    ∃ perm, markowitz order pat = .ok perm ∧ perm.size = order ∧ perm.toList.Perm (List.range order) := by
  unfold markowitz
  rw [if_neg (by omega)]
  refine ⟨_, rfl, ?_⟩
  apply markowitz_fold_inv
  · simp
  · simp [Array.toList_range]
  · intro r hr
    have := List.mem_range.1 hr
    omega

theorem perm_range_getD_lt {perm : Array Nat} {n : Nat} (hs : perm.size = n)
    (hp : perm.toList.Perm (List.range n)) (i : Nat) (hi : i < n) : perm.getD i 0 < n := by
  have : perm.getD i 0 ∈ perm.toList := by
    have hi' : i < perm.size := by omega
    simp only [Array.getD, hi', dite_true]
    simp
  exact List.mem_range.1 (hp.mem_iff.1 this)

end Micm
