/-
One iteration of `rosStep` is a prologue followed by one attempt whose result is written field by field
(`rosAttempt_eq`), so an invariant of `rosLoop` is proved on the two pieces (`rosStep_inv`, `rosLoop_inv`).
On this rest the invariants behind C05 (stage equations, diagonal shift across retries), C06 and C07, and
the instance `Ex` over `ℚ` on which the `example`s of those properties run.
-/
import Micm.Lemmas.Controller
import Micm.Lemmas.ArrayFold

namespace Micm
set_option linter.unusedSectionVars false

theorem ite_bne_running {β : Type} (st : Status) (a b : β) :
    (if (st != Status.running) = true then a else b) = if st = .running then b else a := by
  cases st <;> rfl

theorem status_beq_running (st : Status) : (st == Status.running) = decide (st = .running) := by
  cases st <;> rfl

theorem decision_beq_accept (d : Decision) : (d == Decision.accept) = decide (d = .accept) := by
  cases d <;> rfl

section Step
variable {α : Type} [OfNat α 0] [OfNat α 1] [Add α] [Sub α] [Mul α] [Div α]
variable (o : Ops α) (cs : Consts α) (s : SolverCfg α) (p : RosParams α) (kc : Mat α)
    (atol : Array α) (rtol : α) (timeStep hm : α)

def startStep (r : RState α) : RState α :=
  { r with ctl := { r.ctl with h := cmin o r.ctl.h (o.abs (timeStep - r.ctl.t)) },
           inStep := true, lastAlpha := 0,
           sc := { r.sc with f0 := s.forcing kc r.Y (fillM r.sc.f0 0),
                             jac := s.jacobian kc r.Y (fillM r.sc.jac 0) },
           stats := { r.stats with functionCalls := r.stats.functionCalls + 1,
                                   jacobianUpdates := r.stats.jacobianUpdates + 1 } }

/-- the step prologue of `rosStep` (outer `while` condition and body up to the inner loop) -/
def rosPrologue (r : RState α) : RState α :=
  if r.inStep then r
  else if !(o.le (r.ctl.t - timeStep + p.roundOff) 0) then { r with status := .converged }
  else if r.stats.numberOfSteps > p.maxSteps then { r with status := .convergenceExceededMaxSteps }
  else if o.eq (r.ctl.t + cs.tenth * r.ctl.h) r.ctl.t || o.le r.ctl.h p.roundOff then
    { r with status := .stepSizeTooSmall }
  else startStep o s kc timeStep r

inductive PrologueCase (r : RState α) : RState α → Prop
  | inStep : r.inStep = true → PrologueCase r r
  | converged : r.inStep = false → o.le (r.ctl.t - timeStep + p.roundOff) 0 = false →
      PrologueCase r { r with status := .converged }
  | maxSteps : r.inStep = false → o.le (r.ctl.t - timeStep + p.roundOff) 0 = true →
      r.stats.numberOfSteps > p.maxSteps → PrologueCase r { r with status := .convergenceExceededMaxSteps }
  | tooSmall : r.inStep = false → o.le (r.ctl.t - timeStep + p.roundOff) 0 = true →
      ¬ r.stats.numberOfSteps > p.maxSteps →
      (o.eq (r.ctl.t + cs.tenth * r.ctl.h) r.ctl.t || o.le r.ctl.h p.roundOff) = true →
      PrologueCase r { r with status := .stepSizeTooSmall }
  | start : r.inStep = false → o.le (r.ctl.t - timeStep + p.roundOff) 0 = true →
      ¬ r.stats.numberOfSteps > p.maxSteps →
      (o.eq (r.ctl.t + cs.tenth * r.ctl.h) r.ctl.t || o.le r.ctl.h p.roundOff) = false →
      PrologueCase r (startStep o s kc timeStep r)

theorem rosPrologue_cases (r : RState α) :
    PrologueCase o cs s p kc timeStep r (rosPrologue o cs s p kc timeStep r) := by
  unfold rosPrologue
  by_cases h0 : r.inStep = true
  · rw [if_pos h0]; exact .inStep h0
  · rw [if_neg h0]
    have h0 : r.inStep = false := Bool.eq_false_iff.mpr h0
    by_cases h1 : (!o.le (r.ctl.t - timeStep + p.roundOff) 0) = true
    · rw [if_pos h1]; rw [Bool.not_eq_true'] at h1; exact .converged h0 h1
    · rw [if_neg h1]; rw [Bool.not_eq_true', Bool.not_eq_false] at h1
      by_cases h2 : r.stats.numberOfSteps > p.maxSteps
      · rw [if_pos h2]; exact .maxSteps h0 h1 h2
      · rw [if_neg h2]
        by_cases h3 : (o.eq (r.ctl.t + cs.tenth * r.ctl.h) r.ctl.t || o.le r.ctl.h p.roundOff) = true
        · rw [if_pos h3]; exact .tooSmall h0 h1 h2 h3
        · rw [if_neg h3]; exact .start h0 h1 h2 (Bool.eq_false_iff.mpr h3)

def attAlpha0 (r : RState α) : α := 1 / (r.ctl.h * p.gamma0)
/-- the value passed to `LinearFactor` -/
def attAlpha (r : RState α) : α :=
  if s.la.kind.inPlace then attAlpha0 p r else attAlpha0 p r - r.lastAlpha
def attLastAlpha (r : RState α) : α :=
  if s.la.kind.inPlace then r.lastAlpha else attAlpha0 p r
/-- the matrix handed to `Factor` -/
def attMatrix (r : RState α) : Mat α := s.alphaMinusJacobian r.sc.jac (attAlpha s p r)
def attFactor (r : RState α) : Mat α × Mat α × Mat α :=
  s.factor (attMatrix s p r) r.sc.lower r.sc.upper
def attStages (r : RState α) : Array (Mat α) × Mat α × Stats :=
  stagesGo s p kc r.Y (attFactor s p r).1 (attFactor s p r).2.1 (attFactor s p r).2.2 r.ctl.h p.stages 0
    (r.sc.k.setIfInBounds 0 r.sc.f0) r.sc.ynew { r.stats with decompositions := r.stats.decompositions + 1 }
def attYnew (r : RState α) : Mat α :=
  (List.range p.stages).foldl (fun yn i => axpyM (rd p.m i) ((attStages s p kc r).1.getD i #[]) yn) r.Y
def attYerr (r : RState α) : Mat α :=
  (List.range p.stages).foldl (fun ye i => axpyM (rd p.e i) ((attStages s p kc r).1.getD i #[]) ye)
    (fillM r.sc.yerr 0)
def attError (r : RState α) : α :=
  normalizedError o cs s.L s.nSpecies atol rtol r.Y (attYnew s p kc r) (attYerr s p kc r)
def attDecide (r : RState α) : Decision × Ctl α :=
  ctlDecide o p hm r.ctl (attError o cs s p kc atol rtol r)
def attRecord (r : RState α) : Attempt α :=
  { h := r.ctl.h, alpha := attAlpha s p r, matrix := attMatrix s p r,
    error := attError o cs s p kc atol rtol r,
    accepted := (attDecide o cs s p kc atol rtol hm r).1 == .accept }

def rosAttempt (r : RState α) : RState α :=
  let d := attDecide o cs s p kc atol rtol hm r
  let att := attRecord o cs s p kc atol rtol hm r
  let sg := attStages s p kc r
  let ynew := attYnew s p kc r
  let st : Stats := { sg.2.2 with numberOfSteps := sg.2.2.numberOfSteps + 1 }
  let fa := attFactor s p r
  let sc : Scratch α :=
    { r.sc with jac := fa.1, lower := fa.2.1, upper := fa.2.2, k := sg.1, yerr := attYerr s p kc r }
  let lastAlpha := attLastAlpha s p r
  match d.1 with
  | .nan => { r with Y := ynew, status := .nanDetected, stats := st, lastAlpha, sc := { sc with ynew := r.Y },
                     trace := att :: r.trace }
  | .inf => { r with Y := ynew, status := .infDetected, stats := st, lastAlpha, sc := { sc with ynew := r.Y },
                     trace := att :: r.trace }
  | .accept =>
    { r with Y := ynew, ctl := d.2, inStep := false, lastAlpha, sc := { sc with ynew := r.Y },
             stats := { st with accepted := st.accepted + 1 }, trace := att :: r.trace }
  | .reject =>
    let st := if st.accepted ≥ 1 then { st with rejected := st.rejected + 1 } else st
    if s.la.kind.inPlace then
      { r with ctl := d.2, stats := { st with jacobianUpdates := st.jacobianUpdates + 1 }, lastAlpha,
               sc := { sc with jac := s.jacobian kc r.Y (fillM sc.jac 0), ynew := ynew },
               trace := att :: r.trace }
    else
      { r with ctl := d.2, stats := st, lastAlpha, sc := { sc with ynew := ynew }, trace := att :: r.trace }

theorem rosStep_eq (r : RState α) :
    rosStep o cs s p kc atol rtol timeStep hm r =
      if (rosPrologue o cs s p kc timeStep r).status = .running
      then rosAttempt o cs s p kc atol rtol hm (rosPrologue o cs s p kc timeStep r)
      else rosPrologue o cs s p kc timeStep r := by
  -- `rosStep` draws `alpha` and `lastAlpha` as a pair from one `if`, `rosAttempt` from one `if` each:
  -- the two agree by unfolding once `inPlace` is known
  rw [← ite_bne_running]
  unfold rosStep rosAttempt attRecord attDecide attError attYnew attYerr attStages attFactor
    attMatrix attAlpha attLastAlpha attAlpha0
  cases s.la.kind.inPlace
  · rfl
  · rfl

def stagePre (Y : Mat α) (stage : Nat) (K : Array (Mat α)) (ynew : Mat α) (st : Stats) :
    Array (Mat α) × Mat α × Stats :=
  if stage = 0 then (K, ynew, st)
  else if p.newF.getD stage false then
    let ynew := (List.range stage).foldl
      (fun yn j => axpyM (rd p.a (stage * (stage - 1) / 2 + j)) (K.getD j #[]) yn) Y
    (K.setIfInBounds stage (s.forcing kc ynew (fillM (K.getD stage #[]) 0)), ynew,
      { st with functionCalls := st.functionCalls + 1 })
  else (K, ynew, st)

/-- `K[stage+1].Copy(K[stage])` when the next stage re-uses the function value -/
def stageCopy (stage : Nat) (K : Array (Mat α)) : Array (Mat α) :=
  if stage + 1 < p.stages && !(p.newF.getD (stage + 1) false)
  then K.setIfInBounds (stage + 1) (K.getD stage #[]) else K

def stageRhs (h : α) (stage : Nat) (K : Array (Mat α)) : Mat α :=
  (List.range stage).foldl
    (fun ks j => axpyM (rd p.c (stage * (stage - 1) / 2 + j) / h) (K.getD j #[]) ks) (K.getD stage #[])

theorem stagesGo_succ (Y J Lo Up : Mat α) (h : α) (n stage : Nat) (K : Array (Mat α)) (ynew : Mat α)
    (st : Stats) :
    stagesGo s p kc Y J Lo Up h (n + 1) stage K ynew st =
      stagesGo s p kc Y J Lo Up h n (stage + 1)
        ((stageCopy p stage (stagePre s p kc Y stage K ynew st).1).setIfInBounds stage
          (s.linSolve J Lo Up (stageRhs p h stage (stageCopy p stage (stagePre s p kc Y stage K ynew st).1))))
        (stagePre s p kc Y stage K ynew st).2.1
        { (stagePre s p kc Y stage K ynew st).2.2 with
          solves := (stagePre s p kc Y stage K ynew st).2.2.solves + 1 } := rfl

theorem stagePre_cases (Y : Mat α) (stage : Nat) (K : Array (Mat α)) (ynew : Mat α) (st : Stats) :
    ((stage = 0 ∨ p.newF.getD stage false = false) ∧
      stagePre s p kc Y stage K ynew st = (K, ynew, st)) ∨
    (stage ≠ 0 ∧ p.newF.getD stage false = true ∧
      stagePre s p kc Y stage K ynew st =
        (K.setIfInBounds stage
          (s.forcing kc ((List.range stage).foldl
            (fun yn j => axpyM (rd p.a (stage * (stage - 1) / 2 + j)) (K.getD j #[]) yn) Y)
            (fillM (K.getD stage #[]) 0)),
         (List.range stage).foldl
           (fun yn j => axpyM (rd p.a (stage * (stage - 1) / 2 + j)) (K.getD j #[]) yn) Y,
         { st with functionCalls := st.functionCalls + 1 })) := by
  unfold stagePre
  by_cases h0 : stage = 0
  · rw [if_pos h0]; exact Or.inl ⟨Or.inl h0, rfl⟩
  · rw [if_neg h0]
    cases hn : p.newF.getD stage false
    · exact Or.inl ⟨Or.inr rfl, rfl⟩
    · exact Or.inr ⟨h0, rfl, rfl⟩

theorem stagePre_stats (Y : Mat α) (stage : Nat) (K : Array (Mat α)) (ynew : Mat α) (st : Stats) :
    (stagePre s p kc Y stage K ynew st).2.2.solves = st.solves ∧
    (stagePre s p kc Y stage K ynew st).2.2.decompositions = st.decompositions ∧
    (stagePre s p kc Y stage K ynew st).2.2.numberOfSteps = st.numberOfSteps ∧
    (stagePre s p kc Y stage K ynew st).2.2.accepted = st.accepted ∧
    (stagePre s p kc Y stage K ynew st).2.2.rejected = st.rejected ∧
    (stagePre s p kc Y stage K ynew st).2.2.jacobianUpdates = st.jacobianUpdates := by
  rcases stagePre_cases s p kc Y stage K ynew st with ⟨_, h⟩ | ⟨_, _, h⟩ <;> rw [h] <;>
    exact ⟨rfl, rfl, rfl, rfl, rfl, rfl⟩

theorem stagesGo_stats (Y J Lo Up : Mat α) (h : α) (n stage : Nat) (K : Array (Mat α)) (ynew : Mat α)
    (st : Stats) :
    (stagesGo s p kc Y J Lo Up h n stage K ynew st).2.2.solves = st.solves + n ∧
    (stagesGo s p kc Y J Lo Up h n stage K ynew st).2.2.decompositions = st.decompositions ∧
    (stagesGo s p kc Y J Lo Up h n stage K ynew st).2.2.numberOfSteps = st.numberOfSteps ∧
    (stagesGo s p kc Y J Lo Up h n stage K ynew st).2.2.accepted = st.accepted ∧
    (stagesGo s p kc Y J Lo Up h n stage K ynew st).2.2.rejected = st.rejected ∧
    (stagesGo s p kc Y J Lo Up h n stage K ynew st).2.2.jacobianUpdates = st.jacobianUpdates := by
  induction n generalizing stage K ynew st with
  | zero => simp [stagesGo]
  | succ n ih =>
    rw [stagesGo_succ]
    obtain ⟨h1, h2, h3, h4, h5, h6⟩ := stagePre_stats s p kc Y stage K ynew st
    obtain ⟨i1, i2, i3, i4, i5, i6⟩ := ih (stage + 1)
      ((stageCopy p stage (stagePre s p kc Y stage K ynew st).1).setIfInBounds stage
          (s.linSolve J Lo Up (stageRhs p h stage (stageCopy p stage (stagePre s p kc Y stage K ynew st).1))))
      (stagePre s p kc Y stage K ynew st).2.1
      { (stagePre s p kc Y stage K ynew st).2.2 with
          solves := (stagePre s p kc Y stage K ynew st).2.2.solves + 1 }
    refine ⟨?_, ?_, ?_, ?_, ?_, ?_⟩
    · rw [i1]; simp only; omega
    · rw [i2]; exact h2
    · rw [i3]; exact h3
    · rw [i4]; exact h4
    · rw [i5]; exact h5
    · rw [i6]; exact h6

theorem rosAttempt_eq (r : RState α) :
    rosAttempt o cs s p kc atol rtol hm r =
      { Y := if (attDecide o cs s p kc atol rtol hm r).1 = .reject then r.Y else attYnew s p kc r,
        ctl := (attDecide o cs s p kc atol rtol hm r).2,
        stats :=
          { functionCalls := (attStages s p kc r).2.2.functionCalls,
            jacobianUpdates :=
              if (attDecide o cs s p kc atol rtol hm r).1 = .reject ∧ s.la.kind.inPlace = true
              then (attStages s p kc r).2.2.jacobianUpdates + 1 else (attStages s p kc r).2.2.jacobianUpdates,
            numberOfSteps := (attStages s p kc r).2.2.numberOfSteps + 1,
            accepted := if (attDecide o cs s p kc atol rtol hm r).1 = .accept
              then (attStages s p kc r).2.2.accepted + 1 else (attStages s p kc r).2.2.accepted,
            rejected :=
              if (attDecide o cs s p kc atol rtol hm r).1 = .reject ∧ (attStages s p kc r).2.2.accepted ≥ 1
              then (attStages s p kc r).2.2.rejected + 1 else (attStages s p kc r).2.2.rejected,
            decompositions := (attStages s p kc r).2.2.decompositions,
            solves := (attStages s p kc r).2.2.solves },
        status := if (attDecide o cs s p kc atol rtol hm r).1 = .nan then .nanDetected
                  else if (attDecide o cs s p kc atol rtol hm r).1 = .inf then .infDetected else r.status,
        inStep := if (attDecide o cs s p kc atol rtol hm r).1 = .accept then false else r.inStep,
        lastAlpha := attLastAlpha s p r,
        sc := { jac := if (attDecide o cs s p kc atol rtol hm r).1 = .reject ∧ s.la.kind.inPlace = true
                       then s.jacobian kc r.Y (fillM (attFactor s p r).1 0) else (attFactor s p r).1,
                lower := (attFactor s p r).2.1, upper := (attFactor s p r).2.2,
                ynew := if (attDecide o cs s p kc atol rtol hm r).1 = .reject then attYnew s p kc r else r.Y,
                f0 := r.sc.f0, k := (attStages s p kc r).1, yerr := attYerr s p kc r },
        trace := attRecord o cs s p kc atol rtol hm r :: r.trace } := by
  unfold rosAttempt
  simp only []
  cases hd : (attDecide o cs s p kc atol rtol hm r).1
  · -- on `nan`/`inf` the controller state is returned unchanged
    have hc := ctlDecide_nan _ _ _ _ _ hd
    unfold attDecide at hc ⊢
    simp only [hc, reduceCtorEq, if_false, false_and, if_true]
  · have hc := ctlDecide_inf _ _ _ _ _ hd
    unfold attDecide at hc ⊢
    simp only [hc, reduceCtorEq, if_false, false_and, if_true]
  · simp only [reduceCtorEq, if_false, false_and, if_true]
  · cases hip : s.la.kind.inPlace <;> by_cases ha : (attStages s p kc r).2.2.accepted ≥ 1 <;>
      simp only [ha, reduceCtorEq, if_false, if_true, and_true, and_false, Bool.false_eq_true]

theorem rosAttempt_trace (r : RState α) :
    (rosAttempt o cs s p kc atol rtol hm r).trace = attRecord o cs s p kc atol rtol hm r :: r.trace := by
  rw [rosAttempt_eq]

theorem rosAttempt_ctl (r : RState α) :
    (rosAttempt o cs s p kc atol rtol hm r).ctl = (attDecide o cs s p kc atol rtol hm r).2 := by
  rw [rosAttempt_eq]

theorem rosAttempt_Y (r : RState α) :
    (rosAttempt o cs s p kc atol rtol hm r).Y =
      if (attDecide o cs s p kc atol rtol hm r).1 = .reject then r.Y else attYnew s p kc r := by
  rw [rosAttempt_eq]

theorem rosAttempt_status (r : RState α) :
    (rosAttempt o cs s p kc atol rtol hm r).status =
      match (attDecide o cs s p kc atol rtol hm r).1 with
      | .nan => .nanDetected | .inf => .infDetected | _ => r.status := by
  rw [rosAttempt_eq]
  cases (attDecide o cs s p kc atol rtol hm r).1 <;> rfl

theorem rosAttempt_inStep (r : RState α) :
    (rosAttempt o cs s p kc atol rtol hm r).inStep =
      if (attDecide o cs s p kc atol rtol hm r).1 = .accept then false else r.inStep := by
  rw [rosAttempt_eq]

theorem rosAttempt_lastAlpha (r : RState α) :
    (rosAttempt o cs s p kc atol rtol hm r).lastAlpha = attLastAlpha s p r := by
  rw [rosAttempt_eq]

theorem rosAttempt_jac (r : RState α) :
    (rosAttempt o cs s p kc atol rtol hm r).sc.jac =
      if (attDecide o cs s p kc atol rtol hm r).1 = .reject ∧ s.la.kind.inPlace = true
      then s.jacobian kc r.Y (fillM (attFactor s p r).1 0) else (attFactor s p r).1 := by
  rw [rosAttempt_eq]

theorem rosAttempt_k (r : RState α) :
    (rosAttempt o cs s p kc atol rtol hm r).sc.k = (attStages s p kc r).1 := by
  rw [rosAttempt_eq]

theorem rosAttempt_yerr (r : RState α) :
    (rosAttempt o cs s p kc atol rtol hm r).sc.yerr = attYerr s p kc r := by
  rw [rosAttempt_eq]

theorem rosAttempt_f0 (r : RState α) :
    (rosAttempt o cs s p kc atol rtol hm r).sc.f0 = r.sc.f0 := by
  rw [rosAttempt_eq]

theorem attStages_stats (r : RState α) :
    (attStages s p kc r).2.2.solves = r.stats.solves + p.stages ∧
    (attStages s p kc r).2.2.decompositions = r.stats.decompositions + 1 ∧
    (attStages s p kc r).2.2.numberOfSteps = r.stats.numberOfSteps ∧
    (attStages s p kc r).2.2.accepted = r.stats.accepted ∧
    (attStages s p kc r).2.2.rejected = r.stats.rejected ∧
    (attStages s p kc r).2.2.jacobianUpdates = r.stats.jacobianUpdates := by
  unfold attStages
  exact stagesGo_stats s p kc _ _ _ _ _ _ _ _ _ _

theorem rosAttempt_stats (r : RState α) :
    (rosAttempt o cs s p kc atol rtol hm r).stats.decompositions = r.stats.decompositions + 1 ∧
    (rosAttempt o cs s p kc atol rtol hm r).stats.numberOfSteps = r.stats.numberOfSteps + 1 ∧
    (rosAttempt o cs s p kc atol rtol hm r).stats.solves = r.stats.solves + p.stages ∧
    (rosAttempt o cs s p kc atol rtol hm r).stats.accepted =
      r.stats.accepted + (if (attDecide o cs s p kc atol rtol hm r).1 = .accept then 1 else 0) ∧
    r.stats.rejected ≤ (rosAttempt o cs s p kc atol rtol hm r).stats.rejected ∧
    (rosAttempt o cs s p kc atol rtol hm r).stats.rejected ≤
      r.stats.rejected + (if (attDecide o cs s p kc atol rtol hm r).1 = .reject then 1 else 0) := by
  obtain ⟨h1, h2, h3, h4, h5, _⟩ := attStages_stats s p kc r
  rw [rosAttempt_eq]
  refine ⟨h2, congrArg (· + 1) h3, h1, ?_, ?_, ?_⟩
  · dsimp only; split
    · exact congrArg (· + 1) h4
    · exact h4
  · dsimp only; rw [h5]; split
    · exact Nat.le_succ _
    · exact Nat.le_refl _
  · dsimp only; rw [h5]; split
    · rw [if_pos ‹_ ∧ _›.1]
    · exact Nat.le_add_right _ _

theorem rosPrologue_frame (r : RState α) :
    (rosPrologue o cs s p kc timeStep r).trace = r.trace ∧
    (rosPrologue o cs s p kc timeStep r).Y = r.Y ∧
    (rosPrologue o cs s p kc timeStep r).ctl.t = r.ctl.t ∧
    (rosPrologue o cs s p kc timeStep r).ctl.rejectLast = r.ctl.rejectLast ∧
    (rosPrologue o cs s p kc timeStep r).ctl.rejectMore = r.ctl.rejectMore ∧
    (rosPrologue o cs s p kc timeStep r).stats.decompositions = r.stats.decompositions ∧
    (rosPrologue o cs s p kc timeStep r).stats.numberOfSteps = r.stats.numberOfSteps ∧
    (rosPrologue o cs s p kc timeStep r).stats.solves = r.stats.solves ∧
    (rosPrologue o cs s p kc timeStep r).stats.accepted = r.stats.accepted ∧
    (rosPrologue o cs s p kc timeStep r).stats.rejected = r.stats.rejected := by
  have h := rosPrologue_cases o cs s p kc timeStep r
  generalize rosPrologue o cs s p kc timeStep r = r' at h ⊢
  cases h <;> simp [startStep]

theorem rosPrologue_status (r : RState α) :
    (rosPrologue o cs s p kc timeStep r).status = r.status ∨
    (r.inStep = false ∧ (rosPrologue o cs s p kc timeStep r).trace = r.trace ∧
      ((rosPrologue o cs s p kc timeStep r).status = .converged ∨
       (rosPrologue o cs s p kc timeStep r).status = .convergenceExceededMaxSteps ∨
       (rosPrologue o cs s p kc timeStep r).status = .stepSizeTooSmall)) := by
  have h := rosPrologue_cases o cs s p kc timeStep r
  generalize rosPrologue o cs s p kc timeStep r = r' at h ⊢
  cases h <;> simp [startStep, *]

theorem rosPrologue_running_inStep (r : RState α)
    (h : (rosPrologue o cs s p kc timeStep r).status = .running) :
    (rosPrologue o cs s p kc timeStep r).inStep = true := by
  have hc := rosPrologue_cases o cs s p kc timeStep r
  generalize rosPrologue o cs s p kc timeStep r = r' at hc h ⊢
  cases hc <;> simp_all [startStep]

theorem rosPrologue_inv (P : RState α → Prop) (r : RState α)
    (hstat : ∀ st, st ≠ .running → P r → P { r with status := st })
    (hstart : r.inStep = false → o.le (r.ctl.t - timeStep + p.roundOff) 0 = true →
      ¬ r.stats.numberOfSteps > p.maxSteps →
      (o.eq (r.ctl.t + cs.tenth * r.ctl.h) r.ctl.t || o.le r.ctl.h p.roundOff) = false →
      P r → P (startStep o s kc timeStep r))
    (h : P r) : P (rosPrologue o cs s p kc timeStep r) := by
  have hc := rosPrologue_cases o cs s p kc timeStep r
  generalize rosPrologue o cs s p kc timeStep r = r' at hc ⊢
  cases hc with
  | inStep => exact h
  | converged => exact hstat _ (fun h => by cases h) h
  | maxSteps => exact hstat _ (fun h => by cases h) h
  | tooSmall => exact hstat _ (fun h => by cases h) h
  | start h0 h1 h2 h3 => exact hstart h0 h1 h2 h3 h

theorem rosLoop_zero (r : RState α) :
    rosLoop o cs s p kc atol rtol timeStep hm 0 r =
      if r.status = .running then { r with status := .outOfFuel } else r := by
  rw [rosLoop, status_beq_running]; by_cases h : r.status = .running <;> simp [h]

theorem rosLoop_succ (fuel : Nat) (r : RState α) :
    rosLoop o cs s p kc atol rtol timeStep hm (fuel + 1) r =
      if r.status = .running
      then rosLoop o cs s p kc atol rtol timeStep hm fuel (rosStep o cs s p kc atol rtol timeStep hm r)
      else r := by
  rw [rosLoop, ite_bne_running]

theorem rosLoop_inv (P : RState α → Prop)
    (hstep : ∀ r, r.status = .running → P r → P (rosStep o cs s p kc atol rtol timeStep hm r))
    (hout : ∀ r, r.status = .running → P r → P { r with status := .outOfFuel })
    (fuel : Nat) (r : RState α) (h : P r) : P (rosLoop o cs s p kc atol rtol timeStep hm fuel r) := by
  induction fuel generalizing r with
  | zero =>
    rw [rosLoop_zero]; split
    · exact hout r ‹_› h
    · exact h
  | succ n ih =>
    rw [rosLoop_succ]; split
    · exact ih _ (hstep r ‹_› h)
    · exact h

theorem rosStep_inv (P : RState α → Prop) (r : RState α)
    (hpro : P r → P (rosPrologue o cs s p kc timeStep r))
    (hatt : ∀ r', r'.status = .running → r'.inStep = true → P r' →
      P (rosAttempt o cs s p kc atol rtol hm r'))
    (h : P r) : P (rosStep o cs s p kc atol rtol timeStep hm r) := by
  rw [rosStep_eq]; split
  · exact hatt _ ‹_› (rosPrologue_running_inStep o cs s p kc timeStep r ‹_›) (hpro h)
  · exact hpro h

/-- C06: the counters agree with the ghost trace -/
def CountInv (r : RState α) : Prop :=
  r.stats.decompositions = r.trace.length ∧ r.stats.numberOfSteps = r.trace.length ∧
  r.stats.solves = p.stages * r.trace.length ∧
  r.stats.accepted = (r.trace.filter (·.accepted)).length ∧
  r.stats.rejected ≤ r.trace.length - r.stats.accepted

theorem CountInv_attempt (r : RState α) (h : CountInv p r) :
    CountInv p (rosAttempt o cs s p kc atol rtol hm r) := by
  obtain ⟨a1, a2, a3, a4, a5, a6⟩ := rosAttempt_stats o cs s p kc atol rtol hm r
  obtain ⟨c1, c2, c3, c4, c5⟩ := h
  have hf : (r.trace.filter (·.accepted)).length ≤ r.trace.length := List.length_filter_le _ _
  unfold CountInv
  rw [rosAttempt_trace, a1, a2, a3, a4]
  simp only [List.length_cons, List.filter_cons, attRecord, decision_beq_accept]
  refine ⟨by omega, by omega, by rw [c3, Nat.mul_add, Nat.mul_one], ?_, ?_⟩
  · by_cases hd : (attDecide o cs s p kc atol rtol hm r).1 = .accept <;> simp [hd, c4]
  · by_cases hd : (attDecide o cs s p kc atol rtol hm r).1 = .accept
    · simp only [hd, reduceCtorEq, if_true, if_false] at a6 ⊢
      omega
    · simp only [hd, if_false] at a6 ⊢
      split at a6 <;> omega

theorem CountInv_prologue (r : RState α) (h : CountInv p r) :
    CountInv p (rosPrologue o cs s p kc timeStep r) := by
  obtain ⟨f1, _, _, _, _, f6, f7, f8, f9, f10⟩ := rosPrologue_frame o cs s p kc timeStep r
  unfold CountInv at h ⊢
  rw [f1, f6, f7, f8, f9, f10]; exact h

theorem CountInv_loop (fuel : Nat) (r : RState α) (h : CountInv p r) :
    CountInv p (rosLoop o cs s p kc atol rtol timeStep hm fuel r) :=
  rosLoop_inv o cs s p kc atol rtol timeStep hm (CountInv p)
    (fun r _ h => rosStep_inv o cs s p kc atol rtol timeStep hm _ r
      (CountInv_prologue o cs s p kc timeStep r) (fun r' _ _ => CountInv_attempt o cs s p kc atol rtol hm r') h)
    (fun _ _ h => h) fuel r h

def rosInit (h : α) (Y : Mat α) (sc : Scratch α) : RState α :=
  { Y, ctl := { t := 0, h, rejectLast := false, rejectMore := false }, stats := {},
    status := .running, inStep := false, lastAlpha := 0, sc, trace := [] }

theorem rosSolve_eq (Y : Mat α) (sc : Scratch α) (fuel : Nat) :
    rosSolve o cs s p kc atol rtol timeStep Y sc fuel =
      let r := rosLoop o cs s p kc atol rtol timeStep (hmaxEff o p timeStep) fuel
                 (rosInit (initialH o cs p timeStep) Y sc)
      { status := r.status, finalTime := r.ctl.t, stats := r.stats, Y := r.Y, sc := r.sc,
        trace := r.trace.reverse } := rfl

theorem rosStep_no_attempt (r : RState α)
    (h : (rosPrologue o cs s p kc timeStep r).status ≠ .running) :
    rosStep o cs s p kc atol rtol timeStep hm r = rosPrologue o cs s p kc timeStep r := by
  rw [rosStep_eq, if_neg h]

theorem rosStep_attempt (r : RState α)
    (h : (rosPrologue o cs s p kc timeStep r).status = .running) :
    rosStep o cs s p kc atol rtol timeStep hm r =
      rosAttempt o cs s p kc atol rtol hm (rosPrologue o cs s p kc timeStep r) := by
  rw [rosStep_eq, if_pos h]

theorem rosStep_trace (r : RState α) :
    (rosStep o cs s p kc atol rtol timeStep hm r).trace =
      if (rosPrologue o cs s p kc timeStep r).status = .running
      then attRecord o cs s p kc atol rtol hm (rosPrologue o cs s p kc timeStep r) :: r.trace
      else r.trace := by
  rw [rosStep_eq]; split
  · rw [rosAttempt_trace, (rosPrologue_frame o cs s p kc timeStep r).1]
  · exact (rosPrologue_frame o cs s p kc timeStep r).1

theorem rosStep_trace_cons (r : RState α) (att : Attempt α)
    (h : (rosStep o cs s p kc atol rtol timeStep hm r).trace = att :: r.trace) :
    (rosPrologue o cs s p kc timeStep r).status = .running ∧
    att = attRecord o cs s p kc atol rtol hm (rosPrologue o cs s p kc timeStep r) := by
  rw [rosStep_trace] at h
  split at h
  · exact ⟨‹_›, by injection h with h1 _; exact h1.symm⟩
  · exact absurd h.symm (List.cons_ne_self _ _)

theorem rosAttempt_status_cases (r : RState α) (hr : r.status = .running) :
    ((rosAttempt o cs s p kc atol rtol hm r).status = .running ∧
      ((attDecide o cs s p kc atol rtol hm r).1 = .accept ∨ (attDecide o cs s p kc atol rtol hm r).1 = .reject)) ∨
    ((rosAttempt o cs s p kc atol rtol hm r).status = .nanDetected ∧
      (attDecide o cs s p kc atol rtol hm r).1 = .nan) ∨
    ((rosAttempt o cs s p kc atol rtol hm r).status = .infDetected ∧
      (attDecide o cs s p kc atol rtol hm r).1 = .inf) := by
  rw [rosAttempt_status]
  cases hd : (attDecide o cs s p kc atol rtol hm r).1 <;> simp [hr]

theorem rosStep_att_h (r : RState α) (_hr : r.status = .running) (att : Attempt α)
    (h : (rosStep o cs s p kc atol rtol timeStep hm r).trace = att :: r.trace) :
    att.h = if r.inStep then r.ctl.h else cmin o r.ctl.h (o.abs (timeStep - r.ctl.t)) := by
  obtain ⟨hs, rfl⟩ := rosStep_trace_cons o cs s p kc atol rtol timeStep hm r att h
  have hc := rosPrologue_cases o cs s p kc timeStep r
  generalize rosPrologue o cs s p kc timeStep r = r' at hc hs ⊢
  cases hc with
  | inStep hi => rw [hi]; rfl
  | converged => cases hs
  | maxSteps => cases hs
  | tooSmall => cases hs
  | start hi => rw [hi]; rfl

theorem rosStep_max_steps (r : RState α) (hi : r.inStep = false)
    (ht : o.le (r.ctl.t - timeStep + p.roundOff) 0 = true) (hn : r.stats.numberOfSteps > p.maxSteps) :
    rosStep o cs s p kc atol rtol timeStep hm r = { r with status := .convergenceExceededMaxSteps } := by
  have : rosPrologue o cs s p kc timeStep r = { r with status := .convergenceExceededMaxSteps } := by
    unfold rosPrologue; simp [hi, ht, hn]
  rw [rosStep_no_attempt] <;> simp [this]

/-- `t0` plus the accepted step sizes of a trace, which is newest first -/
def accTime (t0 : α) : List (Attempt α) → α
  | [] => t0
  | a :: tr => if a.accepted then accTime t0 tr + a.h else accTime t0 tr

theorem accTime_eq_foldl (t0 : α) (tr : List (Attempt α)) :
    accTime t0 tr = ((tr.reverse).filter (·.accepted)).foldl (fun t a => t + a.h) t0 := by
  induction tr with
  | nil => rfl
  | cons a tr ih =>
    rw [accTime, List.reverse_cons, List.filter_append, List.foldl_append, ← ih]
    cases ha : a.accepted <;> simp [ha]

theorem time_attempt (t0 : α) (r : RState α) (h : r.ctl.t = accTime t0 r.trace) :
    (rosAttempt o cs s p kc atol rtol hm r).ctl.t =
      accTime t0 (rosAttempt o cs s p kc atol rtol hm r).trace := by
  rw [rosAttempt_trace, rosAttempt_ctl, attDecide, ctlDecide_t, accTime]
  simp only [attRecord, attDecide, decision_beq_accept, decide_eq_true_eq, h]

theorem time_loop (t0 : α) (fuel : Nat) (r : RState α) (h : r.ctl.t = accTime t0 r.trace) :
    (rosLoop o cs s p kc atol rtol timeStep hm fuel r).ctl.t =
      accTime t0 (rosLoop o cs s p kc atol rtol timeStep hm fuel r).trace :=
  rosLoop_inv o cs s p kc atol rtol timeStep hm (fun r => r.ctl.t = accTime t0 r.trace)
    (fun r _ h => rosStep_inv o cs s p kc atol rtol timeStep hm _ r
      (fun h => by
        obtain ⟨f1, _, f3, _⟩ := rosPrologue_frame o cs s p kc timeStep r
        rw [f1, f3]; exact h)
      (fun r' _ _ => time_attempt o cs s p kc atol rtol hm t0 r') h)
    (fun _ _ h => h) fuel r h

/-- `Y` changes only on acceptance (or at the `nan`/`inf` exits, which swap `Y` and `Ynew`) -/
theorem rosStep_Y (r : RState α) :
    (rosStep o cs s p kc atol rtol timeStep hm r).Y = r.Y ∨
    (rosStep o cs s p kc atol rtol timeStep hm r).status = .nanDetected ∨
    (rosStep o cs s p kc atol rtol timeStep hm r).status = .infDetected ∨
    ∃ att, (rosStep o cs s p kc atol rtol timeStep hm r).trace = att :: r.trace ∧ att.accepted = true := by
  obtain ⟨f1, f2, _⟩ := rosPrologue_frame o cs s p kc timeStep r
  by_cases hs : (rosPrologue o cs s p kc timeStep r).status = .running
  · rw [rosStep_trace, if_pos hs, rosStep_attempt _ _ _ _ _ _ _ _ _ _ hs]
    rcases rosAttempt_status_cases o cs s p kc atol rtol hm _ hs with ⟨_, hd | hd⟩ | ⟨h1, _⟩ | ⟨h1, _⟩
    · right; right; right
      exact ⟨_, rfl, by simp only [attRecord, hd]; rfl⟩
    · left; rw [rosAttempt_Y, if_pos hd, f2]
    · right; left; exact h1
    · right; right; left; exact h1
  · left; rw [rosStep_no_attempt _ _ _ _ _ _ _ _ _ _ hs, f2]

/-- `converged` is only ever set by the test of the outer `while` -/
def ConvInv (r : RState α) : Prop :=
  r.status = .converged → o.le (r.ctl.t - timeStep + p.roundOff) 0 = false

theorem ConvInv_step (r : RState α) (hr : r.status = .running) :
    ConvInv o p timeStep (rosStep o cs s p kc atol rtol timeStep hm r) := by
  by_cases hs : (rosPrologue o cs s p kc timeStep r).status = .running
  · intro hc
    rw [rosStep_attempt _ _ _ _ _ _ _ _ _ _ hs] at hc
    rcases rosAttempt_status_cases o cs s p kc atol rtol hm _ hs with ⟨h1, _⟩ | ⟨h1, _⟩ | ⟨h1, _⟩ <;>
      rw [h1] at hc <;> cases hc
  · rw [rosStep_no_attempt _ _ _ _ _ _ _ _ _ _ hs]
    have hc := rosPrologue_cases o cs s p kc timeStep r
    generalize rosPrologue o cs s p kc timeStep r = r' at hc hs ⊢
    cases hc with
    | inStep => exact absurd hr hs
    | converged _ h1 => exact fun _ => h1
    | maxSteps => exact fun hc => by cases hc
    | tooSmall => exact fun hc => by cases hc
    | start => exact absurd hr hs

theorem ConvInv_loop (fuel : Nat) (r : RState α) (h : ConvInv o p timeStep r) :
    ConvInv o p timeStep (rosLoop o cs s p kc atol rtol timeStep hm fuel r) :=
  rosLoop_inv o cs s p kc atol rtol timeStep hm (ConvInv o p timeStep)
    (fun r hr _ => ConvInv_step o cs s p kc atol rtol timeStep hm r hr)
    (fun _ _ _ => by intro hc; cases hc) fuel r h

theorem rosLoop_not_running (fuel : Nat) (r : RState α) (h : r.status ≠ .running) :
    rosLoop o cs s p kc atol rtol timeStep hm fuel r = r := by
  cases fuel
  · rw [rosLoop_zero, if_neg h]
  · rw [rosLoop_succ, if_neg h]

theorem rosStep_status_ne_outOfFuel (r : RState α) (hr : r.status = .running) :
    (rosStep o cs s p kc atol rtol timeStep hm r).status ≠ .outOfFuel := by
  by_cases hs : (rosPrologue o cs s p kc timeStep r).status = .running
  · rw [rosStep_attempt _ _ _ _ _ _ _ _ _ _ hs]
    rcases rosAttempt_status_cases o cs s p kc atol rtol hm _ hs with ⟨h1, _⟩ | ⟨h1, _⟩ | ⟨h1, _⟩ <;>
      rw [h1] <;> simp
  · rw [rosStep_no_attempt _ _ _ _ _ _ _ _ _ _ hs]
    rcases rosPrologue_status o cs s p kc timeStep r with h1 | ⟨_, _, h1 | h1 | h1⟩ <;> rw [h1] <;> simp [hr]

theorem rosStep_running_trace (r : RState α)
    (h2 : (rosStep o cs s p kc atol rtol timeStep hm r).status = .running) :
    (rosStep o cs s p kc atol rtol timeStep hm r).trace.length = r.trace.length + 1 := by
  by_cases hs : (rosPrologue o cs s p kc timeStep r).status = .running
  · rw [rosStep_trace, if_pos hs]; rfl
  · rw [rosStep_no_attempt _ _ _ _ _ _ _ _ _ _ hs] at h2; exact absurd h2 hs

theorem rosLoop_outOfFuel (fuel : Nat) (r : RState α) (hr : r.status ≠ .outOfFuel)
    (h : (rosLoop o cs s p kc atol rtol timeStep hm fuel r).status = .outOfFuel) :
    (rosLoop o cs s p kc atol rtol timeStep hm fuel r).trace.length = r.trace.length + fuel := by
  induction fuel generalizing r with
  | zero =>
    rw [rosLoop_zero] at h ⊢
    split
    · rfl
    · rename_i h1; rw [if_neg h1] at h; exact absurd h hr
  | succ n ih =>
    rw [rosLoop_succ] at h ⊢
    by_cases h1 : r.status = .running
    · rw [if_pos h1] at h ⊢
      have h3 := rosStep_status_ne_outOfFuel o cs s p kc atol rtol timeStep hm r h1
      by_cases h2 : (rosStep o cs s p kc atol rtol timeStep hm r).status = .running
      · rw [ih _ h3 h, rosStep_running_trace o cs s p kc atol rtol timeStep hm r h2]; omega
      · rw [rosLoop_not_running _ _ _ _ _ _ _ _ _ _ _ h2] at h; exact absurd h h3
    · rw [if_neg h1] at h; exact absurd h hr

end Step

section Stages
variable {α : Type} [OfNat α 0] [OfNat α 1] [Add α] [Sub α] [Mul α] [Div α]
variable (s : SolverCfg α) (p : RosParams α) (kc : Mat α)

/-- `Y + Σ_{j<i} a_{ij} K_j` with the packed index `i(i−1)/2 + j` -/
def stageY (Y : Mat α) (K : Array (Mat α)) (i : Nat) : Mat α :=
  (List.range i).foldl (fun yn j => axpyM (rd p.a (i * (i - 1) / 2 + j)) (K.getD j #[]) yn) Y

/-- the function value used by stage `i`: the initial forcing for stage 0; for `i > 0` a fresh
    evaluation at `stageY i` when `new_function_evaluation[i]`, else the value of stage `i − 1`.
    (`K0` is the array at entry: `K0[0]` holds the initial forcing, `K0[i]` only gives the shape of
    the zeroed buffer.) -/
def stageForcing (Y : Mat α) (K0 K : Array (Mat α)) : Nat → Mat α
  | 0 => K0.getD 0 #[]
  | i + 1 =>
    if p.newF.getD (i + 1) false
    then s.forcing kc (stageY p Y K (i + 1)) (fillM (K0.getD (i + 1) #[]) 0)
    else stageForcing Y K0 K i

/-- `F + Σ_{j<i} (c_{ij}/h) K_j` with the packed index `i(i−1)/2 + j` -/
def stageRhsOf (h : α) (K : Array (Mat α)) (F : Mat α) (i : Nat) : Mat α :=
  (List.range i).foldl (fun ks j => axpyM (rd p.c (i * (i - 1) / 2 + j) / h) (K.getD j #[]) ks) F

theorem stageRhs_eq (h : α) (stage : Nat) (K : Array (Mat α)) :
    stageRhs p h stage K = stageRhsOf p h K (K.getD stage #[]) stage := rfl

theorem stageY_congr (Y : Mat α) (K K' : Array (Mat α)) (i : Nat)
    (h : ∀ j, j < i → K.getD j #[] = K'.getD j #[]) : stageY p Y K i = stageY p Y K' i := by
  unfold stageY
  refine foldl_congr_of_mem _ _ _ (fun x j hj => ?_) _
  rw [h j (List.mem_range.mp hj)]

theorem stageRhsOf_congr (hh : α) (K K' : Array (Mat α)) (F : Mat α) (i : Nat)
    (h : ∀ j, j < i → K.getD j #[] = K'.getD j #[]) : stageRhsOf p hh K F i = stageRhsOf p hh K' F i := by
  unfold stageRhsOf
  refine foldl_congr_of_mem _ _ _ (fun x j hj => ?_) _
  rw [h j (List.mem_range.mp hj)]

theorem stageForcing_congr (Y : Mat α) (K0 K K' : Array (Mat α)) (i : Nat)
    (h : ∀ j, j < i → K.getD j #[] = K'.getD j #[]) :
    stageForcing s p kc Y K0 K i = stageForcing s p kc Y K0 K' i := by
  induction i with
  | zero => rfl
  | succ i ih =>
    unfold stageForcing
    rw [stageY_congr p Y K K' (i + 1) (fun j hj => h j (by omega)), ih (fun j hj => h j (by omega))]

theorem stagePre_size (Y : Mat α) (stage : Nat) (K : Array (Mat α)) (ynew : Mat α) (st : Stats) :
    (stagePre s p kc Y stage K ynew st).1.size = K.size := by
  rcases stagePre_cases s p kc Y stage K ynew st with ⟨_, h⟩ | ⟨_, _, h⟩ <;> rw [h]
  exact Array.size_setIfInBounds ..

theorem stagePre_getD_ne (Y : Mat α) (stage : Nat) (K : Array (Mat α)) (ynew : Mat α) (st : Stats)
    (j : Nat) (h : stage ≠ j) : (stagePre s p kc Y stage K ynew st).1.getD j #[] = K.getD j #[] := by
  rcases stagePre_cases s p kc Y stage K ynew st with ⟨_, e⟩ | ⟨_, _, e⟩ <;> rw [e]
  exact getD_set_ne _ _ _ _ _ h

theorem stagePre_getD_stage (Y : Mat α) (stage : Nat) (K : Array (Mat α)) (ynew : Mat α) (st : Stats)
    (hs : stage < K.size) :
    (stagePre s p kc Y stage K ynew st).1.getD stage #[] =
      if stage = 0 then K.getD stage #[]
      else if p.newF.getD stage false then s.forcing kc (stageY p Y K stage) (fillM (K.getD stage #[]) 0)
      else K.getD stage #[] := by
  rcases stagePre_cases s p kc Y stage K ynew st with ⟨h0 | hn, e⟩ | ⟨h0, hn, e⟩ <;> rw [e]
  · rw [if_pos h0]
  · rw [hn]; split <;> rfl
  · rw [if_neg h0, if_pos hn]; exact getD_set_eq _ _ _ _ hs

theorem stageCopy_size (stage : Nat) (K : Array (Mat α)) : (stageCopy p stage K).size = K.size := by
  unfold stageCopy
  cases stage + 1 < p.stages && !(p.newF.getD (stage + 1) false)
  · rfl
  · exact Array.size_setIfInBounds ..

theorem stageCopy_getD_ne (stage : Nat) (K : Array (Mat α)) (j : Nat) (h : stage + 1 ≠ j) :
    (stageCopy p stage K).getD j #[] = K.getD j #[] := by
  unfold stageCopy
  cases stage + 1 < p.stages && !(p.newF.getD (stage + 1) false)
  · rfl
  · exact getD_set_ne _ _ _ _ _ h

theorem stageCopy_getD_succ (stage : Nat) (K : Array (Mat α)) (hs : stage + 1 < p.stages)
    (hk : stage + 1 < K.size) :
    (stageCopy p stage K).getD (stage + 1) #[] =
      if p.newF.getD (stage + 1) false then K.getD (stage + 1) #[] else K.getD stage #[] := by
  unfold stageCopy
  rw [decide_eq_true hs, Bool.true_and]
  cases p.newF.getD (stage + 1) false
  · exact getD_set_eq _ _ _ _ hk
  · rfl

theorem stagesGo_K_lt (Y J Lo Up : Mat α) (h : α) (n stage : Nat) (K : Array (Mat α)) (ynew : Mat α)
    (st : Stats) (j : Nat) (hj : j < stage) :
    (stagesGo s p kc Y J Lo Up h n stage K ynew st).1.getD j #[] = K.getD j #[] := by
  induction n generalizing stage K ynew st with
  | zero => rfl
  | succ n ih =>
    rw [stagesGo_succ, ih _ _ _ _ (by omega), getD_set_ne _ _ _ _ _ (by omega),
      stageCopy_getD_ne _ _ _ _ (by omega), stagePre_getD_ne _ _ _ _ _ _ _ _ _ (by omega)]

theorem stagesGo_K_size (Y J Lo Up : Mat α) (h : α) (n stage : Nat) (K : Array (Mat α)) (ynew : Mat α)
    (st : Stats) : (stagesGo s p kc Y J Lo Up h n stage K ynew st).1.size = K.size := by
  induction n generalizing stage K ynew st with
  | zero => rfl
  | succ n ih => rw [stagesGo_succ, ih, Array.size_setIfInBounds, stageCopy_size, stagePre_size]

def StageEntry (Y : Mat α) (K0 K : Array (Mat α)) (stage : Nat) : Prop :=
  K.getD stage #[] =
    if stage = 0 ∨ p.newF.getD stage false = true then K0.getD stage #[]
    else stageForcing s p kc Y K0 K (stage - 1)

theorem stagePre_is_forcing (Y : Mat α) (K0 K : Array (Mat α)) (stage : Nat) (ynew : Mat α) (st : Stats)
    (hs : stage < K.size) (he : StageEntry s p kc Y K0 K stage) :
    (stagePre s p kc Y stage K ynew st).1.getD stage #[] = stageForcing s p kc Y K0 K stage := by
  unfold StageEntry at he
  cases stage with
  | zero =>
    rw [stagePre_getD_stage s p kc Y 0 K ynew st hs, if_pos rfl, he, if_pos (Or.inl rfl)]; rfl
  | succ m =>
    rw [stagePre_getD_stage s p kc Y (m + 1) K ynew st hs, if_neg (Nat.succ_ne_zero m)]
    unfold stageForcing
    cases hn : p.newF.getD (m + 1) false
    · rw [hn, if_neg (fun h => by rcases h with h | h <;> cases h)] at he
      rw [if_neg Bool.false_ne_true, if_neg Bool.false_ne_true, he]; rfl
    · rw [hn, if_pos (Or.inr rfl)] at he
      rw [if_pos rfl, if_pos rfl, he]

/-- the stage vectors after stage `stage` of `stagesGo`: function value, copy to the next stage, solve -/
def stageStep (Y J Lo Up : Mat α) (h : α) (stage : Nat) (K : Array (Mat α)) (ynew : Mat α) (st : Stats) :
    Array (Mat α) :=
  (stageCopy p stage (stagePre s p kc Y stage K ynew st).1).setIfInBounds stage
    (s.linSolve J Lo Up (stageRhs p h stage (stageCopy p stage (stagePre s p kc Y stage K ynew st).1)))

section StageStep
variable (Y J Lo Up : Mat α) (h : α) (stage : Nat) (K : Array (Mat α)) (ynew : Mat α) (st : Stats)

theorem stageStep_size : (stageStep s p kc Y J Lo Up h stage K ynew st).size = K.size := by
  unfold stageStep
  rw [Array.size_setIfInBounds, stageCopy_size, stagePre_size]

theorem stageStep_getD_ne (j : Nat) (h1 : stage ≠ j) (h2 : stage + 1 ≠ j) :
    (stageStep s p kc Y J Lo Up h stage K ynew st).getD j #[] = K.getD j #[] := by
  unfold stageStep
  rw [getD_set_ne _ _ _ _ _ h1, stageCopy_getD_ne _ _ _ _ h2, stagePre_getD_ne _ _ _ _ _ _ _ _ _ h1]

theorem stageStep_getD_stage (K0 : Array (Mat α)) (hs : stage < K.size)
    (he : StageEntry s p kc Y K0 K stage) :
    (stageStep s p kc Y J Lo Up h stage K ynew st).getD stage #[] =
      s.linSolve J Lo Up (stageRhsOf p h K (stageForcing s p kc Y K0 K stage) stage) := by
  unfold stageStep
  rw [getD_set_eq _ _ _ _ (by rw [stageCopy_size, stagePre_size]; exact hs), stageRhs_eq,
    stageCopy_getD_ne _ _ _ _ (Nat.succ_ne_self stage), stagePre_is_forcing s p kc Y K0 K stage ynew st hs he]
  refine congrArg _ (stageRhsOf_congr p h _ K _ stage fun j hj => ?_)
  rw [stageCopy_getD_ne _ _ _ _ (by omega), stagePre_getD_ne _ _ _ _ _ _ _ _ _ (by omega)]

theorem stageStep_getD_succ (K0 : Array (Mat α)) (hs : stage + 1 < p.stages) (hk : stage + 1 < K.size)
    (he : StageEntry s p kc Y K0 K stage) :
    (stageStep s p kc Y J Lo Up h stage K ynew st).getD (stage + 1) #[] =
      if p.newF.getD (stage + 1) false then K.getD (stage + 1) #[] else stageForcing s p kc Y K0 K stage := by
  unfold stageStep
  rw [getD_set_ne _ _ _ _ _ (Nat.succ_ne_self stage).symm,
    stageCopy_getD_succ p stage _ hs (by rw [stagePre_size]; exact hk),
    stagePre_getD_ne _ _ _ _ _ _ _ _ _ (Nat.succ_ne_self stage).symm,
    stagePre_is_forcing s p kc Y K0 K stage ynew st (by omega) he]

end StageStep

theorem stagesGo_spec (Y J Lo Up : Mat α) (h : α) (K0 : Array (Mat α)) (hK0 : p.stages ≤ K0.size)
    (n stage : Nat) (K : Array (Mat α)) (ynew : Mat α) (st : Stats)
    (hsum : stage + n = p.stages) (hsz : K.size = K0.size)
    (hgt : ∀ j, stage < j → K.getD j #[] = K0.getD j #[])
    (hent : 0 < n → StageEntry s p kc Y K0 K stage)
    (i : Nat) (h1 : stage ≤ i) (h2 : i < p.stages) :
    (stagesGo s p kc Y J Lo Up h n stage K ynew st).1.getD i #[] =
      s.linSolve J Lo Up
        (stageRhsOf p h (stagesGo s p kc Y J Lo Up h n stage K ynew st).1
          (stageForcing s p kc Y K0 (stagesGo s p kc Y J Lo Up h n stage K ynew st).1 i) i) := by
  induction n generalizing stage K ynew st with
  | zero => omega
  | succ n ih =>
    have hent := hent (by omega)
    have hs : stage < K.size := by omega
    have e_ne := stageStep_getD_ne s p kc Y J Lo Up h stage K ynew st
    have e_st := stageStep_getD_stage s p kc Y J Lo Up h stage K ynew st K0 hs hent
    have e_succ := stageStep_getD_succ s p kc Y J Lo Up h stage K ynew st K0
    have e_sz := stageStep_size s p kc Y J Lo Up h stage K ynew st
    rw [stagesGo_succ, ← stageStep]
    generalize stageStep s p kc Y J Lo Up h stage K ynew st = K1 at e_ne e_st e_succ e_sz ⊢
    generalize stagePre s p kc Y stage K ynew st = pre
    rcases Nat.eq_or_lt_of_le h1 with h1 | h1
    · -- stage `i = stage` is solved now, and neither it nor what it read is written again
      subst h1
      have hf : ∀ j, j < stage + 1 →
          (stagesGo s p kc Y J Lo Up h n (stage + 1) K1 pre.2.1
            { pre.2.2 with solves := pre.2.2.solves + 1 }).1.getD j #[] = K1.getD j #[] :=
        fun j hj => stagesGo_K_lt s p kc Y J Lo Up h n (stage + 1) K1 _ _ j hj
      generalize (stagesGo s p kc Y J Lo Up h n (stage + 1) K1 pre.2.1
            { pre.2.2 with solves := pre.2.2.solves + 1 }).1 = Kf at hf ⊢
      have hK : ∀ j, j < stage → Kf.getD j #[] = K.getD j #[] := fun j hj => by
        rw [hf j (by omega), e_ne j (by omega) (by omega)]
      rw [hf stage (by omega), e_st, stageForcing_congr s p kc Y K0 Kf K stage hK,
        stageRhsOf_congr p h Kf K _ stage hK]
    · -- a later stage: the hypotheses hold again at `stage + 1`
      apply ih (stage + 1) K1 pre.2.1 _ (by omega) (e_sz.trans hsz)
      · intro j hj
        rw [e_ne j (by omega) (by omega), hgt j (by omega)]
      · intro hn
        unfold StageEntry
        simp only [Nat.add_eq_zero_iff, one_ne_zero, and_false, false_or, Nat.add_sub_cancel]
        rw [e_succ (by omega) (by omega) hent]
        cases hnf : p.newF.getD (stage + 1) false
        · simp only [Bool.false_eq_true, if_false]
          exact stageForcing_congr s p kc Y K0 K K1 stage (fun j hj => (e_ne j (by omega) (by omega)).symm)
        · simp only [if_true]
          exact hgt _ (by omega)
      · omega

/-- C05, the stage equations of one attempt: with `Kf` the final stage vectors, for every stage `i`
    `Kf[i] = linSolve (F_i + Σ_{j<i} (c_{ij}/h) Kf[j])`, `F_i = stageForcing … i` -/
theorem stagesGo_equations (Y J Lo Up : Mat α) (h : α) (K0 : Array (Mat α)) (hK0 : p.stages ≤ K0.size)
    (ynew : Mat α) (st : Stats) (i : Nat) (hi : i < p.stages) :
    (stagesGo s p kc Y J Lo Up h p.stages 0 K0 ynew st).1.getD i #[] =
      s.linSolve J Lo Up
        (stageRhsOf p h (stagesGo s p kc Y J Lo Up h p.stages 0 K0 ynew st).1
          (stageForcing s p kc Y K0 (stagesGo s p kc Y J Lo Up h p.stages 0 K0 ynew st).1 i) i) :=
  stagesGo_spec s p kc Y J Lo Up h K0 hK0 p.stages 0 K0 ynew st (by omega) rfl (fun _ _ => rfl)
    (fun _ => by simp [StageEntry]) i (Nat.zero_le _) hi

theorem axpyRow_size (a : α) (x y : Array α) : (axpyRow a x y).size = y.size := by
  simp [axpyRow]

theorem rd_axpyRow (a : α) (x y : Array α) (v : Nat) (hv : v < y.size) :
    rd (axpyRow a x y) v = rd y v + a * rd x v := by
  simp [axpyRow, rd, Array.getD, hv]

theorem axpyM_size (a : α) (x y : Mat α) : (axpyM a x y).size = y.size := by
  simp [axpyM]

theorem axpyM_getD (a : α) (x y : Mat α) (c : Nat) (hc : c < y.size) :
    (axpyM a x y).getD c #[] = axpyRow a (x.getD c #[]) (y.getD c #[]) := by
  simp [axpyM, Array.getD, hc]

/-- entry `[c][v]` of `F + Σ_{j∈l} coef_j · X_j`, summed left to right as the `Axpy` calls do; no law of `α` is used -/
theorem rd_axpy_fold (coef : Nat → α) (X : Nat → Mat α) (l : List Nat) (F : Mat α) (c v : Nat)
    (hc : c < F.size) (hv : v < (F.getD c #[]).size) :
    rd ((l.foldl (fun ks j => axpyM (coef j) (X j) ks) F).getD c #[]) v =
      l.foldl (fun acc j => acc + coef j * rd ((X j).getD c #[]) v) (rd (F.getD c #[]) v) := by
  induction l generalizing F with
  | nil => rfl
  | cons j l ih =>
    simp only [List.foldl_cons]
    have h1 : (axpyM (coef j) (X j) F).getD c #[] = axpyRow (coef j) ((X j).getD c #[]) (F.getD c #[]) :=
      axpyM_getD _ _ _ _ hc
    rw [ih (axpyM (coef j) (X j) F) (by rw [axpyM_size]; exact hc) (by rw [h1, axpyRow_size]; exact hv),
      h1, rd_axpyRow _ _ _ _ hv]

end Stages

section StagesAttempt
variable {α : Type} [OfNat α 0] [OfNat α 1] [Add α] [Sub α] [Mul α] [Div α]
variable (o : Ops α) (cs : Consts α) (s : SolverCfg α) (p : RosParams α) (kc : Mat α)
    (atol : Array α) (rtol : α) (timeStep hm : α)

theorem rosPrologue_frame_sc (r : RState α) :
    (rosPrologue o cs s p kc timeStep r).sc.k = r.sc.k ∧
    (rosPrologue o cs s p kc timeStep r).sc.lower = r.sc.lower ∧
    (rosPrologue o cs s p kc timeStep r).sc.upper = r.sc.upper ∧
    (rosPrologue o cs s p kc timeStep r).sc.ynew = r.sc.ynew ∧
    (rosPrologue o cs s p kc timeStep r).sc.yerr = r.sc.yerr := by
  have h := rosPrologue_cases o cs s p kc timeStep r
  generalize rosPrologue o cs s p kc timeStep r = r' at h ⊢
  cases h <;> simp [startStep]

theorem rosAttempt_stage_equations (r : RState α) (hk : p.stages ≤ r.sc.k.size) (i : Nat)
    (hi : i < p.stages) :
    (rosAttempt o cs s p kc atol rtol hm r).sc.k.getD i #[] =
      s.linSolve (attFactor s p r).1 (attFactor s p r).2.1 (attFactor s p r).2.2
        (stageRhsOf p r.ctl.h (rosAttempt o cs s p kc atol rtol hm r).sc.k
          (stageForcing s p kc r.Y (r.sc.k.setIfInBounds 0 r.sc.f0)
            (rosAttempt o cs s p kc atol rtol hm r).sc.k i) i) := by
  rw [rosAttempt_k]
  unfold attStages
  exact stagesGo_equations s p kc r.Y _ _ _ r.ctl.h _ (by simpa using hk) _ _ i hi

/-- while inside a step, `initial_forcing` is the forcing at the current `Y` -/
def F0Inv (r : RState α) : Prop :=
  r.status = .running → r.inStep = true → ∃ B, r.sc.f0 = s.forcing kc r.Y (fillM B 0)

theorem F0Inv_prologue (r : RState α) (h : F0Inv s kc r) :
    F0Inv s kc (rosPrologue o cs s p kc timeStep r) :=
  rosPrologue_inv o cs s p kc timeStep (F0Inv s kc) r (fun _ hst _ h1 => absurd h1 hst)
    (fun _ _ _ _ _ _ _ => ⟨r.sc.f0, rfl⟩) h

theorem F0Inv_attempt (r : RState α) (hr : r.status = .running) (h : F0Inv s kc r) :
    F0Inv s kc (rosAttempt o cs s p kc atol rtol hm r) := by
  intro h1 h2
  rw [rosAttempt_inStep] at h2
  rcases rosAttempt_status_cases o cs s p kc atol rtol hm r hr with ⟨_, hd | hd⟩ | ⟨h3, _⟩ | ⟨h3, _⟩
  · simp [hd] at h2
  · simp only [hd, reduceCtorEq, if_false] at h2
    obtain ⟨B, hB⟩ := h hr h2
    exact ⟨B, by rw [rosAttempt_f0, rosAttempt_Y, if_pos hd, hB]⟩
  · rw [h3] at h1; cases h1
  · rw [h3] at h1; cases h1

end StagesAttempt

section More
variable {α : Type} [OfNat α 0] [OfNat α 1] [Add α] [Sub α] [Mul α] [Div α]
variable (o : Ops α) (cs : Consts α) (s : SolverCfg α) (p : RosParams α) (kc : Mat α)
    (atol : Array α) (rtol : α) (timeStep hm : α)

theorem rosStep_trace_sub (r : RState α) (a : Attempt α) (h : a ∈ r.trace) :
    a ∈ (rosStep o cs s p kc atol rtol timeStep hm r).trace := by
  rw [rosStep_trace]; split
  · exact List.mem_cons_of_mem _ h
  · exact h

def NoAccInv (Y0 : Mat α) (r : RState α) : Prop :=
  r.status ≠ .nanDetected → r.status ≠ .infDetected → (∀ a ∈ r.trace, a.accepted = false) → r.Y = Y0

theorem NoAccInv_step (Y0 : Mat α) (r : RState α) (hr : r.status = .running) (h : NoAccInv Y0 r) :
    NoAccInv Y0 (rosStep o cs s p kc atol rtol timeStep hm r) := by
  intro h1 h2 h3
  have h0 : r.Y = Y0 := h (by rw [hr]; simp) (by rw [hr]; simp)
    (fun a ha => h3 a (rosStep_trace_sub o cs s p kc atol rtol timeStep hm r a ha))
  rcases rosStep_Y o cs s p kc atol rtol timeStep hm r with hY | hn | hi | ⟨att, ht, ha⟩
  · rw [hY, h0]
  · exact absurd hn h1
  · exact absurd hi h2
  · have := h3 att (by rw [ht]; exact List.mem_cons_self)
    rw [ha] at this; cases this

theorem NoAccInv_loop (Y0 : Mat α) (fuel : Nat) (r : RState α) (h : NoAccInv Y0 r) :
    NoAccInv Y0 (rosLoop o cs s p kc atol rtol timeStep hm fuel r) :=
  rosLoop_inv o cs s p kc atol rtol timeStep hm (NoAccInv Y0)
    (fun r hr h => NoAccInv_step o cs s p kc atol rtol timeStep hm Y0 r hr h)
    (fun r hr h => fun _ _ h3 => h (by rw [hr]; simp) (by rw [hr]; simp) h3) fuel r h

/-- a time step below round-off: the very first loop test fails, nothing is attempted -/
theorem rosLoop_no_progress (fuel : Nat) (r : RState α) (hr : r.status = .running) (hi : r.inStep = false)
    (ht : o.le (r.ctl.t - timeStep + p.roundOff) 0 = false) :
    rosLoop o cs s p kc atol rtol timeStep hm (fuel + 1) r = { r with status := .converged } := by
  have hp : rosPrologue o cs s p kc timeStep r = { r with status := .converged } := by
    unfold rosPrologue; simp [hi, ht]
  rw [rosLoop_succ, if_pos hr, rosStep_no_attempt, hp, rosLoop_not_running] <;> simp [hp]

end More

section Shift
variable {K : Type} [Field K]

def bumpRow (Jr : Array K) (i : Nat) (a : K) : Array K := wr Jr i (rd Jr i + a)

def shiftRow (d : List Nat) (Jr : Array K) (a : K) : Array K := d.foldl (fun Jr i => bumpRow Jr i a) Jr

theorem alphaMinusJacobian_eq (s : SolverCfg K) (J : Mat K) (a : K) :
    s.alphaMinusJacobian J a = J.map fun Jr => shiftRow s.diag Jr a := rfl

theorem alphaMinusJacobian_getD (s : SolverCfg K) (J : Mat K) (a : K) (c : Nat) (hc : c < J.size) :
    (s.alphaMinusJacobian J a).getD c #[] = shiftRow s.diag (J.getD c #[]) a := by
  rw [alphaMinusJacobian_eq]; exact getD_map' _ J c hc #[] #[]

@[simp] theorem bumpRow_size (Jr : Array K) (i : Nat) (a : K) : (bumpRow Jr i a).size = Jr.size := by
  simp [bumpRow]

theorem rd_bumpRow (Jr : Array K) (i j : Nat) (a : K) :
    rd (bumpRow Jr i a) j = if i = j ∧ i < Jr.size then rd Jr i + a else rd Jr j := by
  simp [bumpRow, rd_wr]

theorem bumpRow_comm (Jr : Array K) (i j : Nat) (a b : K) :
    bumpRow (bumpRow Jr i a) j b = bumpRow (bumpRow Jr j b) i a := by
  apply arr_ext_rd (by simp)
  intro k _
  simp only [rd_bumpRow, bumpRow_size]
  by_cases hij : i = j
  · subst hij
    by_cases hk : i = k
    · subst hk
      by_cases hs : i < Jr.size <;> simp [hs, add_right_comm]
    · simp [hk]
  · have hji : ¬ j = i := fun h => hij h.symm
    by_cases hk : i = k
    · subst hk; simp [hji]
    · by_cases hk' : j = k
      · subst hk'; simp [hij]
      · simp [hk, hk']

theorem bumpRow_bumpRow (Jr : Array K) (i : Nat) (a b : K) :
    bumpRow (bumpRow Jr i a) i b = bumpRow Jr i (a + b) := by
  apply arr_ext_rd (by simp)
  intro k _
  simp only [rd_bumpRow, bumpRow_size]
  by_cases hk : i = k
  · subst hk
    by_cases hs : i < Jr.size <;> simp [hs, add_assoc]
  · simp [hk]

theorem bumpRow_zero (Jr : Array K) (i : Nat) : bumpRow Jr i 0 = Jr := by
  apply arr_ext_rd (by simp)
  intro k _
  simp only [rd_bumpRow]
  by_cases hk : i = k
  · subst hk; simp
  · simp [hk]

theorem shiftRow_cons (i : Nat) (d : List Nat) (Jr : Array K) (a : K) :
    shiftRow (i :: d) Jr a = shiftRow d (bumpRow Jr i a) a := rfl

theorem shiftRow_bumpRow (d : List Nat) (Jr : Array K) (i : Nat) (a b : K) :
    shiftRow d (bumpRow Jr i b) a = bumpRow (shiftRow d Jr a) i b := by
  induction d generalizing Jr with
  | nil => rfl
  | cons j d ih => rw [shiftRow_cons, shiftRow_cons, bumpRow_comm, ih]

/-- no `Nodup` and no range assumption on the diagonal list: out-of-range writes are dropped both times,
    duplicates shift twice both times -/
theorem shiftRow_shiftRow (d : List Nat) (Jr : Array K) (a b : K) :
    shiftRow d (shiftRow d Jr a) b = shiftRow d Jr (a + b) := by
  induction d generalizing Jr with
  | nil => rfl
  | cons i d ih =>
    rw [shiftRow_cons, shiftRow_cons, shiftRow_cons, ← shiftRow_bumpRow, bumpRow_bumpRow, ih]

theorem shiftRow_zero (d : List Nat) (Jr : Array K) : shiftRow d Jr 0 = Jr := by
  induction d generalizing Jr with
  | nil => rfl
  | cons i d ih => rw [shiftRow_cons, bumpRow_zero, ih]

theorem alphaMinusJacobian_add (s : SolverCfg K) (J : Mat K) (a b : K) :
    s.alphaMinusJacobian (s.alphaMinusJacobian J a) b = s.alphaMinusJacobian J (a + b) := by
  simp only [alphaMinusJacobian_eq, Array.map_map]
  congr 1; funext Jr
  exact shiftRow_shiftRow _ _ _ _

theorem alphaMinusJacobian_zero (s : SolverCfg K) (J : Mat K) : s.alphaMinusJacobian J 0 = J := by
  simp only [alphaMinusJacobian_eq, shiftRow_zero]
  simp

theorem shiftRow_size (d : List Nat) (Jr : Array K) (a : K) : (shiftRow d Jr a).size = Jr.size := by
  induction d generalizing Jr with
  | nil => rfl
  | cons i d ih => rw [shiftRow_cons, ih, bumpRow_size]

theorem rd_shiftRow (d : List Nat) (hd : d.Nodup) (Jr : Array K) (a : K) (j : Nat) :
    rd (shiftRow d Jr a) j = if j ∈ d ∧ j < Jr.size then rd Jr j + a else rd Jr j := by
  induction d generalizing Jr with
  | nil => simp [shiftRow]
  | cons i d ih =>
    obtain ⟨hi, hd'⟩ := List.nodup_cons.mp hd
    rw [shiftRow_cons, ih hd', bumpRow_size, rd_bumpRow]
    by_cases hij : i = j
    · subst hij
      by_cases hs : i < Jr.size <;> simp [hi, hs]
    · have : ¬ j = i := fun h => hij h.symm
      simp [hij, this]

theorem factor_fst_of_not_inPlace (s : SolverCfg K) (h : s.la.kind.inPlace = false) (J Lo Up : Mat K) :
    (s.factor J Lo Up).1 = J := by
  unfold SolverCfg.factor
  cases hk : s.la.kind <;> simp_all [LUKind.inPlace]

end Shift

section C05
variable {K : Type} [Field K]
variable (o : Ops K) (cs : Consts K) (s : SolverCfg K) (p : RosParams K) (kc : Mat K)
    (atol : Array K) (rtol : K) (timeStep hm : K)

/-- the negative Jacobian at `Y`; of `B` only the shape matters -/
def jac0 (Y B : Mat K) : Mat K := s.jacobian kc Y (fillM B 0)

/-- what `state.jacobian_` holds between the attempts of one step: for the separate-L/U variants the
    Jacobian of the step shifted by the total shift `lastAlpha` applied so far, for the in-place
    variants the freshly regenerated Jacobian -/
def JacHolds (r : RState K) (B : Mat K) : Prop :=
  r.sc.jac = if s.la.kind.inPlace then jac0 s kc r.Y B
             else s.alphaMinusJacobian (jac0 s kc r.Y B) r.lastAlpha

def ShiftInv (r : RState K) : Prop :=
  r.status = .running → r.inStep = true → ∃ B, JacHolds s kc r B

/-- the matrix handed to `Factor` is `J0` shifted by exactly `1/(h γ)`, whatever was applied before -/
theorem attMatrix_of_JacHolds (r : RState K) (B : Mat K) (hj : JacHolds s kc r B) :
    attMatrix s p r = s.alphaMinusJacobian (jac0 s kc r.Y B) (1 / (r.ctl.h * p.gamma0)) := by
  unfold JacHolds at hj
  unfold attMatrix attAlpha attAlpha0
  rw [hj]
  cases hip : s.la.kind.inPlace
  · simp only [Bool.false_eq_true, if_false]
    rw [alphaMinusJacobian_add, add_sub_cancel]
  · simp only [if_true]

theorem JacHolds_startStep (r : RState K) :
    JacHolds s kc (startStep o s kc timeStep r) r.sc.jac := by
  unfold JacHolds startStep jac0
  cases hip : s.la.kind.inPlace
  · simp only [Bool.false_eq_true, if_false]; rw [alphaMinusJacobian_zero]
  · simp only [if_true]

theorem ShiftInv_prologue (r : RState K) (h : ShiftInv s kc r) :
    ShiftInv s kc (rosPrologue o cs s p kc timeStep r) :=
  rosPrologue_inv o cs s p kc timeStep (ShiftInv s kc) r (fun _ hst _ h1 => absurd h1 hst)
    (fun _ _ _ _ _ _ _ => ⟨_, JacHolds_startStep o s kc timeStep r⟩) h

theorem ShiftInv_attempt (r : RState K) (hr : r.status = .running) (h : ShiftInv s kc r) :
    ShiftInv s kc (rosAttempt o cs s p kc atol rtol hm r) := by
  intro h1 h2
  rw [rosAttempt_inStep] at h2
  rcases rosAttempt_status_cases o cs s p kc atol rtol hm r hr with ⟨_, hd | hd⟩ | ⟨h3, _⟩ | ⟨h3, _⟩
  · simp [hd] at h2
  · simp only [hd, reduceCtorEq, if_false] at h2
    obtain ⟨B, hB⟩ := h hr h2
    have hm := attMatrix_of_JacHolds s p kc r B hB
    unfold JacHolds at hB ⊢
    rw [rosAttempt_jac, rosAttempt_Y, rosAttempt_lastAlpha, if_pos hd]
    cases hip : s.la.kind.inPlace
    · refine ⟨B, ?_⟩
      simp only [hd, Bool.false_eq_true, and_false, if_false]
      unfold attFactor
      rw [factor_fst_of_not_inPlace s hip, hm]
      simp [attLastAlpha, hip, attAlpha0]
    · exact ⟨(attFactor s p r).1, by simp [hd, jac0]⟩
  · rw [h3] at h1; cases h1
  · rw [h3] at h1; cases h1

/-- C05: the matrix of an attempt is `(1/(hγ))·I − J(Y)` for the recorded `h` and some `Y` -/
def Genuine (att : Attempt K) : Prop :=
  ∃ Y B, att.matrix = s.alphaMinusJacobian (jac0 s kc Y B) (1 / (att.h * p.gamma0))

theorem C05_step (r : RState K) (hr : r.status = .running) (hinv : ShiftInv s kc r) (att : Attempt K)
    (h : (rosStep o cs s p kc atol rtol timeStep hm r).trace = att :: r.trace) :
    ∃ B, att.matrix = s.alphaMinusJacobian (s.jacobian kc r.Y (fillM B 0)) (1 / (att.h * p.gamma0)) ∧
         (r.inStep = false → B = r.sc.jac) := by
  obtain ⟨hs, rfl⟩ := rosStep_trace_cons o cs s p kc atol rtol timeStep hm r att h
  have hc := rosPrologue_cases o cs s p kc timeStep r
  generalize rosPrologue o cs s p kc timeStep r = r' at hc hs ⊢
  cases hc with
  | inStep hi =>
    obtain ⟨B, hB⟩ := hinv hr hi
    exact ⟨B, attMatrix_of_JacHolds s p kc r B hB, by simp [hi]⟩
  | converged => cases hs
  | maxSteps => cases hs
  | tooSmall => cases hs
  | start =>
    exact ⟨r.sc.jac, attMatrix_of_JacHolds s p kc _ _ (JacHolds_startStep o s kc timeStep r), fun _ => rfl⟩

def C05Inv (r : RState K) : Prop := ShiftInv s kc r ∧ ∀ att ∈ r.trace, Genuine s p kc att

theorem C05Inv_step (r : RState K) (hr : r.status = .running) (h : C05Inv s p kc r) :
    C05Inv s p kc (rosStep o cs s p kc atol rtol timeStep hm r) := by
  refine ⟨?_, ?_⟩
  · exact rosStep_inv o cs s p kc atol rtol timeStep hm (ShiftInv s kc) r
      (ShiftInv_prologue o cs s p kc timeStep r)
      (fun r' h1 _ => ShiftInv_attempt o cs s p kc atol rtol hm r' h1) h.1
  · intro att hatt
    rw [rosStep_trace] at hatt
    split at hatt
    · rcases List.mem_cons.mp hatt with h1 | h1
      · have h2 : (rosStep o cs s p kc atol rtol timeStep hm r).trace = att :: r.trace := by
          rw [rosStep_trace, if_pos ‹_›, h1]
        obtain ⟨B, hB, _⟩ := C05_step o cs s p kc atol rtol timeStep hm r hr h.1 att h2
        exact ⟨r.Y, B, hB⟩
      · exact h.2 att h1
    · exact h.2 att hatt

theorem C05Inv_loop (fuel : Nat) (r : RState K) (h : C05Inv s p kc r) :
    C05Inv s p kc (rosLoop o cs s p kc atol rtol timeStep hm fuel r) :=
  rosLoop_inv o cs s p kc atol rtol timeStep hm (C05Inv s p kc)
    (fun r hr h => C05Inv_step o cs s p kc atol rtol timeStep hm r hr h)
    (fun _ _ h => ⟨fun h1 => (by cases h1), h.2⟩) fuel r h

theorem C05Inv_init (h : K) (Y : Mat K) (sc : Scratch K) : C05Inv s p kc (rosInit h Y sc) :=
  ⟨fun _ h2 => (by cases h2), fun _ h => (by cases h)⟩

end C05

namespace Ex

/-- one species `A`, one reaction `A → ∅` -/
def tables : PSTables ℚ :=
  { nReact := [1], reactIds := [0], nProd := [0], jInfo := [⟨0, 0, 0, 0⟩] }

def cfg (kind : LUKind) : SolverCfg ℚ :=
  { nSpecies := 1, L := 0, tables := tables, flatIds := [0],
    la := LinAlg.build kind (Pattern.mk' 1 false 0 [(0, 0)]), diag := [0] }

def scratch : Scratch ℚ :=
  { jac := #[#[0]], lower := #[#[0]], upper := #[#[0]], ynew := #[#[0]], f0 := #[#[0]],
    k := #[#[#[0]]], yerr := #[#[0]] }

/-- a one-stage (linearly implicit Euler) table with `γ = 1/2` and round controller numbers -/
def params : RosParams ℚ :=
  { stages := 1, a := #[], c := #[], m := #[1], e := #[1], gamma0 := 1/2, newF := #[true], order := 1,
    roundOff := 1/1000000000000000, fmin := 1/5, fmax := 6, rejDec := 1/10, safety := 9/10,
    hmin := 0, hmax := 0, hstart := 1000, maxSteps := 1000 }

def consts : Consts ℚ := { deltaMin := 1/1000000, errorMin := 1/10000000000, tenth := 1/10, ten := 10 }

/-- `y' = -y`, `y(0) = 1`, `atol = rtol = 1/10`, time step `T`, first `H = min 1000 T`:
    for `T = 1000` the attempts use `H = 1000, 200, 40, 4, 2/5` (four rejections, then an acceptance) -/
def run (kind : LUKind) (T : ℚ) (fuel : Nat) : SolveResult ℚ :=
  rosSolve ratOps consts (cfg kind) params #[#[1]] #[1/10] (1/10) T #[#[1]] scratch fuel

end Ex

end Micm
