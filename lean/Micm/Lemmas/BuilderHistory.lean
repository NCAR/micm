/-
For C20: a rejected setter call changes nothing in the `State` store machine of
`Micm/Model/History.lean`.
-/
import Micm.Model.History
namespace Micm

def HOp.isBadSet {σ : Type} : HOp σ → Bool
  | .badSet _ _ => true
  | _ => false

section
variable {σ ρ : Type} (clone : Bool) (kind : TempKind) (fresh : σ) (solveF : σ → σ × ρ)

theorem hRun_nil (st : HStore σ) : hRun clone kind fresh solveF st [] = (st, []) := rfl

theorem hRun_cons (st : HStore σ) (op : HOp σ) (ops : List (HOp σ)) :
    hRun clone kind fresh solveF st (op :: ops) =
      ((hRun clone kind fresh solveF (hStep clone kind fresh solveF st op).1 ops).1,
       (hStep clone kind fresh solveF st op).2 :: (hRun clone kind fresh solveF (hStep clone kind fresh solveF st op).1 ops).2) := by
  rw [hRun]

theorem hRun_length (st : HStore σ) (ops : List (HOp σ)) :
    (hRun clone kind fresh solveF st ops).2.length = ops.length := by
  induction ops generalizing st with
  | nil => rfl
  | cons op ops ih => rw [hRun_cons]; simp [ih]

theorem hStep_badSet_fst (st : HStore σ) (s code : Nat) :
    (hStep clone kind fresh solveF st (.badSet s code)).1 = st := by
  simp only [hStep]
  cases st s <;> rfl

theorem hStep_isBadSet_fst (st : HStore σ) (op : HOp σ) (h : op.isBadSet = true) :
    (hStep clone kind fresh solveF st op).1 = st := by
  cases op with
  | badSet s code => exact hStep_badSet_fst clone kind fresh solveF st s code
  | _ => cases h

/-- deleting the rejected calls changes neither the final store nor the outputs of the other calls -/
theorem hRun_filter_badSet (st : HStore σ) (ops : List (HOp σ)) :
    hRun clone kind fresh solveF st (ops.filter fun op => !op.isBadSet) =
      ((hRun clone kind fresh solveF st ops).1,
       ((ops.zip (hRun clone kind fresh solveF st ops).2).filter fun p => !p.1.isBadSet).map (·.2)) := by
  induction ops generalizing st with
  | nil => rfl
  | cons op ops ih =>
    rw [hRun_cons (ops := ops), List.filter_cons, List.zip_cons_cons, List.filter_cons]
    cases hb : op.isBadSet with
    | true =>
      simp only [Bool.not_true, Bool.false_eq_true, if_false]
      rw [hStep_isBadSet_fst clone kind fresh solveF st op hb]
      exact ih st
    | false =>
      simp only [Bool.not_false, if_true]
      rw [hRun_cons, ih]
      rfl
end
end Micm
