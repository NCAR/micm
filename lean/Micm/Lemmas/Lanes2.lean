/-
Lemmas for C13, second part (Jacobian, Doolittle LU and linear solve of
`Micm/Model/FlatKernels2.lean`): one group of `jacVecGo`, `doolittleVecGroup`, `solveVecGroup`, seen
through one lane, is the per-cell kernel `jacGo`, `doolittleCell`, `solveCell`, and it writes only its
own lanes.  The range predicates on the tables (`DRow.InRange`, `SubRow.InRange`) say that every
element rank is inside its pattern.  Method: `Micm/Lemmas/LaneView.lean`.
-/
import Micm.Model.FlatKernels2
import Micm.Lemmas.Lanes
namespace Micm

section Jac
variable {α : Type} [OfNat α 0] [Add α] [Sub α] [Mul α]

theorem jacVecEntry_view (L m : Nat) (hm : m < L) (K Y y : Array α) (offK offY offJ nS nnz : Nat)
    (hY : Reads nS (fun j => offY + j * L + m) Y y)
    (pid : Nat) (deps : List Nat) (hd : ∀ i ∈ deps, i < nS)
    (flatA : List Nat) (flatB : List (Nat × α)) (hA : ∀ f ∈ flatA, f < nnz) (hB : ∀ b ∈ flatB, b.1 < nnz)
    (J j : Array α) (h : View nnz (fun q => offJ + q * L + m) J j) :
    View nnz (fun q => offJ + q * L + m) (jacVecEntry L K Y offK offY offJ pid deps flatA flatB J)
      (flatB.foldl (fun J p => wr J p.1 (rd J p.1 - p.2 *
          deps.foldl (fun acc i => acc * rd y i) (rd K (offK + pid * L + m))))
        (flatA.foldl (fun J id => wr J id (rd J id +
          deps.foldl (fun acc i => acc * rd y i) (rd K (offK + pid * L + m)))) j)) := by
  unfold jacVecEntry
  simp only [lanesDo]
  have e : rd ((List.range L).map fun l => rd K (offK + pid * L + l)).toArray m
      = rd K (offK + pid * L + m) := rd_map_range _ _ _ hm
  rw [← foldl_rate_congr hY deps hd, ← e, ← rate_fold L Y offY deps _ m hm (by simp)]
  refine View.foldl _ _ flatB (fun p hp X x hX => ?_) (View.foldl _ _ flatA (fun f hf X x hX => ?_) h)
  · refine View.lanes_step L L m offJ hm (Nat.le_refl L) p.1 (hB p hp)
      (fun J l => rd J (offJ + p.1 * L + l) - p.2 * rd _ l) (fun j => rd j p.1 - p.2 * rd _ m) ?_ hX
    intro F f hF
    rw [hF.val p.1 (hB p hp)]
  · refine View.lanes_step L L m offJ hm (Nat.le_refl L) f (hA f hf)
      (fun J l => rd J (offJ + f * L + l) + rd _ l) (fun j => rd j f + rd _ m) ?_ hX
    intro F f' hF
    rw [hF.val f (hA f hf)]

theorem jacVecEntry_keeps (S : Nat → Prop) (L : Nat) (K Y : Array α) (offK offY offJ pid : Nat)
    (deps flatA : List Nat) (flatB : List (Nat × α)) (J : Array α) (hA : ∀ f ∈ flatA, S f)
    (hB : ∀ b ∈ flatB, S b.1) :
    Keeps S L L offJ J (jacVecEntry L K Y offK offY offJ pid deps flatA flatB J) := by
  unfold jacVecEntry
  simp only
  exact (Keeps.foldl _ flatA (fun f hf X => Keeps.lanes S L L offJ f (hA f hf) _ X) J).trans
    (Keeps.foldl _ flatB (fun p hp X => Keeps.lanes S L L offJ p.1 (hB p hp) _ X) _)

theorem jacVecGo_view (L m : Nat) (hm : m < L) (K Y k y : Array α) (offK offY offJ nR nS nnz : Nat)
    (hK : Reads nR (fun q => offK + q * L + m) K k)
    (hY : Reads nS (fun j => offY + j * L + m) Y y)
    (infos : List ProcessInfo) (jr : List Nat) (jy : List α) (flat : List Nat)
    (hpid : ∀ info ∈ infos, info.pid < nR) (hjr : ∀ i ∈ jr, i < nS) (hflat : ∀ f ∈ flat, f < nnz)
    (J j : Array α) (h : View nnz (fun q => offJ + q * L + m) J j) :
    View nnz (fun q => offJ + q * L + m) (jacVecGo L K Y offK offY offJ infos jr jy flat J)
      (jacGo k y infos jr jy flat j) := by
  induction infos generalizing jr jy flat J j with
  | nil => simp only [jacVecGo, jacGo]; exact h
  | cons info infos ih =>
    simp only [jacVecGo, jacGo]
    apply ih
    · exact fun i hi => hpid i (List.mem_cons_of_mem _ hi)
    · exact fun i hi => hjr i (List.mem_of_mem_drop hi)
    · exact fun i hi => hflat i (List.mem_of_mem_drop (List.mem_of_mem_drop hi))
    · have hv := jacVecEntry_view L m hm K Y y offK offY offJ nS nnz hY info.pid (jr.take info.nDep)
        (fun i hi => hjr i (List.mem_of_mem_take hi)) (flat.take (info.nDep + 1))
        (((flat.drop (info.nDep + 1)).take info.nProd).zip (jy.take info.nProd))
        (fun i hi => hflat i (List.mem_of_mem_take hi))
        (zip_take_fst_lt (fun i hi => hflat i (List.mem_of_mem_drop hi))) J j h
      rw [hK _ (hpid info List.mem_cons_self)] at hv
      exact hv

theorem jacVecGo_keeps (S : Nat → Prop) (L : Nat) (K Y : Array α) (offK offY offJ : Nat)
    (infos : List ProcessInfo) (jr : List Nat) (jy : List α) (flat : List Nat) (J : Array α)
    (hflat : ∀ f ∈ flat, S f) :
    Keeps S L L offJ J (jacVecGo L K Y offK offY offJ infos jr jy flat J) := by
  induction infos generalizing jr jy flat J with
  | nil => simp only [jacVecGo]; exact Keeps.refl ..
  | cons info infos ih =>
    simp only [jacVecGo]
    exact (jacVecEntry_keeps S L K Y offK offY offJ info.pid _ _ _ J
        (fun i hi => hflat i (List.mem_of_mem_take hi))
        (fun b hb => hflat _ (List.mem_of_mem_drop
          (List.mem_of_mem_take (List.of_mem_zip (a := b.1) (b := b.2) hb).1)))).trans
      (ih _ _ _ _ (fun i hi => hflat i (List.mem_of_mem_drop (List.mem_of_mem_drop hi))))

end Jac

def DEntry.InRange (e : DEntry) (nnzA nnzT nnzL nnzU : Nat) : Prop :=
  (∀ a, e.a = some a → a < nnzA) ∧ e.t < nnzT ∧ ∀ p ∈ e.pairs, p.1 < nnzL ∧ p.2 < nnzU

def DRow.InRange (r : DRow) (nnzA nnzL nnzU : Nat) : Prop :=
  (∀ e ∈ r.u, e.InRange nnzA nnzU nnzL nnzU) ∧ r.lii < nnzL ∧
  (∀ e ∈ r.l, e.InRange nnzA nnzL nnzL nnzU) ∧ r.uii < nnzU

instance (e : DEntry) (nnzA nnzT nnzL nnzU : Nat) : Decidable (e.InRange nnzA nnzT nnzL nnzU) := by
  unfold DEntry.InRange
  cases h : e.a with
  | none => exact decidable_of_iff (e.t < nnzT ∧ ∀ p ∈ e.pairs, p.1 < nnzL ∧ p.2 < nnzU) (by simp)
  | some a => exact decidable_of_iff (a < nnzA ∧ e.t < nnzT ∧ ∀ p ∈ e.pairs, p.1 < nnzL ∧ p.2 < nnzU) (by simp)

instance (r : DRow) (nnzA nnzL nnzU : Nat) : Decidable (r.InRange nnzA nnzL nnzU) := by
  unfold DRow.InRange; infer_instance

section Doolittle
variable {α : Type} [OfNat α 0] [OfNat α 1] [Sub α] [Mul α] [Div α]

theorem doolittleVecGroup_view (L nc m : Nat) (hm : m < nc) (hnc : nc ≤ L) (rows : List DRow)
    (nnzA nnzL nnzU : Nat) (hrows : ∀ r ∈ rows, r.InRange nnzA nnzL nnzU)
    (A a : Array α) (offA offL offU : Nat) (hA : Reads nnzA (fun k => offA + k * L + m) A a)
    (S s : Array α × Array α)
    (h : View nnzL (fun j => offL + j * L + m) S.1 s.1 ∧ View nnzU (fun j => offU + j * L + m) S.2 s.2) :
    View nnzL (fun j => offL + j * L + m) (doolittleVecGroup L nc rows A offA offL offU S).1
        (doolittleCell rows a s).1 ∧
    View nnzU (fun j => offU + j * L + m) (doolittleVecGroup L nc rows A offA offL offU S).2
        (doolittleCell rows a s).2 := by
  unfold doolittleVecGroup doolittleCell
  refine foldl_rel (fun (S s : Array α × Array α) =>
    View nnzL (fun j => offL + j * L + m) S.1 s.1 ∧ View nnzU (fun j => offU + j * L + m) S.2 s.2)
    _ _ rows ?_ h
  intro r hr X x ⟨hXL, hXU⟩
  obtain ⟨hu, hlii, hl, huii⟩ := hrows r hr
  simp only
  -- first `U` (its loop reads `L` as it was before the row), then `L`, whose loop reads the new `U`
  refine and_of_right (View.foldl _ _ r.u (fun e he Y y hY => ?_) hXU) (fun hU' => ?_)
  · obtain ⟨hea, het, hep⟩ := hu e he
    refine View.foldl _ _ e.pairs (fun p hp Z z hZ => ?_) ?_
    · refine View.lanes_step L nc m offU hm hnc e.t het
        (fun U l => rd U (offU + e.t * L + l) - rd X.1 (offL + p.1 * L + l) * rd U (offU + p.2 * L + l))
        (fun u => rd u e.t - rd x.1 p.1 * rd u p.2) ?_ hZ
      intro F f hF
      rw [hF.val e.t het, hF.val p.2 (hep p hp).2, hXL.val p.1 (hep p hp).1]
    · refine View.lanes_step L nc m offU hm hnc e.t het _ (fun _ => _) ?_ hY
      intro _ _ _
      cases hea' : e.a with
      | none => rfl
      | some a0 => exact hA a0 (hea a0 hea')
  · refine View.foldl _ _ r.l (fun e he Y y hY => ?_)
      (View.lanes_step L nc m offL hm hnc r.lii hlii (fun _ _ => 1) (fun _ => 1) (fun _ _ _ => rfl) hXL)
    obtain ⟨hea, het, hep⟩ := hl e he
    refine View.lanes_step L nc m offL hm hnc e.t het
      (fun Lo l => rd Lo (offL + e.t * L + l) / rd _ (offU + r.uii * L + l))
      (fun lo => rd lo e.t / rd _ r.uii) ?_ ?_
    · intro F f hF
      rw [hF.val e.t het, hU'.val r.uii huii]
    refine View.foldl _ _ e.pairs (fun p hp Z z hZ => ?_) ?_
    · refine View.lanes_step L nc m offL hm hnc e.t het
        (fun Lo l => rd Lo (offL + e.t * L + l) - rd Lo (offL + p.1 * L + l) * rd _ (offU + p.2 * L + l))
        (fun lo => rd lo e.t - rd lo p.1 * rd _ p.2) ?_ hZ
      intro F f hF
      rw [hF.val e.t het, hF.val p.1 (hep p hp).1, hU'.val p.2 (hep p hp).2]
    · refine View.lanes_step L nc m offL hm hnc e.t het _ (fun _ => _) ?_ hY
      intro _ _ _
      cases hea' : e.a with
      | none => rfl
      | some a0 => exact hA a0 (hea a0 hea')

theorem doolittleVecGroup_keeps (L nc : Nat) (rows : List DRow) (nnzA nnzL nnzU : Nat)
    (hrows : ∀ r ∈ rows, r.InRange nnzA nnzL nnzU) (A : Array α) (offA offL offU : Nat)
    (S : Array α × Array α) :
    Keeps₂ (· < nnzL) (· < nnzU) nc L offL offU S (doolittleVecGroup L nc rows A offA offL offU S) := by
  unfold doolittleVecGroup
  refine Keeps₂.foldl _ rows (fun r hr X => ?_) S
  obtain ⟨hu, hlii, hl, _⟩ := hrows r hr
  simp only
  constructor
  · refine (Keeps.lanes _ nc L offL r.lii hlii _ X.1).trans (Keeps.foldl _ r.l (fun e he Y => ?_) _)
    have het := (hl e he).2.1
    exact ((Keeps.lanes _ nc L offL e.t het _ Y).trans
      (Keeps.foldl _ e.pairs (fun p _ Z => Keeps.lanes _ nc L offL e.t het _ Z) _)).trans
      (Keeps.lanes _ nc L offL e.t het _ _)
  · refine Keeps.foldl _ r.u (fun e he Y => ?_) X.2
    have het := (hu e he).2.1
    exact (Keeps.lanes _ nc L offU e.t het _ Y).trans
      (Keeps.foldl _ e.pairs (fun p _ Z => Keeps.lanes _ nc L offU e.t het _ Z) _)

end Doolittle

def SubRow.InRange (r : SubRow) (nnz n : Nat) : Prop :=
  r.diag < nnz ∧ ∀ p ∈ r.pairs, p.1 < nnz ∧ p.2 < n

instance (r : SubRow) (nnz n : Nat) : Decidable (r.InRange nnz n) := by
  unfold SubRow.InRange; infer_instance

section Solve
variable {α : Type} [OfNat α 0] [Sub α] [Mul α] [Div α]

/-- the elimination loop of one row of a substitution pass (row index `i`, matrix `M`) for a group -/
def elimRowFlat (L : Nat) (M : Array α) (offX offM : Nat) (r : SubRow) (i : Nat) (x : Array α) : Array α :=
  r.pairs.foldl (fun x p => lanesDo L (fun x l =>
    wr x (offX + i * L + l) (rd x (offX + i * L + l) - rd M (offM + p.1 * L + l) * rd x (offX + p.2 * L + l))) x) x

def elimRowCell (M : Array α) (r : SubRow) (i : Nat) (x : Array α) : Array α :=
  r.pairs.foldl (fun x p => wr x i (rd x i - rd M p.1 * rd x p.2)) x

def subRowFlat (L : Nat) (M : Array α) (offX offM : Nat) (r : SubRow) (i : Nat) (x : Array α) : Array α :=
  lanesDo L (fun x l => wr x (offX + i * L + l) (rd x (offX + i * L + l) / rd M (offM + r.diag * L + l)))
    (elimRowFlat L M offX offM r i x)

def subRowCell (M : Array α) (r : SubRow) (i : Nat) (x : Array α) : Array α :=
  wr (elimRowCell M r i x) i (rd (elimRowCell M r i x) i / rd M r.diag)

def subPass (row : SubRow → Nat → Array α → Array α) (next : Nat → Nat) (rows : List SubRow)
    (s : Array α × Nat) : Array α × Nat :=
  rows.foldl (fun s r => (row r s.2 s.1, next s.2)) s

theorem solveVecGroup_eq_subPass (L n : Nat) (fw bw : List SubRow) (Lo Up : Array α) (offX offL offU : Nat)
    (x : Array α) :
    solveVecGroup L n fw bw Lo Up offX offL offU x =
      (subPass (subRowFlat L Up offX offU) (fun i => if i = 0 then 0 else i - 1) bw
        ((subPass (subRowFlat L Lo offX offL) (fun i => i + 1) fw (x, 0)).1, n - 1)).1 := rfl

theorem solveCell_eq_subPass (fw bw : List SubRow) (Lo Up x : Array α) :
    solveCell fw bw Lo Up x =
      (subPass (subRowCell Up) (fun i => if i = 0 then 0 else i - 1) bw
        ((subPass (subRowCell Lo) (fun i => i + 1) fw (x, 0)).1,
          (subPass (subRowCell Lo) (fun i => i + 1) fw (x, 0)).1.size - 1)).1 := rfl

omit [Div α] in
theorem elimRowFlat_view (L m : Nat) (hm : m < L) (n nnz : Nat) (M mm : Array α) (offX offM : Nat)
    (hM : Reads nnz (fun k => offM + k * L + m) M mm) (r : SubRow)
    (hr : ∀ p ∈ r.pairs, p.1 < nnz ∧ p.2 < n) (i : Nat) (hi : i < n) (X x : Array α)
    (h : View n (fun j => offX + j * L + m) X x) :
    View n (fun j => offX + j * L + m) (elimRowFlat L M offX offM r i X) (elimRowCell mm r i x) := by
  unfold elimRowFlat elimRowCell
  refine View.foldl _ _ r.pairs (fun p hp X x hX => ?_) h
  refine View.lanes_step L L m offX hm (Nat.le_refl _) i hi
    (fun x l => rd x (offX + i * L + l) - rd M (offM + p.1 * L + l) * rd x (offX + p.2 * L + l))
    (fun x => rd x i - rd mm p.1 * rd x p.2) ?_ hX
  intro F f hF
  rw [hF.val i hi, hF.val p.2 (hr p hp).2, hM p.1 (hr p hp).1]

theorem subRowFlat_view (L m : Nat) (hm : m < L) (n nnz : Nat) (M mm : Array α) (offX offM : Nat)
    (hM : Reads nnz (fun k => offM + k * L + m) M mm) (r : SubRow) (hr : r.InRange nnz n)
    (i : Nat) (hi : i < n) (X x : Array α) (h : View n (fun j => offX + j * L + m) X x) :
    View n (fun j => offX + j * L + m) (subRowFlat L M offX offM r i X) (subRowCell mm r i x) := by
  unfold subRowFlat subRowCell
  refine View.lanes_step L L m offX hm (Nat.le_refl _) i hi
    (fun x l => rd x (offX + i * L + l) / rd M (offM + r.diag * L + l))
    (fun x => rd x i / rd mm r.diag) ?_ (elimRowFlat_view L m hm n nnz M mm offX offM hM r hr.2 i hi X x h)
  intro F f hF
  rw [hF.val i hi, hM r.diag hr.1]

omit [Div α] in
theorem elimRowFlat_keeps (L n : Nat) (M : Array α) (offX offM : Nat) (r : SubRow) (i : Nat) (hi : i < n)
    (X : Array α) : Keeps (· < n) L L offX X (elimRowFlat L M offX offM r i X) :=
  Keeps.foldl _ r.pairs (fun _ _ Y => Keeps.lanes _ L L offX i hi _ Y) X

theorem subRowFlat_keeps (L n : Nat) (M : Array α) (offX offM : Nat) (r : SubRow) (i : Nat) (hi : i < n)
    (X : Array α) : Keeps (· < n) L L offX X (subRowFlat L M offX offM r i X) :=
  (elimRowFlat_keeps L n M offX offM r i hi X).trans (Keeps.lanes _ L L offX i hi _ _)

omit [Sub α] [Mul α] [Div α] in
/-- `Q i k` (index `i` with `k` rows still to do) keeps the row index inside `[0, n)` -/
theorem subPass_view {n : Nat} (p : Nat → Nat) (R : SubRow → Prop)
    (rowF rowC : SubRow → Nat → Array α → Array α)
    (hrow : ∀ r i, R r → i < n → ∀ X x, View n p X x → View n p (rowF r i X) (rowC r i x))
    (next : Nat → Nat) (Q : Nat → Nat → Prop) (hQ : ∀ i k, Q i (k + 1) → i < n ∧ Q (next i) k)
    (rows : List SubRow) (hrows : ∀ r ∈ rows, R r) (X x : Array α) (i : Nat)
    (hi : Q i rows.length) (h : View n p X x) :
    View n p (subPass rowF next rows (X, i)).1 (subPass rowC next rows (x, i)).1 := by
  induction rows generalizing X x i with
  | nil => exact h
  | cons r rows ih =>
    obtain ⟨hi', hq⟩ := hQ i rows.length hi
    show View n p (subPass rowF next rows (rowF r i X, next i)).1 (subPass rowC next rows (rowC r i x, next i)).1
    exact ih (fun r' hr' => hrows r' (List.mem_cons_of_mem _ hr')) _ _ _ hq
      (hrow r i (hrows r List.mem_cons_self) hi' X x h)

omit [Sub α] [Mul α] [Div α] in
theorem subPass_keeps {n L offX : Nat} (rowF : SubRow → Nat → Array α → Array α)
    (hrow : ∀ r i, i < n → ∀ X, Keeps (· < n) L L offX X (rowF r i X))
    (next : Nat → Nat) (Q : Nat → Nat → Prop) (hQ : ∀ i k, Q i (k + 1) → i < n ∧ Q (next i) k)
    (rows : List SubRow) (X : Array α) (i : Nat) (hi : Q i rows.length) :
    Keeps (· < n) L L offX X (subPass rowF next rows (X, i)).1 := by
  induction rows generalizing X i with
  | nil => exact Keeps.refl ..
  | cons r rows ih =>
    obtain ⟨hi', hq⟩ := hQ i rows.length hi
    show Keeps (· < n) L L offX X (subPass rowF next rows (rowF r i X, next i)).1
    exact (hrow r i hi' X).trans (ih _ _ hq)

/-- the forward row index `0, 1, …` stays below `n` while rows remain -/
theorem fwIndex_ok (n : Nat) (i k : Nat) (h : i + (k + 1) ≤ n) : i < n ∧ i + 1 + k ≤ n := by omega

/-- the backward row index `n-1, n-2, …` (saturating at 0) stays below `n` while rows remain -/
theorem bwIndex_ok (n : Nat) (i k : Nat) (h : k + 1 = 0 ∨ i < n) :
    i < n ∧ (k = 0 ∨ (if i = 0 then 0 else i - 1) < n) := by
  have hi : i < n := by omega
  refine ⟨hi, Or.inr ?_⟩
  split <;> omega

theorem solveVecGroup_view (L m : Nat) (hm : m < L) (n nnzL nnzU : Nat) (fw bw : List SubRow)
    (hfw : ∀ r ∈ fw, r.InRange nnzL n) (hbw : ∀ r ∈ bw, r.InRange nnzU n)
    (hfwl : fw.length ≤ n) (hbwl : bw.length ≤ n)
    (Lo Up lo up : Array α) (offX offL offU : Nat)
    (hLo : Reads nnzL (fun k => offL + k * L + m) Lo lo)
    (hUp : Reads nnzU (fun k => offU + k * L + m) Up up)
    (X x : Array α) (h : View n (fun j => offX + j * L + m) X x) :
    View n (fun j => offX + j * L + m) (solveVecGroup L n fw bw Lo Up offX offL offU X)
      (solveCell fw bw lo up x) := by
  rw [solveVecGroup_eq_subPass, solveCell_eq_subPass]
  have h1 := subPass_view (fun j => offX + j * L + m) (fun r : SubRow => r.InRange nnzL n)
    (subRowFlat L Lo offX offL) (subRowCell lo)
    (fun r i hr hi X x hX => subRowFlat_view L m hm n nnzL Lo lo offX offL hLo r hr i hi X x hX)
    (fun i => i + 1) (fun i k => i + k ≤ n) (fwIndex_ok n) fw hfw X x 0 (by omega) h
  rw [h1.size]
  exact subPass_view (fun j => offX + j * L + m) (fun r : SubRow => r.InRange nnzU n)
    (subRowFlat L Up offX offU) (subRowCell up)
    (fun r i hr hi X x hX => subRowFlat_view L m hm n nnzU Up up offX offU hUp r hr i hi X x hX)
    (fun i => if i = 0 then 0 else i - 1) (fun i k => k = 0 ∨ i < n) (bwIndex_ok n) bw hbw _ _ (n - 1)
    (by omega) h1

theorem solveVecGroup_keeps (L n : Nat) (fw bw : List SubRow) (hfwl : fw.length ≤ n) (hbwl : bw.length ≤ n)
    (Lo Up : Array α) (offX offL offU : Nat) (X : Array α) :
    Keeps (· < n) L L offX X (solveVecGroup L n fw bw Lo Up offX offL offU X) := by
  rw [solveVecGroup_eq_subPass]
  exact (subPass_keeps (subRowFlat L Lo offX offL) (fun r i hi X => subRowFlat_keeps L n Lo offX offL r i hi X)
      (fun i => i + 1) (fun i k => i + k ≤ n) (fwIndex_ok n) fw X 0 (by omega)).trans
    (subPass_keeps (subRowFlat L Up offX offU) (fun r i hi X => subRowFlat_keeps L n Up offX offU r i hi X)
      (fun i => if i = 0 then 0 else i - 1) (fun i k => k = 0 ∨ i < n) (bwIndex_ok n) bw _ (n - 1) (by omega))

end Solve

end Micm
