/-
The kernels are loops `l.foldl step a` over an array.  What every step keeps, the loop keeps
(`foldl_inv`; `foldl_rel` for two loops run side by side).  For an array this gives the frame facts
every kernel proof starts from: the size stays, a slot that no step writes keeps its content, and a
property of a slot's content that every read-modify-write preserves stays.  Core Lean only.
-/
import Micm.Model.Basic
namespace Micm

section Folds
variable {σ τ β : Type}

theorem foldl_rel (P : σ → τ → Prop) (S : σ → β → σ) (s : τ → β → τ) (bs : List β)
    (h : ∀ b ∈ bs, ∀ X x, P X x → P (S X b) (s x b)) {X : σ} {x : τ} (h0 : P X x) :
    P (bs.foldl S X) (bs.foldl s x) := by
  induction bs generalizing X x with
  | nil => exact h0
  | cons b bs ih =>
    rw [List.foldl_cons, List.foldl_cons]
    exact ih (fun c hc => h c (List.mem_cons_of_mem _ hc)) (h b List.mem_cons_self X x h0)

theorem foldl_inv (Q : σ → Prop) (S : σ → β → σ) (bs : List β)
    (h : ∀ b ∈ bs, ∀ X, Q X → Q (S X b)) {X : σ} (h0 : Q X) : Q (bs.foldl S X) := by
  induction bs generalizing X with
  | nil => exact h0
  | cons b bs ih =>
    rw [List.foldl_cons]
    exact ih (fun c hc => h c (List.mem_cons_of_mem _ hc)) (h b List.mem_cons_self X h0)

theorem foldl_congr_of_mem (f g : σ → β → σ) (l : List β) (H : ∀ a, ∀ b ∈ l, f a b = g a b) (a : σ) :
    l.foldl f a = l.foldl g a :=
  foldl_rel Eq f g l (fun b hb X _ e => e ▸ H X b hb) rfl

theorem foldl_fst_induct (P : σ → Prop) (f : σ × τ → β → σ × τ) (hf : ∀ s b, P s.1 → P (f s b).1)
    (l : List β) (s : σ × τ) (h : P s.1) : P (l.foldl f s).1 :=
  foldl_inv (fun s => P s.1) f l (fun b _ s => hf s b) h

theorem foldl_prod {γ δ : Type} (f : γ → β → γ) (g : δ → β → δ) (l : List β) (x : γ × δ) :
    l.foldl (fun (s : γ × δ) b => (f s.1 b, g s.2 b)) x = (l.foldl f x.1, l.foldl g x.2) := by
  induction l generalizing x with
  | nil => rfl
  | cons b l ih => rw [List.foldl_cons, ih]; rfl

/-- Used with `Q`, `N` = "is NaN": sums and products in which NaN absorbs. -/
theorem foldl_absorb (Q : σ → Prop) (N : β → Prop) (op : σ → β → σ)
    (hkeep : ∀ a b, Q a → Q (op a b)) (hmake : ∀ a b, N b → Q (op a b)) (l : List β) (acc : σ)
    (h : Q acc ∨ ∃ b ∈ l, N b) : Q (l.foldl op acc) := by
  induction l generalizing acc with
  | nil =>
    rcases h with h | ⟨b, hb, _⟩
    · exact h
    · cases hb
  | cons a l ih =>
    refine ih _ ?_
    rcases h with h | ⟨b, hb, hn⟩
    · exact Or.inl (hkeep _ _ h)
    · rcases List.mem_cons.1 hb with rfl | hb
      · exact Or.inl (hmake _ _ hn)
      · exact Or.inr ⟨b, hb, hn⟩

end Folds

section Arrays
variable {α β : Type}

theorem foldl_size_of_step (S : Array α → β → Array α) (hS : ∀ F b, (S F b).size = F.size)
    (l : List β) (F : Array α) : (l.foldl S F).size = F.size :=
  foldl_inv (fun X => X.size = F.size) S l (fun b _ X hX => (hS X b).trans hX) rfl

theorem foldl_wr_size (g : β → Nat) (v : Array α → β → α) (l : List β) (f : Array α) :
    (l.foldl (fun f b => wr f (g b) (v f b)) f).size = f.size :=
  foldl_size_of_step _ (fun _ _ => wr_size ..) l f

theorem getD_lt (a : Array β) (c : Nat) (d : β) (h : c < a.size) : a.getD c d = a[c] := by
  simp [Array.getD, h]

theorem getD_of_size_le (a : Array β) (j : Nat) (d : β) (h : a.size ≤ j) : a.getD j d = d := by
  simp [Array.getD, Nat.not_lt.mpr h]

theorem getD_mapIdx {γ : Type} (f : Nat → β → γ) (M : Array β) (c : Nat) (hc : c < M.size) (d : γ) (d' : β) :
    (M.mapIdx f).getD c d = f c (M.getD c d') := by
  simp [Array.getD, hc]

theorem getD_map' {γ : Type} (f : β → γ) (M : Array β) (c : Nat) (hc : c < M.size) (d : γ) (d' : β) :
    (M.map f).getD c d = f (M.getD c d') := by
  simp [Array.getD, hc]

theorem getD_map {γ : Type} (f : β → γ) (K : Array β) (j : Nat) (d : β) :
    (K.map f).getD j (f d) = f (K.getD j d) := by
  simp only [Array.getD_eq_getD_getElem?, Array.getElem?_map]
  cases K[j]? <;> rfl

theorem getD_setIfInBounds (K : Array β) (i j : Nat) (x d : β) :
    (K.setIfInBounds i x).getD j d = if i = j ∧ i < K.size then x else K.getD j d := by
  rw [Array.getD_eq_getD_getElem?, Array.getD_eq_getD_getElem?, Array.getElem?_setIfInBounds]
  by_cases h : i = j
  · subst h
    by_cases hi : i < K.size
    · simp [hi]
    · simp [hi]
  · simp [h]

theorem getD_set_ne (a : Array β) (i j : Nat) (v d : β) (h : i ≠ j) :
    (a.setIfInBounds i v).getD j d = a.getD j d := by
  rw [getD_setIfInBounds, if_neg (fun h' => h h'.1)]

theorem getD_set_eq (a : Array β) (i : Nat) (v d : β) (h : i < a.size) :
    (a.setIfInBounds i v).getD i d = v := by
  rw [getD_setIfInBounds, if_pos ⟨rfl, h⟩]

theorem array_ext_getD {A B : Array β} (d : β) (hs : A.size = B.size)
    (h : ∀ j, j < A.size → A.getD j d = B.getD j d) : A = B := by
  apply Array.ext hs
  intro j h1 h2
  rw [← getD_lt A j d h1, ← getD_lt B j d h2]
  exact h j h1

variable [OfNat α 0]

theorem foldl_rd_of_step (S : Array α → β → Array α) (x : Nat) (l : List β)
    (hS : ∀ F, ∀ b ∈ l, rd (S F b) x = rd F x) (F : Array α) : rd (l.foldl S F) x = rd F x :=
  foldl_inv (fun X => rd X x = rd F x) S l (fun b hb X hX => (hS X b hb).trans hX) rfl

theorem foldl_wr_rd_of_not_mem (g : β → Nat) (v : Array α → β → α) (l : List β) (f : Array α)
    (i : Nat) (h : ∀ b ∈ l, g b ≠ i) : rd (l.foldl (fun f b => wr f (g b) (v f b)) f) i = rd f i :=
  foldl_rd_of_step _ i l (fun _ b hb => rd_wr_ne _ _ _ _ (h b hb)) f

theorem rd_replicate_zero (n i : Nat) : rd (Array.replicate n (0 : α)) i = 0 := by
  unfold rd
  rw [Array.getD_eq_getD_getElem?, Array.getElem?_replicate]
  split <;> rfl

theorem arr_ext_rd {A B : Array α} (hs : A.size = B.size) (h : ∀ j, j < A.size → rd A j = rd B j) :
    A = B :=
  array_ext_getD 0 hs h

theorem rd_of_ge (a : Array α) (i : Nat) (h : a.size ≤ i) : rd a i = 0 :=
  getD_of_size_le a i 0 h

theorem rd_map (g : α → α) (a : Array α) {i : Nat} (h : i < a.size) : rd (a.map g) i = g (rd a i) :=
  getD_map' g a i h 0 0

theorem rd_mapIdx (g : Nat → α → α) (a : Array α) (i : Nat) (h : i < a.size) :
    rd (a.mapIdx g) i = g i (rd a i) :=
  getD_mapIdx g a i h 0 0

theorem rd_wr_rmw (Q : α → Prop) (g : α → α) (hg : ∀ a, Q a → Q (g a)) (x : Array α) (t i : Nat)
    (h : Q (rd x i)) : Q (rd (wr x t (g (rd x t))) i) := by
  rw [rd_wr]
  split
  · next hc => rw [hc.1]; exact hg _ h
  · exact h

theorem foldl_wr_sticky (Q : α → Prop) (tgt : β → Nat) (g : α → β → α)
    (hg : ∀ a b, Q a → Q (g a b)) (l : List β) (x : Array α) (i : Nat) (h : Q (rd x i)) :
    Q (rd (l.foldl (fun x b => wr x (tgt b) (g (rd x (tgt b)) b)) x) i) :=
  foldl_inv (fun x => Q (rd x i)) _ l
    (fun b _ x hx => rd_wr_rmw Q (g · b) (fun a => hg a b) x (tgt b) i hx) h

theorem foldl_rmw_rd (h : Nat → α → α) (as : List Nat) (d : Array α) (hnd : as.Nodup) (j : Nat) :
    rd (as.foldl (fun d a => wr d a (h a (rd d a))) d) j
      = if j ∈ as ∧ j < d.size then h j (rd d j) else rd d j := by
  induction as generalizing d with
  | nil => simp
  | cons a as ih =>
    obtain ⟨hna, hnd'⟩ := List.nodup_cons.mp hnd
    simp only [List.foldl_cons]
    rw [ih _ hnd', wr_size, rd_wr]
    by_cases hja : a = j
    · subst hja
      by_cases hs : a < d.size
      · simp [hna, hs]
      · simp [hna, hs]
    · have hja' : ¬ j = a := fun h => hja h.symm
      simp only [hja, false_and, if_false, List.mem_cons, hja', false_or]

end Arrays
end Micm
