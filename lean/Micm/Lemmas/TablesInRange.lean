/-
The range hypotheses of the lane theorems (C13b, C13c) hold for the tables the model builds:
every element rank in the tables of `doolittleRows`, `mozartInit`, `mozartRows`,
`doolittleInPlaceRows`, `mozartInPlaceRows`, `solverRows` is the rank of a *present* element of its
pattern (the tables are built by `filterMap` over present elements, fill-in elements are present by
the closure properties `LUSetup` / `MozSetup` / `IPSetup`), hence `< nnz` (`GoodPattern.rk_lt`).
Also `MIRow.Distinct` (`a_jk ≠ a_ik` for `j > i`, by rank injectivity).
Then: the patterns / tables of `LinAlg.build kind (Pattern.mk' n csc L set)`, all four kinds.
-/
import Micm.Lemmas.Lanes3
import Micm.Lemmas.LUCellBridge
namespace Micm

theorem forall_mem_present_rangeFrom {β : Type} {Q : β → Prop} (c : Nat → Bool) (x : Nat → β) (a b : Nat)
    (h : ∀ j, a ≤ j → j < b → c j = false → Q (x j)) :
    ∀ p ∈ (rangeFrom a b).filterMap (fun j => if c j then none else some (x j)), Q p := by
  intro p hp
  obtain ⟨j, h1, h2, h3⟩ := mem_filterMap_rangeFrom _ a b p hp
  cases hc : c j with
  | true => rw [hc] at h3; cases h3
  | false => rw [hc] at h3; cases h3; exact h j h1 h2 hc

theorem forall_mem_present_range {β : Type} {Q : β → Prop} (c : Nat → Bool) (x : Nat → β) (b : Nat)
    (h : ∀ j, j < b → c j = false → Q (x j)) :
    ∀ p ∈ (List.range b).filterMap (fun j => if c j then none else some (x j)), Q p := by
  intro p hp
  obtain ⟨j, h2, h3⟩ := mem_filterMap_range _ b p hp
  cases hc : c j with
  | true => rw [hc] at h3; cases h3
  | false => rw [hc] at h3; cases h3; exact h j h2 hc

theorem ite_none_some_eq_some {β : Type} {c : Bool} {x p : β}
    (h : (if c = true then none else some x) = some p) : c = false ∧ x = p := by
  cases c <;> simp_all

theorem ite_some_none_eq_some {β : Type} {c : Bool} {x p : β}
    (h : (if c = true then some x else none) = some p) : c = true ∧ x = p := by
  cases c <;> simp_all

theorem forall_mem_nil {β : Type} (P : β → Prop) : ∀ r ∈ ([] : List β), P r := fun _ h => nomatch h

theorem pairsOf_lt {n : Nat} {Lp Up : Pattern} (gL : GoodPattern n Lp) (gU : GoodPattern n Up)
    (m r c : Nat) (hm : m ≤ n) (hr : r < n) (hc : c < n) (p : Nat × Nat) (hp : p ∈ pairsOf Lp Up m r c) :
    p.1 < Lp.nnz ∧ p.2 < Up.nnz := by
  obtain ⟨j, hj, h1, h2, rfl⟩ := mem_pairsOf Lp Up m r c p hp
  exact ⟨gL.rk_lt r j hr (by omega) h1, gU.rk_lt j c (by omega) hc h2⟩

theorem doolittleRows_inRange {n : Nat} {A Lp Up : Pattern} (gA : GoodPattern n A)
    (h : LUSetup n A Lp Up) (hn : A.n = n) :
    ∀ r ∈ doolittleRows A Lp Up, r.InRange A.nnz Lp.nnz Up.nnz := by
  intro r hr
  rw [doolittleRows_eq, hn, List.mem_map] at hr
  obtain ⟨i, hi, rfl⟩ := hr
  have hi := List.mem_range.1 hi
  refine ⟨?_, h.gL.rk_lt i i hi hi (h.diagL i hi), ?_,
    h.gU.rk_lt i i hi hi ((pres_true _ _ _).mp (h.closed.diagU i hi))⟩
  · intro e he
    obtain ⟨k, hik, hk, hek⟩ := mem_filterMap_rangeFrom _ _ _ _ he
    obtain ⟨ht, hp, ha, _⟩ := uEntry_some A Lp Up i k e hek
    have hpres := uEntry_present h i k hik hk e hek
    refine ⟨?_, ?_, ?_⟩
    · intro a hea
      rw [ha] at hea
      obtain ⟨hz, rfl⟩ := ite_none_some_eq_some hea
      exact gA.rk_lt i k hi hk hz
    · rw [ht]; exact h.gU.rk_lt i k hi hk hpres
    · intro p hp'
      rw [hp] at hp'
      exact pairsOf_lt h.gL h.gU i i k (by omega) hi hk p hp'
  · intro e he
    obtain ⟨k, hik, hk, hek⟩ := mem_filterMap_rangeFrom _ _ _ _ he
    obtain ⟨ht, hp, ha, _⟩ := lEntry_some A Lp Up i k e hek
    have hpres := lEntry_present h i k (by omega) hk e hek
    refine ⟨?_, ?_, ?_⟩
    · intro a hea
      rw [ha] at hea
      obtain ⟨hz, rfl⟩ := ite_none_some_eq_some hea
      exact gA.rk_lt k i hk hi hz
    · rw [ht]; exact h.gL.rk_lt k i hk hi hpres
    · intro p hp'
      rw [hp] at hp'
      exact pairsOf_lt h.gL h.gU i k i (by omega) hk hi p hp'

theorem doolittleInPlaceRows_inRange {n : Nat} {P : Pattern} (h : IPSetup n P) (hn : P.n = n) :
    ∀ r ∈ doolittleInPlaceRows P, r.InRange P.nnz := by
  intro r hr
  rw [doolittleInPlaceRows_eq, hn, List.mem_map] at hr
  obtain ⟨i, hi, rfl⟩ := hr
  have hi := List.mem_range.1 hi
  refine ⟨h.g.rk_lt i i hi hi (h.diag i hi), ?_, ?_⟩
  · exact forall_mem_present_rangeFrom (fun k => P.zero? i k) _ _ _ fun k hik hk hz =>
      ⟨h.g.rk_lt i k hi hk hz, fun p hp => pairsOf_lt h.g h.g i i k (by omega) hi hk p hp⟩
  · exact forall_mem_present_rangeFrom (fun k => P.zero? k i) _ _ _ fun k hik hk hz =>
      ⟨h.g.rk_lt k i hk hi hz, fun p hp => pairsOf_lt h.g h.g i k i (by omega) hk hi p hp⟩

theorem mem_miPairs {n : Nat} {P : Pattern} (h : IPSetup n P) (i k : Nat) (hk : k < n) (hik : i < k)
    (hz : P.zero? i k = false) (p : Nat × Nat) (hp : p ∈ miPairs P n i k) :
    ∃ j, i < j ∧ j < n ∧ P.zero? j i = false ∧ P.zero? j k = false ∧ p = (P.rk j k, P.rk j i) := by
  obtain ⟨j, hij, hj, hg⟩ := mem_filterMap_rangeFrom _ _ _ _ hp
  obtain ⟨hz', rfl⟩ := ite_none_some_eq_some (c := P.zero? j i) hg
  exact ⟨j, by omega, hj, hz', h.fill j k i hj hk (by omega) hik hz' hz, rfl⟩

theorem mozartInPlaceRows_inRange {n : Nat} {P : Pattern} (h : IPSetup n P) (hn : P.n = n) :
    ∀ r ∈ mozartInPlaceRows P, r.InRange P.nnz ∧ r.Distinct := by
  intro r hr
  rw [mozartInPlaceRows_eq, hn, List.mem_map] at hr
  obtain ⟨i, hi, rfl⟩ := hr
  have hi := List.mem_range.1 hi
  refine ⟨⟨h.g.rk_lt i i hi hi (h.diag i hi), ?_, ?_⟩, ?_⟩
  · exact forall_mem_present_rangeFrom (fun j => P.zero? j i) _ _ _ fun j hij hj hz => h.g.rk_lt j i hj hi hz
  · refine forall_mem_present_rangeFrom (fun k => P.zero? i k) _ _ _ fun k hik hk hz =>
      ⟨h.g.rk_lt i k hi hk hz, fun p hp => ?_⟩
    obtain ⟨j, hij, hj, hz1, hz2, rfl⟩ := mem_miPairs h i k hk (by omega) hz p hp
    exact ⟨h.g.rk_lt j k hj hk hz2, h.g.rk_lt j i hj hi hz1⟩
  · refine forall_mem_present_rangeFrom (fun k => P.zero? i k) _ _ _ fun k hik hk hz p hp e => ?_
    obtain ⟨j, hij, hj, hz1, hz2, rfl⟩ := mem_miPairs h i k hk (by omega) hz p hp
    have := (h.g.rk_inj j k i k hj hk hi hk hz2 hz e).1
    omega

theorem mozartInit_inRange {n : Nat} {A Lp Up : Pattern} (gA : GoodPattern n A)
    (h : MozSetup n A Lp Up) (hn : A.n = n) :
    ∀ r ∈ mozartInit A Lp Up, r.InRange A.nnz Lp.nnz Up.nnz := by
  intro r hr
  rw [mozartInit_eq, hn, List.mem_map] at hr
  obtain ⟨i, hi, rfl⟩ := hr
  have hi := List.mem_range.1 hi
  refine ⟨h.gL.rk_lt i i hi hi (h.diagL i hi), ?_, ?_, ?_, ?_⟩
  · refine forall_mem_present_range (fun j => A.zero? j i) _ _ fun j hj hz => ?_
    have hU := (pres_true _ _ _).mp (h.closed.supU j i (by omega) hi ((pres_true _ _ _).mpr hz))
    exact ⟨h.gU.rk_lt j i (by omega) hi hU, gA.rk_lt j i (by omega) hi hz⟩
  · refine forall_mem_present_rangeFrom (fun j => A.zero? j i) _ _ _ fun j hij hj hz => ?_
    have hL := (pres_true _ _ _).mp (h.closed.supL j i (by omega) hj ((pres_true _ _ _).mpr hz))
    exact ⟨h.gL.rk_lt j i hj hi hL, gA.rk_lt j i hj hi hz⟩
  · intro x hx
    obtain ⟨j, hj, hg⟩ := mem_filterMap_range _ _ _ hx
    obtain ⟨hc, rfl⟩ := ite_some_none_eq_some (c := A.zero? j i && !Up.zero? j i) hg
    simp only [Bool.and_eq_true, Bool.not_eq_true'] at hc
    exact h.gU.rk_lt j i (by omega) hi hc.2
  · intro x hx
    obtain ⟨j, hij, hj, hg⟩ := mem_filterMap_rangeFrom _ _ _ _ hx
    obtain ⟨hc, rfl⟩ := ite_some_none_eq_some (c := A.zero? j i && !Lp.zero? j i) hg
    simp only [Bool.and_eq_true, Bool.not_eq_true'] at hc
    exact h.gL.rk_lt j i hj hi hc.2

theorem mozartRows_inRange {n : Nat} {A Lp Up : Pattern} (h : MozSetup n A Lp Up) (hn : A.n = n) :
    ∀ r ∈ mozartRows A Lp Up, r.InRange Lp.nnz Up.nnz := by
  intro r hr
  rw [mozartRows_eq, hn, List.mem_map] at hr
  obtain ⟨i, hi, rfl⟩ := hr
  have hi := List.mem_range.1 hi
  refine ⟨h.gU.rk_lt i i hi hi ((pres_true _ _ _).mp (h.closed.diagU i hi)), ?_, ?_⟩
  · exact forall_mem_present_rangeFrom (fun j => Lp.zero? j i) _ _ _ fun j hij hj hz => h.gL.rk_lt j i hj hi hz
  · refine forall_mem_present_rangeFrom (fun k => Up.zero? i k) _ _ _ fun k hik hk hz =>
      ⟨h.gU.rk_lt i k hi hk hz, ?_, ?_⟩
    · refine forall_mem_present_rangeFrom (fun j => Lp.zero? j i) _ _ _ fun j hij hj hz' => ?_
      have hU := (pres_true _ _ _).mp (h.closed.fillU j i k (by omega) (by omega) hk
        ((pres_true _ _ _).mpr hz') ((pres_true _ _ _).mpr hz))
      exact ⟨h.gU.rk_lt j k (by omega) hk hU, h.gL.rk_lt j i (by omega) hi hz'⟩
    · refine forall_mem_present_rangeFrom (fun j => Lp.zero? j i) _ _ _ fun j hkj hj hz' => ?_
      have hL := (pres_true _ _ _).mp (h.closed.fillL k i j (by omega) (by omega) hj
        ((pres_true _ _ _).mpr hz') ((pres_true _ _ _).mpr hz))
      exact ⟨h.gL.rk_lt j k hj hk hL, h.gL.rk_lt j i hj hi hz'⟩

theorem solverRows_inRange {n : Nat} {Lp Up : Pattern} (gL : GoodPattern n Lp) (gU : GoodPattern n Up)
    (hn : Lp.n = n) (dL : ∀ i, i < n → Lp.zero? i i = false) (dU : ∀ i, i < n → Up.zero? i i = false) :
    (∀ r ∈ (solverRows Lp Up).1, r.InRange Lp.nnz n) ∧ (∀ r ∈ (solverRows Lp Up).2, r.InRange Up.nnz n) ∧
    (solverRows Lp Up).1.length = n ∧ (solverRows Lp Up).2.length = n := by
  rw [solverRows_eq, hn]
  refine ⟨?_, ?_, by simp, by simp⟩
  · intro r hr
    rw [List.mem_map] at hr
    obtain ⟨i, hi, rfl⟩ := hr
    have hi := List.mem_range.1 hi
    refine ⟨gL.rk_lt i i hi hi (dL i hi), ?_⟩
    exact forall_mem_present_range (fun j => Lp.zero? i j) _ _ fun j hj hz =>
      ⟨gL.rk_lt i j hi (by omega) hz, by omega⟩
  · intro r hr
    rw [List.mem_map] at hr
    obtain ⟨i, hi, rfl⟩ := hr
    have hi := List.mem_range.1 (List.mem_reverse.1 hi)
    refine ⟨gU.rk_lt i i hi hi (dU i hi), ?_⟩
    exact forall_mem_present_rangeFrom (fun j => Up.zero? i j) _ _ _ fun j hij hj hz =>
      ⟨gU.rk_lt i j hi hj hz, hj⟩

/-- what the lane theorems need of one configured linear-algebra variant with `n` rows -/
structure LinAlg.TablesInRange (la : LinAlg) (n : Nat) : Prop where
  dRows : ∀ r ∈ la.dRows, r.InRange la.A.nnz la.Lp.nnz la.Up.nnz
  mInit : ∀ r ∈ la.mInit, r.InRange la.A.nnz la.Lp.nnz la.Up.nnz
  mRows : ∀ r ∈ la.mRows, r.InRange la.Lp.nnz la.Up.nnz
  diRows : ∀ r ∈ la.diRows, r.InRange la.A.nnz
  miRows : ∀ r ∈ la.miRows, r.InRange la.A.nnz ∧ r.Distinct
  fw : ∀ r ∈ la.fw, r.InRange la.Lp.nnz n
  bw : ∀ r ∈ la.bw, r.InRange la.Up.nnz n
  fwLen : la.fw.length = n
  bwLen : la.bw.length = n

theorem tablesInRange_build {n : Nat} {set : List Pair} (hw : WF n set) (hdiag : ∀ i, i < n → (i, i) ∈ set)
    (csc : Bool) (L : Nat) (kind : LUKind) :
    (LinAlg.build kind (Pattern.mk' n csc L set)).TablesInRange n := by
  have gJ : GoodPattern n (Pattern.mk' n csc L set) := GoodPattern_of_Good (good_mk hw csc L) n
  have hd : ∀ i, i < (Pattern.mk' n csc L set).n → (Pattern.mk' n csc L set).zero? i i = false :=
    fun i hi => (zero?_mk_iff hw csc L i i).mpr (hdiag i hi)
  cases kind with
  | doolittle =>
    have h : LUSetup n _ _ _ := LUSetup_build (Pattern.mk' n csc L set)
    obtain ⟨s1, s2, s3, s4⟩ := solverRows_inRange h.gL h.gU rfl h.diagL
      (fun i hi => (pres_true _ _ _).mp (h.closed.diagU i hi))
    exact ⟨doolittleRows_inRange gJ h rfl, forall_mem_nil _, forall_mem_nil _,
      forall_mem_nil _, forall_mem_nil _, s1, s2, s3, s4⟩
  | mozart =>
    have h : MozSetup n _ _ _ := MozSetup_build (Pattern.mk' n csc L set) hd
    obtain ⟨s1, s2, s3, s4⟩ := solverRows_inRange h.gL h.gU rfl h.diagL
      (fun i hi => (pres_true _ _ _).mp (h.closed.diagU i hi))
    exact ⟨forall_mem_nil _, mozartInit_inRange gJ h rfl, mozartRows_inRange h rfl,
      forall_mem_nil _, forall_mem_nil _, s1, s2, s3, s4⟩
  | doolittleInPlace =>
    have h : IPSetup n _ := IPSetup_build (Pattern.mk' n csc L set)
    obtain ⟨s1, s2, s3, s4⟩ := solverRows_inRange h.g h.g rfl h.diag h.diag
    exact ⟨forall_mem_nil _, forall_mem_nil _, forall_mem_nil _,
      doolittleInPlaceRows_inRange h rfl, forall_mem_nil _, s1, s2, s3, s4⟩
  | mozartInPlace =>
    have h : IPSetup n _ := IPSetup_build_mozart (Pattern.mk' n csc L set) hd
    obtain ⟨s1, s2, s3, s4⟩ := solverRows_inRange h.g h.g rfl h.diag h.diag
    exact ⟨forall_mem_nil _, forall_mem_nil _, forall_mem_nil _,
      forall_mem_nil _, mozartInPlaceRows_inRange h rfl, s1, s2, s3, s4⟩

end Micm
