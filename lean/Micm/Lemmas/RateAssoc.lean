/-
Lemmas for C15.  Reaction `r` owns the columns `[paramOffset r, paramOffset r + nParams)` of the parameter row;
the walk of `rateConstGo`, the label list and the label → column map follow these ranges, and the flat vector
overload (`Micm/Spec/RateFlat.lean`) computes lane by lane what the row-wise loop computes.
Core Lean only.  No algebra: every statement holds for an arbitrary carrier type.
-/
import Micm.Spec.RateFlat
import Micm.Lemmas.LaneView
namespace Micm

section Offsets
variable {α : Type}

theorem RateKind.labels_length (k : RateKind α) : k.labels.length = k.nParams := by
  cases k <;> rfl

@[simp] theorem paramOffset_zero (procs : List (RateProc α)) : paramOffset procs 0 = 0 := by
  simp [paramOffset]

@[simp] theorem paramOffset_cons_succ (p : RateProc α) (ps : List (RateProc α)) (r : Nat) :
    paramOffset (p :: ps) (r + 1) = p.kind.nParams + paramOffset ps r := by
  simp [paramOffset]

theorem nParamsTotal_cons (p : RateProc α) (ps : List (RateProc α)) :
    nParamsTotal (p :: ps) = p.kind.nParams + nParamsTotal ps := by
  simp [nParamsTotal]

theorem paramOffset_add_le (procs : List (RateProc α)) (r : Nat) (hr : r < procs.length) :
    paramOffset procs r + procs[r].kind.nParams ≤ nParamsTotal procs := by
  induction procs generalizing r with
  | nil => simp at hr
  | cons p ps ih =>
    rw [nParamsTotal_cons]
    cases r with
    | zero => simp
    | succ r =>
      have := ih r (by simpa using hr)
      simp only [paramOffset_cons_succ, List.getElem_cons_succ]
      omega

theorem paramOffset_succ (procs : List (RateProc α)) (r : Nat) (hr : r < procs.length) :
    paramOffset procs (r + 1) = paramOffset procs r + procs[r].kind.nParams := by
  induction procs generalizing r with
  | nil => simp at hr
  | cons p ps ih =>
    cases r with
    | zero => simp [paramOffset]
    | succ r =>
      have := ih r (by simpa using hr)
      simp only [paramOffset_cons_succ, List.getElem_cons_succ]
      omega

end Offsets

section Go
variable {α : Type} [OfNat α 0] [OfNat α 1] [Add α] [Sub α] [Mul α] [Div α] [Neg α]
variable (t : TOps α) (pi av : α)

theorem rateConstGo_length (c : Conditions α) (procs : List (RateProc α)) (params : List α) :
    (rateConstGo t pi av c procs params).length = procs.length := by
  induction procs generalizing params with
  | nil => rfl
  | cons p ps ih => simp [rateConstGo, ih]

theorem rateConstGo_getElem (c : Conditions α) (procs : List (RateProc α)) (params : List α)
    (r : Nat) (hr : r < procs.length) :
    (rateConstGo t pi av c procs params)[r]'(by rw [rateConstGo_length]; exact hr) =
      procs[r].kind.calc t pi av c ((params.drop (paramOffset procs r)).take procs[r].kind.nParams)
        * fixedReactants c procs[r].nParamReactants := by
  induction procs generalizing params r with
  | nil => simp at hr
  | cons p ps ih =>
    cases r with
    | zero => simp [rateConstGo]
    | succ r =>
      simp only [rateConstGo, List.getElem_cons_succ, paramOffset_cons_succ]
      rw [ih (params.drop p.kind.nParams) r (by simpa using hr), List.drop_drop]

theorem calculateRateConstants_size (procs : List (RateProc α)) (conds : Array (Conditions α))
    (params : Mat α) : (calculateRateConstants t pi av procs conds params).size = conds.size := by
  simp [calculateRateConstants]

theorem calculateRateConstants_row (procs : List (RateProc α)) (conds : Array (Conditions α))
    (params : Mat α) (c : Nat) (hc : c < conds.size) :
    (calculateRateConstants t pi av procs conds params)[c]'(by
        rw [calculateRateConstants_size]; exact hc) =
      (rateConstGo t pi av conds[c] procs (params.getD c #[]).toList).toArray := by
  simp [calculateRateConstants]

theorem calculateRateConstants_row_size (procs : List (RateProc α)) (conds : Array (Conditions α))
    (params : Mat α) (c : Nat) (hc : c < conds.size) :
    ((calculateRateConstants t pi av procs conds params)[c]'(by
        rw [calculateRateConstants_size]; exact hc)).size = procs.length := by
  rw [calculateRateConstants_row t pi av procs conds params c hc]
  simp [rateConstGo_length]

end Go

section Labels
variable {α : Type}

theorem labelsOf_cons (p : RateProc α) (ps : List (RateProc α)) :
    labelsOf (p :: ps) = p.kind.labels ++ labelsOf ps := by
  simp [labelsOf]

theorem labelsOf_length (procs : List (RateProc α)) :
    (labelsOf procs).length = nParamsTotal procs := by
  induction procs with
  | nil => rfl
  | cons p ps ih => rw [labelsOf_cons, nParamsTotal_cons, List.length_append, ih, RateKind.labels_length]

theorem labelsOf_slice (procs : List (RateProc α)) (r : Nat) (hr : r < procs.length) :
    ((labelsOf procs).drop (paramOffset procs r)).take procs[r].kind.nParams =
      procs[r].kind.labels := by
  induction procs generalizing r with
  | nil => simp at hr
  | cons p ps ih =>
    rw [labelsOf_cons]
    cases r with
    | zero =>
      simp only [paramOffset_zero, List.drop_zero, List.getElem_cons_zero]
      rw [← RateKind.labels_length, List.take_left]
    | succ r =>
      simp only [paramOffset_cons_succ, List.getElem_cons_succ]
      rw [← RateKind.labels_length p.kind, List.drop_append]
      have h0 : List.drop (p.kind.labels.length + paramOffset ps r) p.kind.labels = [] :=
        List.drop_eq_nil_of_le (by omega)
      rw [h0, List.nil_append, Nat.add_sub_cancel_left]
      exact ih r (by simpa using hr)

theorem labelsOf_getElem (procs : List (RateProc α)) (r : Nat) (hr : r < procs.length)
    (k : Nat) (hk : k < procs[r].kind.labels.length) :
    (labelsOf procs)[paramOffset procs r + k]? = some procs[r].kind.labels[k] := by
  have h := labelsOf_slice procs r hr
  have h2 : (((labelsOf procs).drop (paramOffset procs r)).take procs[r].kind.nParams)[k]? =
      some procs[r].kind.labels[k] := by rw [h]; simp [hk]
  rw [RateKind.labels_length] at hk
  rw [List.getElem?_take_of_lt hk, List.getElem?_drop] at h2
  exact h2

theorem paramMapGo_not_mem (ls : List String) (i : Nat) (m : String → Option Nat) (l : String)
    (h : l ∉ ls) : paramMapGo ls i m l = m l := by
  induction ls generalizing i m with
  | nil => rfl
  | cons a ls ih =>
    simp only [List.mem_cons, not_or] at h
    rw [paramMapGo, ih _ _ h.2, if_neg h.1]

theorem paramMapGo_nodup (ls : List String) (hnd : ls.Nodup) (i : Nat) (m : String → Option Nat)
    (j : Nat) (l : String) (h : ls[j]? = some l) : paramMapGo ls i m l = some (i + j) := by
  induction ls generalizing i m j with
  | nil => simp at h
  | cons a ls ih =>
    rw [List.nodup_cons] at hnd
    cases j with
    | zero =>
      simp only [List.getElem?_cons_zero, Option.some.injEq] at h
      subst h
      rw [paramMapGo, paramMapGo_not_mem _ _ _ _ hnd.1, if_pos rfl]; rfl
    | succ j =>
      simp only [List.getElem?_cons_succ] at h
      rw [paramMapGo, ih hnd.2 _ _ j h]
      congr 1; omega

theorem paramMap_nodup (labels : List String) (hnd : labels.Nodup) (j : Nat) (l : String)
    (h : labels[j]? = some l) : paramMap labels l = some j := by
  rw [paramMap, paramMapGo_nodup labels hnd 0 _ j l h, Nat.zero_add]

/-- unknown label: `find` returns `end()` -/
theorem paramMap_not_mem (labels : List String) (l : String) (h : l ∉ labels) :
    paramMap labels l = none := by
  rw [paramMap, paramMapGo_not_mem _ _ _ _ h]

theorem paramMapGo_some (ls : List String) (i : Nat) (m : String → Option Nat) (l : String)
    (j : Nat) (h : paramMapGo ls i m l = some j) :
    m l = some j ∨ (i ≤ j ∧ ls[j - i]? = some l) := by
  induction ls generalizing i m with
  | nil => exact Or.inl h
  | cons a ls ih =>
    rw [paramMapGo] at h
    rcases ih _ _ h with h1 | ⟨h1, h2⟩
    · by_cases hla : l = a
      · rw [if_pos hla] at h1
        simp only [Option.some.injEq] at h1
        subst h1; subst hla
        right; simp
      · rw [if_neg hla] at h1; exact Or.inl h1
    · right
      refine ⟨by omega, ?_⟩
      have : j - i = (j - (i + 1)) + 1 := by omega
      rw [this, List.getElem?_cons_succ]; exact h2

theorem paramMap_some (labels : List String) (l : String) (j : Nat)
    (h : paramMap labels l = some j) : labels[j]? = some l := by
  rcases paramMapGo_some labels 0 _ l j h with h1 | ⟨_, h2⟩
  · cases h1
  · simpa using h2

end Labels

section SetParam
variable {α : Type} [OfNat α 0]

theorem setCustomRateParameter_spec (labels : List String) (params params' : Mat α) (l : String)
    (v : Array α) (h : setCustomRateParameter labels params l v = some params') :
    ∃ j, paramMap labels l = some j ∧ params.size = v.size ∧ params'.size = params.size ∧
      ∀ c (hc : c < params.size), params'[c]? = some (params[c].setIfInBounds j (v.getD c 0)) := by
  unfold setCustomRateParameter at h
  split at h
  · cases h
  · next j hj =>
    split at h
    · cases h
    · next hsz =>
      simp only [Option.some.injEq] at h
      subst h
      refine ⟨j, hj, by simpa using hsz, by simp, fun c hc => ?_⟩
      simp [hc]

end SetParam

/-! The group loop of `calculateRateConstantsVec` is a lane program in the sense of `LaneView.lean`:
process `r` writes the lanes of element `r` of the group's block of `rate_constants_`.  Seen through
one lane it is `cellProcLoop`, the process loop on one cell's row; the group keeps everything but
its own lanes. -/

section Vec
variable {α : Type} [OfNat α 0]

theorem map_range_drop_take {β : Type} (f : Nat → β) (P o n : Nat) (h : o + n ≤ P) :
    (((List.range P).map f).drop o).take n = (List.range n).map fun i => f (o + i) := by
  apply List.ext_getElem?
  intro k
  by_cases hk : k < n
  · rw [List.getElem?_take_of_lt hk, List.getElem?_drop, List.getElem?_map, List.getElem?_map,
      List.getElem?_range (by omega), List.getElem?_range hk]; rfl
  · rw [List.getElem?_eq_none (by simp; omega), List.getElem?_eq_none (by simp; omega)]

/-- the process loop on one cell's row: entry `r` receives `value p offP` for the `r`-th process `p`,
    `offP` being the flat parameter offset the vector kernel carries (it advances by `nParams * L`) -/
def cellProcLoop (value : RateProc α → Nat → α) (L : Nat) :
    List (RateProc α) → Nat → Nat → Array α → Array α
  | [], _, _, k => k
  | p :: ps, offP, r, k => cellProcLoop value L ps (offP + p.kind.nParams * L) (r + 1) (wr k r (value p offP))

theorem rd_cellProcLoop (value : RateProc α → Nat → α) (L : Nat) (ps : List (RateProc α)) (offP r : Nat)
    (k : Array α) (hk : r + ps.length ≤ k.size) (j : Nat) (hj : j < ps.length) :
    rd (cellProcLoop value L ps offP r k) (r + j) = value ps[j] (offP + paramOffset ps j * L) := by
  induction ps generalizing offP r k j with
  | nil => simp at hj
  | cons p ps ih =>
    simp only [cellProcLoop, List.length_cons] at hk ⊢
    cases j with
    | zero =>
      -- later processes write entries `> r`
      have hkeep : ∀ (qs : List (RateProc α)) (o r' : Nat) (k' : Array α), r < r' →
          rd (cellProcLoop value L qs o r' k') r = rd k' r := by
        intro qs
        induction qs with
        | nil => intro _ _ _ _; rfl
        | cons q qs ihq =>
          intro o r' k' hr'
          simp only [cellProcLoop]
          rw [ihq _ _ _ (by omega), rd_wr_ne _ _ _ _ (by omega)]
      show rd (cellProcLoop value L ps _ (r + 1) _) r = _
      rw [hkeep _ _ _ _ (Nat.lt_succ_self r), rd_wr_same _ _ _ (by omega)]
      simp
    | succ j =>
      have := ih (offP + p.kind.nParams * L) (r + 1) (wr k r (value p offP)) (by rw [wr_size]; omega) j
        (by simpa using hj)
      rw [show r + (j + 1) = r + 1 + j by omega, this]
      simp only [List.getElem_cons_succ, paramOffset_cons_succ, Nat.add_mul, Nat.add_assoc]

variable [OfNat α 1] [Add α] [Sub α] [Mul α] [Div α] [Neg α]
variable (t : TOps α) (pi av : α) (L : Nat) (conds : Array (Conditions α)) (vcp : Array α)

theorem vecProcLoop_view (g size m : Nat) (hm : m < size) (hsize : size ≤ L) (off n : Nat)
    (ps : List (RateProc α)) (offP r : Nat) (hr : r + ps.length ≤ n) (F f : Array α)
    (h : View n (fun j => off + j * L + m) F f) :
    View n (fun j => off + j * L + m) (vecProcLoop t pi av L conds vcp g size ps offP (off + r * L) F)
      (cellProcLoop (fun p o => vecCellValue t pi av L conds vcp g p o m) L ps offP r f) := by
  induction ps generalizing offP r F f with
  | nil => exact h
  | cons p ps ih =>
    simp only [vecProcLoop, cellProcLoop, List.length_cons] at hr ⊢
    rw [show off + r * L + L = off + (r + 1) * L by rw [Nat.succ_mul]; omega]
    exact ih _ _ (by omega) _ _
      (View.lanes_step L size m off hm hsize r (by omega)
        (fun _ l => vecCellValue t pi av L conds vcp g p offP l) (fun _ => _) (fun _ _ _ => rfl) h)

theorem vecProcLoop_keeps (g size off n : Nat) (ps : List (RateProc α)) (offP r : Nat)
    (hr : r + ps.length ≤ n) (F : Array α) :
    Keeps (· < n) size L off F (vecProcLoop t pi av L conds vcp g size ps offP (off + r * L) F) := by
  induction ps generalizing offP r F with
  | nil => exact Keeps.refl ..
  | cons p ps ih =>
    simp only [vecProcLoop, List.length_cons] at hr ⊢
    rw [show off + r * L + L = off + (r + 1) * L by rw [Nat.succ_mul]; omega]
    exact (Keeps.lanes (· < n) size L off r (by omega)
      (fun _ l => vecCellValue t pi av L conds vcp g p offP l) F).trans (ih _ _ (by omega) _)

end Vec

section VecMain
variable {α : Type} [OfNat α 0] [OfNat α 1] [Add α] [Sub α] [Mul α] [Div α] [Neg α]
variable (t : TOps α) (pi av : α) (L : Nat) (conds : Array (Conditions α)) (vcp : Array α)

omit [OfNat α 1] [Add α] [Sub α] [Mul α] [Div α] [Neg α] in
theorem gatherParams_eq_slice (P c off n : Nat) (hL : L ≠ 0) (h : off + n ≤ P) (nCells : Nat) :
    gatherParams L vcp (c / L * (L * P) + off * L) (c % L) n =
      ((logicalRow ⟨nCells, P, L⟩ vcp c).drop off).take n := by
  unfold logicalRow gatherParams
  rw [map_range_drop_take _ _ _ _ h]
  apply List.map_congr_left
  intro i _
  rw [addr_eq_slot, slot_eq_lane]
  simp only [laneOff, laneStride, laneIdx, hL, if_false, Nat.add_mul, Nat.add_assoc]

theorem calculateRateConstantsVec_eq (procs : List (RateProc α)) (nCells : Nat) (hL : 0 < L)
    (vrc : Array α) :
    calculateRateConstantsVec t pi av L nCells procs conds vcp vrc =
      (List.range ((nCells + L - 1) / L)).foldl (fun vrc g =>
        vecProcLoop t pi av L conds vcp g (min L (nCells - g * L)) procs
          (g * (L * nParamsTotal procs)) (g * (L * procs.length) + 0 * L) vrc) vrc := by
  unfold calculateRateConstantsVec DenseShape.groups
  rw [if_neg (by simp only; omega)]
  simp only [Nat.zero_mul, Nat.add_zero]

/-- the slots left untouched are the padding lanes of the last group and anything past the storage -/
theorem calculateRateConstantsVec_keeps (procs : List (RateProc α)) (nCells : Nat) (hL : 0 < L)
    (vrc : Array α) :
    (calculateRateConstantsVec t pi av L nCells procs conds vcp vrc).size = vrc.size ∧
    ∀ i, (∀ c, c < nCells → ∀ r, r < procs.length → i ≠ (DenseShape.mk nCells procs.length L).addr c r) →
      rd (calculateRateConstantsVec t pi av L nCells procs conds vcp vrc) i = rd vrc i := by
  have hL0 : L ≠ 0 := by omega
  rw [calculateRateConstantsVec_eq _ _ _ _ _ _ _ _ hL]
  refine foldl_inv (fun X : Array α => X.size = vrc.size ∧ ∀ i, (∀ c, c < nCells → ∀ r, r < procs.length →
    i ≠ (DenseShape.mk nCells procs.length L).addr c r) → rd X i = rd vrc i) _ _ (fun g _ X hX => ?_)
    ⟨rfl, fun _ _ => rfl⟩
  obtain ⟨ks, kr⟩ := vecProcLoop_keeps t pi av L conds vcp g (min L (nCells - g * L))
    (g * (L * procs.length)) procs.length procs (g * (L * nParamsTotal procs)) 0 (by omega) X
  refine ⟨ks.trans hX.1, fun i hi => (kr i (fun r l hr hl e => ?_)).trans (hX.2 i hi)⟩
  refine hi (g * L + l) (by omega) r hr ?_
  rw [addr_eq_slot, slot_vec_lane L _ g l r hL0 (by omega)]
  exact e.symm

theorem calculateRateConstantsVec_addr (procs : List (RateProc α)) (hL : 0 < L)
    (vrc : Array α) (hvrc : vrc.size = (DenseShape.mk conds.size procs.length L).size)
    (c : Nat) (hc : c < conds.size) (r : Nat) (hr : r < procs.length) :
    rd (calculateRateConstantsVec t pi av L conds.size procs conds vcp vrc)
        ((DenseShape.mk conds.size procs.length L).addr c r) =
      (rateConstGo t pi av conds[c] procs
        (logicalRow ⟨conds.size, nParamsTotal procs, L⟩ vcp c))[r]'(by
          rw [rateConstGo_length]; exact hr) := by
  have hL0 : L ≠ 0 := by omega
  have hm : c % L < L := Nat.mod_lt c hL
  -- the view of cell `c`'s row after the group loop: its own group hits it, the others keep it
  have V := foldl_hit_one (View procs.length (fun j => c / L * (L * procs.length) + j * L + c % L))
    (fun vrc g => vecProcLoop t pi av L conds vcp g (min L (conds.size - g * L)) procs
      (g * (L * nParamsTotal procs)) (g * (L * procs.length) + 0 * L) vrc)
    (cellProcLoop (fun p o => vecCellValue t pi av L conds vcp (c / L) p o (c % L)) L procs
      (c / L * (L * nParamsTotal procs)) 0)
    (c / L) _ List.nodup_range (List.mem_range.2 (div_lt_ceil hL hc))
    (fun g _ hne F f h => (vecProcLoop_keeps t pi av L conds vcp g _ _ procs.length procs _ 0 (by omega) F).view_other
      (off := fun n => c / L * (L * n)) (off' := fun n => g * (L * n)) (Nat.min_le_left _ _) hm
      (laneDisj_groups hne) h)
    (fun F f h => vecProcLoop_view t pi av L conds vcp (c / L) _ (c % L) (lane_lt_min hL0 hc)
      (Nat.min_le_left _ _) _ procs.length procs _ 0 (by omega) F f h)
    (by
      have V0 := View.ofSparseRow (L := L) (nnz := procs.length) (blocks := conds.size) hvrc hc
      simpa only [slot_lane, laneOff, laneStride, laneIdx, hL0, if_false] using V0)
  rw [calculateRateConstantsVec_eq _ _ _ _ _ _ _ _ hL, rateConstGo_getElem _ _ _ _ _ _ _ hr, addr_eq_slot,
    slot_eq_lane]
  simp only [laneOff, laneStride, laneIdx, hL0, if_false]
  have hrd := rd_cellProcLoop (fun p o => vecCellValue t pi av L conds vcp (c / L) p o (c % L)) L procs
    (c / L * (L * nParamsTotal procs)) 0 (sparseRow L procs.length vrc c)
    (by rw [sparseRow_size]; omega) r hr
  rw [Nat.zero_add] at hrd
  rw [V.val r hr, hrd]
  unfold vecCellValue
  have hcond : conds.getD (c / L * L + c % L) ⟨0, 0, 0⟩ = conds[c] := by
    rw [Nat.div_add_mod' c L, Array.getD_eq_getD_getElem?, Array.getElem?_eq_getElem hc]; rfl
  simp only [hcond]
  rw [gatherParams_eq_slice L vcp (nParamsTotal procs) c _ _ hL0 (paramOffset_add_le procs r hr)
    conds.size]

end VecMain

end Micm
