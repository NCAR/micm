/-
Lemmas about the flattened backward-Euler loop (`beLoop`, `beSolve`): the relation of `beLoop` to the
iterates of `beStep`, and the invariants used by C05 / C06 / C07 / C08 / C09 (backward-Euler parts).
Each invariant is checked against the five cases of `beStep_spec` (`Micm/Lemmas/BEStep.lean`).
-/
import Micm.Lemmas.Conservation

namespace Micm
set_option linter.unusedSectionVars false
open Finset

section BEAny
variable {α : Type} [OfNat α 0] [OfNat α 1] [OfNat α 2] [Add α] [Sub α] [Mul α] [Div α]
variable (o : Ops α) (s : SolverCfg α) (p : BEParams α) (kc : Mat α) (atol : Array α) (rtol : α)
    (T : α)

theorem beLoop_eq_iterate (fuel : Nat) (r : BEState α) :
    ∃ N, N ≤ fuel ∧ (∀ k, k < N → ((beStep o s p kc atol rtol T)^[k] r).done = false) ∧
      ((((beStep o s p kc atol rtol T)^[N] r).done = true ∧
          beLoop o s p kc atol rtol T fuel r = (beStep o s p kc atol rtol T)^[N] r) ∨
       (N = fuel ∧ ((beStep o s p kc atol rtol T)^[N] r).done = false ∧
          beLoop o s p kc atol rtol T fuel r =
            { (beStep o s p kc atol rtol T)^[N] r with status := .outOfFuel })) := by
  induction fuel generalizing r with
  | zero =>
    refine ⟨0, Nat.le_refl _, fun k hk => by omega, ?_⟩
    rw [beLoop_zero]
    cases hd : r.done
    · right; exact ⟨rfl, hd, by simp [hd]⟩
    · left; exact ⟨hd, by simp⟩
  | succ n ih =>
    rw [beLoop_succ]
    cases hd : r.done
    · obtain ⟨N, hN, hk, hcase⟩ := ih (beStep o s p kc atol rtol T r)
      refine ⟨N + 1, by omega, ?_, ?_⟩
      · intro k hk'
        cases k with
        | zero => exact hd
        | succ k => rw [Function.iterate_succ_apply]; exact hk k (by omega)
      · simp only [Bool.false_eq_true, if_false, Function.iterate_succ_apply]
        rcases hcase with h | ⟨h1, h2, h3⟩
        · left; exact h
        · right; exact ⟨by omega, h2, h3⟩
    · exact ⟨0, by omega, fun k hk => by omega, Or.inl ⟨hd, by simp⟩⟩

/-- C06: the five per-iteration counters agree with the ghost trace -/
def BECountInv (r : BEState α) : Prop :=
  r.stats.functionCalls = r.trace.length ∧ r.stats.jacobianUpdates = r.trace.length ∧
  r.stats.decompositions = r.trace.length ∧ r.stats.solves = r.trace.length ∧
  r.stats.numberOfSteps = r.trace.length

theorem BECountInv_step (r : BEState α) (h : BECountInv r) :
    BECountInv (beStep o s p kc atol rtol T r) := by
  obtain ⟨h1, h2, h3, h4, h5⟩ := h
  have succ : ∀ {a b : Nat}, a = b → a + 1 = b + 1 := fun e => congrArg (· + 1) e
  have hs := beStep_spec o s p kc atol rtol T r
  generalize beStep o s p kc atol rtol T r = r' at hs ⊢
  cases hs with
  | exit => exact ⟨h1, h2, h3, h4, h5⟩
  | _ => exact ⟨succ h1, succ h2, succ h3, succ h4, succ h5⟩

theorem BECountInv_loop (fuel : Nat) (r : BEState α) (h : BECountInv r) :
    BECountInv (beLoop o s p kc atol rtol T fuel r) :=
  beLoop_inv o s p kc atol rtol T BECountInv (fun r _ h => BECountInv_step o s p kc atol rtol T r h)
    (fun _ _ h => h) fuel r h

/-- does the iteration from `r` complete an outer iteration (accept or reject)? -/
def beCompletes (r : BEState α) : Bool :=
  !(beHead o T r).done && !(!(beConv o s p kc atol rtol r) && decide (r.iterations + 1 < p.maxSteps))

def beOuterCount (N : Nat) (r : BEState α) : Nat :=
  ((List.range N).filter fun k =>
    beCompletes o s p kc atol rtol T ((beStep o s p kc atol rtol T)^[k] r)).length

structure BECtlInv (p : BEParams α) (r : BEState α) : Prop where
  nSucc : r.nSucc ≤ 1
  nFail : r.nFail ≤ p.reductions.length
  accDone : r.status = .acceptingUnconvergedIntegration → r.done = true
  rej : r.stats.rejected = r.nFail + (if r.status = .acceptingUnconvergedIntegration then 1 else 0)
  iters : r.iterations = 0 ∨ r.iterations < p.maxSteps
  lower : r.stats.accepted + r.stats.rejected + r.iterations ≤ r.trace.length
  upper : r.trace.length ≤ (r.stats.accepted + r.stats.rejected) * max 1 p.maxSteps + r.iterations
  start : r.iterations = 0 → r.done = false → r.Yn1 = r.Yn

theorem BECtlInv_step (r : BEState α) (hd : r.done = false) (h : BECtlInv p r) :
    BECtlInv p (beStep o s p kc atol rtol T r) := by
  obtain ⟨i1, i2, i3, i4, i5, i6, i7, i8⟩ := h
  have hna : r.status ≠ .acceptingUnconvergedIntegration := fun h => by
    rw [i3 h] at hd; cases hd
  have hst : (beHead o T r).status ≠ .acceptingUnconvergedIntegration := by
    rw [beHead_status_eq]; split
    · exact fun h => by cases h
    · exact hna
  have i4 : r.stats.rejected = r.nFail := by rw [if_neg hna] at i4; exact i4
  -- an outer iteration that completes now has made at most `max 1 maxSteps` Newton iterations
  have hup : ∀ n, n = r.stats.accepted + r.stats.rejected + 1 →
      r.trace.length + 1 ≤ n * max 1 p.maxSteps + 0 := by
    intro n hn
    have hk : r.iterations + 1 ≤ max 1 p.maxSteps := by rcases i5 with h | h <;> omega
    rw [hn, Nat.succ_mul]; omega
  have hs := beStep_spec o s p kc atol rtol T r
  generalize beStep o s p kc atol rtol T r = r' at hs ⊢
  cases hs with
  | exit h =>
    exact ⟨i1, i2, fun _ => rfl, by rw [if_neg hst]; exact i4, i5, i6, i7, fun _ h' => by cases h'⟩
  | cont _ _ hm =>
    refine ⟨i1, i2, fun h' => absurd h' hst, by rw [if_neg hst]; exact i4, Or.inr hm, ?_, ?_,
      fun h' => absurd h' (Nat.succ_ne_zero _)⟩
    · dsimp only [List.length_cons]; omega
    · dsimp only [List.length_cons]; omega
  | giveUp =>
    refine ⟨Nat.zero_le _, i2, fun _ => rfl, by rw [if_pos rfl, i4], Or.inl rfl, ?_,
      hup _ (Nat.add_assoc _ _ _).symm, fun _ h' => by cases h'⟩
    dsimp only [List.length_cons]; omega
  | retry _ _ _ hf =>
    refine ⟨Nat.zero_le _, hf, fun h' => absurd h' hst, by rw [if_neg hst, i4], Or.inl rfl, ?_,
      hup _ (Nat.add_assoc _ _ _).symm, fun _ _ => rfl⟩
    dsimp only [List.length_cons]; omega
  | accept =>
    refine ⟨?_, i2, fun h' => (by cases h'), i4, Or.inl rfl, ?_, hup _ (Nat.add_right_comm _ _ _), fun _ _ => rfl⟩
    · dsimp only; split <;> omega
    · dsimp only [List.length_cons]; omega

theorem BECtlInv_outOfFuel (r : BEState α) (hd : r.done = false) (h : BECtlInv p r) :
    BECtlInv p { r with status := .outOfFuel } := by
  obtain ⟨i1, i2, i3, i4, i5, i6, i7, i8⟩ := h
  have hna : r.status ≠ .acceptingUnconvergedIntegration := fun h => by
    rw [i3 h] at hd; cases hd
  rw [if_neg hna] at i4
  exact ⟨i1, i2, fun h' => (by cases h'), i4, i5, i6, i7, i8⟩

theorem BECtlInv_loop (fuel : Nat) (r : BEState α) (h : BECtlInv p r) :
    BECtlInv p (beLoop o s p kc atol rtol T fuel r) :=
  beLoop_inv o s p kc atol rtol T (BECtlInv p)
    (fun r hd h => BECtlInv_step o s p kc atol rtol T r hd h)
    (fun r hd h => BECtlInv_outOfFuel p r hd h) fuel r h

def beInit (h : α) (Y : Mat α) (sc : Scratch α) : BEState α :=
  { Yn1 := Y, Yn := Y, t := 0, h, nSucc := 0, nFail := 0, iterations := 0, stats := {},
    status := .notYetCalled, done := false, sc, trace := [] }

/-- the first `H` of the source: `h_start == 0 ? time_step : std::min(h_start, time_step)` -/
def beInitialH (T : α) : α := if o.eq p.hstart 0 then T else cmin o p.hstart T

theorem beSolve_eq (Y : Mat α) (sc : Scratch α) (fuel : Nat) :
    beSolve o s p kc atol rtol T Y sc fuel =
      let r := beLoop o s p kc atol rtol T fuel (beInit (beInitialH o p T) Y sc)
      { status := r.status, finalTime := r.t, stats := r.stats, Y := r.Yn1,
        sc := { r.sc with ynew := r.Yn },
        trace := r.trace.reverse.map fun it =>
          { h := it.h, alpha := 1 / it.h, matrix := it.matrix, error := 0, accepted := true } } := rfl

theorem BECountInv_init (h : α) (Y : Mat α) (sc : Scratch α) : BECountInv (beInit h Y sc) :=
  ⟨rfl, rfl, rfl, rfl, rfl⟩

theorem BECtlInv_init (h : α) (Y : Mat α) (sc : Scratch α) : BECtlInv p (beInit h Y sc) :=
  ⟨Nat.zero_le _, Nat.zero_le _, fun h => (by cases h), rfl, Or.inl rfl, Nat.le_refl _,
    Nat.zero_le _, fun _ _ => rfl⟩

end BEAny

section BEOrdered
variable {K : Type} [Field K] [LinearOrder K] [IsStrictOrderedRing K]
variable {o : Ops K} (ho : OrderedOps o) (s : SolverCfg K) (p : BEParams K) (kc : Mat K)
    (atol : Array K) (rtol : K) (T : K)

/-- C06: holds along the loop when the first `H` does not exceed `time_step` -/
structure BETimeInv (T : K) (r : BEState K) : Prop where
  t0 : 0 ≤ r.t
  h0 : 0 ≤ r.h
  tT : r.t ≤ T
  hle : r.done = false → r.h ≤ T - r.t
  fin : r.done = true →
    r.status = .acceptingUnconvergedIntegration ∨ (r.status = .converged ∧ r.t = T)
  stat : r.done = false →
    r.status = .converged ∨ ((r.status = .running ∨ r.status = .notYetCalled) ∧ r.t < T)

include ho in
theorem BETimeInv_step (hred : ∀ x ∈ p.reductions, 0 ≤ x) (r : BEState K) (hd : r.done = false)
    (h : BETimeInv T r) : BETimeInv T (beStep o s p kc atol rtol T r) := by
  obtain ⟨i1, i2, i3, i4, i5, i6⟩ := h
  have i4 := i4 hd
  have i6 := i6 hd
  have hlt : o.lt r.t T = decide (r.t < T) := ho.lt _ _
  -- the head ends the loop only at `t = T`; past the head, `t < T` unless an outer iteration is under way
  have hhead : ((beHead o T r).done = true → (beHead o T r).status = .converged ∧ r.t = T) ∧
      ((beHead o T r).done = false → (beHead o T r).status = .converged ∨
        (((beHead o T r).status = .running ∨ (beHead o T r).status = .notYetCalled) ∧ r.t < T)) := by
    rcases beHead_cases o T r with ⟨_, hl, h⟩ | ⟨_, hl, h⟩ | ⟨_, h⟩
    · rw [h]
      exact ⟨fun h' => (by rw [hd] at h'; cases h'),
        fun _ => Or.inr ⟨Or.inl rfl, of_decide_eq_true (hlt ▸ hl)⟩⟩
    · rw [h]
      have hn : ¬ r.t < T := of_decide_eq_false (hlt ▸ hl)
      refine ⟨fun _ => ?_, fun h' => (by cases h')⟩
      rcases i6 with h6 | ⟨_, h6⟩
      · exact ⟨h6, le_antisymm i3 (not_lt.mp hn)⟩
      · exact absurd h6 hn
    · rw [h]; exact ⟨fun h' => (by rw [hd] at h'; cases h'), fun _ => i6⟩
  have htT : r.t + r.h ≤ T := le_sub_iff_add_le'.mp i4
  have hs := beStep_spec o s p kc atol rtol T r
  generalize beStep o s p kc atol rtol T r = r' at hs ⊢
  cases hs with
  | exit h =>
    exact ⟨i1, i2, i3, fun h' => (by cases h'), fun _ => Or.inr (hhead.1 h), fun h' => (by cases h')⟩
  | cont h1 => exact ⟨i1, i2, i3, fun _ => i4, fun h' => (by cases h'), fun _ => hhead.2 h1⟩
  | giveUp =>
    exact ⟨add_nonneg i1 i2, i2, htT, fun h' => (by cases h'), fun _ => Or.inl rfl,
      fun h' => (by cases h')⟩
  | retry h1 _ _ h4 =>
    have hr : 0 ≤ p.reductions.getD r.nFail 1 := by
      have e : p.reductions.getD r.nFail 1 = p.reductions[r.nFail] := by simp [List.getD, h4]
      rw [e]; exact hred _ (List.getElem_mem h4)
    refine ⟨i1, ?_, i3, fun _ => ?_, fun h' => (by cases h'), fun _ => hhead.2 h1⟩
    · dsimp only; rw [ho.cmin_eq]; exact le_min (mul_nonneg i2 hr) (sub_nonneg.mpr i3)
    · dsimp only; rw [ho.cmin_eq]; exact min_le_right _ _
  | accept =>
    refine ⟨add_nonneg i1 i2, ?_, htT, fun _ => ?_, fun h' => (by cases h'), fun _ => Or.inl rfl⟩
    · dsimp only; rw [ho.cmin_eq]
      refine le_min ?_ (sub_nonneg.mpr htT)
      split
      · exact mul_nonneg i2 (by norm_num)
      · exact i2
    · dsimp only; rw [ho.cmin_eq]; exact min_le_right _ _

include ho in
theorem beInitialH_eq : beInitialH o p T = if p.hstart = 0 then T else min p.hstart T := by
  unfold beInitialH; rw [ho.eq, ho.cmin_eq]; simp only [decide_eq_true_eq]

include ho in
theorem beInitialH_bounds (hT : 0 < T) (hs0 : 0 ≤ p.hstart) :
    0 ≤ beInitialH o p T ∧ beInitialH o p T ≤ T := by
  rw [beInitialH_eq ho]; split
  · exact ⟨le_of_lt hT, le_refl _⟩
  · exact ⟨le_min hs0 (le_of_lt hT), min_le_right _ _⟩

theorem BETimeInv_init (hT : 0 < T) (h : K) (h0 : 0 ≤ h) (hle : h ≤ T) (Y : Mat K) (sc : Scratch K) :
    BETimeInv T (beInit h Y sc) :=
  ⟨le_refl _, h0, le_of_lt hT, fun _ => (by simpa [beInit] using hle),
    fun h' => (by simp [beInit] at h'), fun _ => Or.inr ⟨Or.inr rfl, hT⟩⟩

include ho in
theorem beLoop_time (hred : ∀ x ∈ p.reductions, 0 ≤ x) (fuel : Nat) (r : BEState K)
    (h : BETimeInv T r) :
    0 ≤ (beLoop o s p kc atol rtol T fuel r).t ∧ (beLoop o s p kc atol rtol T fuel r).t ≤ T ∧
    0 ≤ (beLoop o s p kc atol rtol T fuel r).h ∧
    ((beLoop o s p kc atol rtol T fuel r).status = .converged →
      (beLoop o s p kc atol rtol T fuel r).t = T) ∧
    ((beLoop o s p kc atol rtol T fuel r).status = .converged ∨
     (beLoop o s p kc atol rtol T fuel r).status = .acceptingUnconvergedIntegration ∨
     (beLoop o s p kc atol rtol T fuel r).status = .outOfFuel) := by
  rcases beLoop_inv' o s p kc atol rtol T (BETimeInv T)
    (fun r hd h => BETimeInv_step ho s p kc atol rtol T hred r hd h) fuel r h with ⟨h1, h2⟩ | ⟨r', h1, _, h3⟩
  · refine ⟨h1.t0, h1.tT, h1.h0, fun hc => ?_, ?_⟩
    · rcases h1.fin h2 with h4 | ⟨_, h4⟩
      · rw [hc] at h4; cases h4
      · exact h4
    · rcases h1.fin h2 with h4 | ⟨h4, _⟩
      · exact Or.inr (Or.inl h4)
      · exact Or.inl h4
  · rw [h3]
    exact ⟨h1.t0, h1.tT, h1.h0, fun hc => (by simp at hc), Or.inr (Or.inr rfl)⟩

/-- without any assumption on `h_start`: a `done` state that is not the give-up exit has `T ≤ t` -/
def BEFinInv (T : K) (r : BEState K) : Prop :=
  r.done = true → r.status = .acceptingUnconvergedIntegration ∨ T ≤ r.t

include ho in
theorem BEFinInv_step (r : BEState K) (hd : r.done = false) :
    BEFinInv T (beStep o s p kc atol rtol T r) := by
  have hs := beStep_spec o s p kc atol rtol T r
  generalize beStep o s p kc atol rtol T r = r' at hs ⊢
  cases hs with
  | exit h =>
    -- the head sets `done` only when the test `t < time_step` fails
    rw [beHead_done o T r hd, Bool.and_eq_true, Bool.not_eq_true', ho.lt, decide_eq_false_iff_not] at h
    exact fun _ => Or.inr (not_lt.mp h.2)
  | giveUp => exact fun _ => Or.inl rfl
  | _ => exact fun h' => by cases h'

end BEOrdered

section BEField
variable {K : Type} [Field K]

/-- `AddToDiagonal(v)` and `AlphaMinusJacobian(v)` are the same operation on the model's cells -/
theorem addDiag_eq (s : SolverCfg K) (J : Mat K) (v : K) :
    addDiag s.diag J v = s.alphaMinusJacobian J v := rfl

theorem beMatrix_eq (s : SolverCfg K) (kc : Mat K) (r : BEState K) :
    beMatrix s kc r = s.alphaMinusJacobian (s.jacobian kc r.Yn1 (fillM r.sc.jac 0)) (1 / r.h) := rfl

/-- the right-hand side handed to `Solve` -/
def beRhs (s : SolverCfg K) (kc : Mat K) (r : BEState K) : Mat K :=
  (beForcing s kc r).mapIdx fun c fr => fr.mapIdx fun v f =>
    f - (rd (r.Yn1.getD c #[]) v - rd (r.Yn.getD c #[]) v) / r.h

theorem beResidual_eq (s : SolverCfg K) (kc : Mat K) (r : BEState K) :
    beResidual s kc r =
      s.linSolve (beFactor s kc r).1 (beFactor s kc r).2.1 (beFactor s kc r).2.2 (beRhs s kc r) := rfl

def beUnclipped (s : SolverCfg K) (kc : Mat K) (r : BEState K) : Mat K :=
  r.Yn1.mapIdx fun c yr => yr.mapIdx fun v y => y + rd ((beResidual s kc r).getD c #[]) v

variable (o : Ops K) {s : SolverCfg K} (kc : Mat K) {n : Nat} (c : Nat)
    {m : NameMap} {procs : List (Process K)} {kind : LUKind} {jac : Pattern}

theorem rd_beUnclipped (s : SolverCfg K) (r : BEState K) (hY : CellShape n c r.Yn1) (v : Nat)
    (hv : v < n) :
    rd ((beUnclipped s kc r).getD c #[]) v
      = rd (r.Yn1.getD c #[]) v + rd ((beResidual s kc r).getD c #[]) v := by
  have hv' : v < (r.Yn1.getD c #[]).size := by rw [hY.2]; exact hv
  unfold beUnclipped
  rw [getD_mapIdx _ r.Yn1 c hY.1 #[] #[], rd_mapIdx _ _ _ hv']

theorem rd_beNewY (r : BEState K) (hY : CellShape n c r.Yn1) (v : Nat) (hv : v < n) :
    rd ((beNewY o s kc r).getD c #[]) v = cmax o (rd ((beUnclipped s kc r).getD c #[]) v) 0 := by
  have hv' : v < (r.Yn1.getD c #[]).size := by rw [hY.2]; exact hv
  rw [rd_beUnclipped kc c s r hY v hv]
  unfold beNewY
  rw [getD_mapIdx _ r.Yn1 c hY.1 #[] #[], rd_mapIdx _ _ _ hv']

theorem beNewY_shape (r : BEState K) (hY : CellShape n c r.Yn1) :
    CellShape n c (beNewY o s kc r) ∧ CellShape n c (beUnclipped s kc r) := by
  unfold CellShape beNewY beUnclipped
  rw [getD_mapIdx _ r.Yn1 c hY.1 #[] #[], getD_mapIdx _ r.Yn1 c hY.1 #[] #[]]
  simp only [Array.size_mapIdx]
  exact ⟨hY, hY⟩

theorem beForcing_cell (s : SolverCfg K) (r : BEState K) (hf0 : CellShape n c r.sc.f0) :
    CellShape n c (beForcing s kc r) ∧
    (beForcing s kc r).getD c #[] =
      s.tables.addForcingCell (kc.getD c #[]) (r.Yn1.getD c #[]) (Array.replicate n 0) := by
  obtain ⟨z1, z2⟩ := cellShape_fillM hf0 (0 : K)
  refine ⟨cellShape_forcing s kc _ _ z1, ?_⟩
  unfold beForcing
  rw [forcing_getD s kc r.Yn1 _ c z1.1, z2]

theorem beRhs_cell (s : SolverCfg K) (r : BEState K) (hf0 : CellShape n c r.sc.f0) :
    CellShape n c (beRhs s kc r) ∧
    ∀ i, i < n → rd ((beRhs s kc r).getD c #[]) i =
      rd ((beForcing s kc r).getD c #[]) i
        - (rd (r.Yn1.getD c #[]) i - rd (r.Yn.getD c #[]) i) / r.h := by
  obtain ⟨f1, _⟩ := beForcing_cell kc c s r hf0
  have e : (beRhs s kc r).getD c #[] = ((beForcing s kc r).getD c #[]).mapIdx fun v f =>
      f - (rd (r.Yn1.getD c #[]) v - rd (r.Yn.getD c #[]) v) / r.h := by
    unfold beRhs; rw [getD_mapIdx _ _ c f1.1 #[] #[]]
  refine ⟨⟨?_, ?_⟩, fun i hi => ?_⟩
  · unfold beRhs; rw [Array.size_mapIdx]; exact f1.1
  · rw [e, Array.size_mapIdx]; exact f1.2
  rw [e, rd_mapIdx _ _ _ (by rw [f1.2]; exact hi)]

/-- **C05, one cell**: the Newton update `δ = beResidual` of cell `c` solves
    `(I/H − ∂f/∂y(Yn1)) δ = f(Yn1) − (Yn1 − Yn)/H` on the logical rows, for a configuration built as
    the builder does (all four LU variants), provided no pivot of the cell is zero -/
theorem be_newton_system (hb : BuiltCfg s m procs n kind jac) (r : BEState K)
    (hf0 : CellShape n c r.sc.f0) (hj : CellShape s.la.A.nnz c r.sc.jac)
    (hl : CellShape s.la.Lp.nnz c r.sc.lower) (hu : CellShape s.la.Up.nnz c r.sc.upper)
    (hpiv : ∀ i, i < n → attPivot s (beFactor s kc r) c i ≠ 0) (i : Nat) (hi : i < n) :
    ∑ j ∈ range n,
      ((if i = j then 1 / r.h else 0) + negJac m procs (kc.getD c #[]) (r.Yn1.getD c #[]) i j)
        * rd ((beResidual s kc r).getD c #[]) j
      = rd ((beForcing s kc r).getD c #[]) i
          - (rd (r.Yn1.getD c #[]) i - rd (r.Yn.getD c #[]) i) / r.h := by
  obtain ⟨x1, x2⟩ := beRhs_cell kc c s r hf0
  have hM : CellShape s.la.A.nnz c (beMatrix s kc r) := by
    rw [beMatrix_eq]
    exact cellShape_shift s _ _ (cellShape_jacobian s kc _ _ (cellShape_fillM hj 0).1)
  have h := factor_solve_cell hb.la hb.jn hb.jdiag (beMatrix s kc r) r.sc.lower r.sc.upper
    (beRhs s kc r) c hM hl hu x1 hpiv i hi
  rw [x2 i hi] at h
  rw [← h, beResidual_eq]
  apply sum_congr rfl
  intro j hj'
  rw [beMatrix_eq, view_shifted_jacobian hb kc r.Yn1 r.sc.jac c hj (1 / r.h) i j hi (mem_range.mp hj')]
  rfl

/-- C09: `w·(y + δ) = w·y_n` for every Newton iterate before clipping, whatever the previous
    iterate `y` -/
theorem be_unclipped_conserves (hb : BuiltCfg s m procs n kind jac) (rxns : List (RRxn K))
    (hr : Resolves m procs rxns) (w : Nat → K)
    (hbal : ∀ rx ∈ rxns, (rx.2.map fun p => w p.1 * p.2).sum = (rx.1.map w).sum)
    (r : BEState K) (hh : r.h ≠ 0) (hY : CellShape n c r.Yn1)
    (hf0 : CellShape n c r.sc.f0) (hj : CellShape s.la.A.nnz c r.sc.jac)
    (hl : CellShape s.la.Lp.nnz c r.sc.lower) (hu : CellShape s.la.Up.nnz c r.sc.upper)
    (hpiv : ∀ i, i < n → attPivot s (beFactor s kc r) c i ≠ 0) :
    wdot w n ((beResidual s kc r).getD c #[])
      = - (wdot w n (r.Yn1.getD c #[]) - wdot w n (r.Yn.getD c #[])) ∧
    wdot w n ((beUnclipped s kc r).getD c #[]) = wdot w n (r.Yn.getD c #[]) := by
  have hsys := be_newton_system kc c hb r hf0 hj hl hu hpiv
  -- `w` annihilates the columns of the Jacobian, so column `j` of the matrix weighs `w j / H`
  have hM : ∀ j, j < n → ∑ i ∈ range n, w i *
      ((if i = j then 1 / r.h else 0) + negJac m procs (kc.getD c #[]) (r.Yn1.getD c #[]) i j)
      = (1 / r.h) * w j :=
    fun j hj' => wsum_shift_negJac m procs rxns hr n hb.idlt w hbal _ _ (1 / r.h) j hj'
  have hdot := wdot_of_solve n w _ (1 / r.h) (fun j => rd ((beResidual s kc r).getD c #[]) j)
    (fun i => rd ((beForcing s kc r).getD c #[]) i
        - (rd (r.Yn1.getD c #[]) i - rd (r.Yn.getD c #[]) i) / r.h) hM hsys
  -- the forcing is orthogonal to `w`
  have hF : ∑ i ∈ range n, w i * rd ((beForcing s kc r).getD c #[]) i = 0 := by
    rw [(beForcing_cell kc c s r hf0).2]
    exact C09_forcing_orthogonal m procs s.tables rxns (.inr hb.tables) hr n hb.idlt w hbal _ _
  have hb' : ∑ i ∈ range n, w i * (rd ((beForcing s kc r).getD c #[]) i
        - (rd (r.Yn1.getD c #[]) i - rd (r.Yn.getD c #[]) i) / r.h)
      = - ((wdot w n (r.Yn1.getD c #[]) - wdot w n (r.Yn.getD c #[])) / r.h) := by
    have e : ∀ i ∈ range n, w i * (rd ((beForcing s kc r).getD c #[]) i
          - (rd (r.Yn1.getD c #[]) i - rd (r.Yn.getD c #[]) i) / r.h)
        = w i * rd ((beForcing s kc r).getD c #[]) i
          - (w i * rd (r.Yn1.getD c #[]) i - w i * rd (r.Yn.getD c #[]) i) * r.h⁻¹ := by
      intro i _; ring
    rw [sum_congr rfl e, sum_sub_distrib, hF, ← sum_mul, sum_sub_distrib]
    unfold wdot; ring
  have hδ : wdot w n ((beResidual s kc r).getD c #[])
      = - (wdot w n (r.Yn1.getD c #[]) - wdot w n (r.Yn.getD c #[])) := by
    -- `hdot`, `hb'`: both sides carry the factor `1/H`
    exact mul_left_cancel₀ (one_div_ne_zero hh)
      (hdot.symm.trans (hb'.trans (by rw [one_div, mul_neg, inv_mul_eq_div])))
  refine ⟨hδ, ?_⟩
  have e : wdot w n ((beUnclipped s kc r).getD c #[])
      = wdot w n (r.Yn1.getD c #[]) + wdot w n ((beResidual s kc r).getD c #[]) := by
    unfold wdot
    rw [← sum_add_distrib]
    apply sum_congr rfl
    intro v hv
    rw [rd_beUnclipped kc c s r hY v (mem_range.mp hv)]; ring
  rw [e, hδ]; ring

/-- C08, the algebra of the first Newton iteration from `y = y_n` for `f(y) = A y`, `J = A`:
    `(I/H − A) δ = A y_n` gives `(I − H A)(y_n + δ) = y_n` -/
theorem be_linear_first_alg (n : Nat) (A : Nat → Nat → K) (h : K) (hh : h ≠ 0) (yn δ : Nat → K)
    (hs : ∀ i, i < n → ∑ j ∈ range n, ((if i = j then 1 / h else 0) - A i j) * δ j
      = ∑ j ∈ range n, A i j * yn j) (i : Nat) (hi : i < n) :
    ∑ j ∈ range n, ((if i = j then 1 else 0) - h * A i j) * (yn j + δ j) = yn i := by
  have e : ∀ j ∈ range n, ((if i = j then (1 : K) else 0) - h * A i j) * (yn j + δ j)
      = (if i = j then yn j else 0) - h * (A i j * yn j)
        + h * (((if i = j then 1 / h else 0) - A i j) * δ j) := by
    intro j _
    by_cases hij : i = j
    · rw [if_pos hij, if_pos hij, if_pos hij, sub_mul (1 / h), mul_sub h, ← mul_assoc h (1 / h),
        mul_one_div_cancel hh]
      ring
    · rw [if_neg hij, if_neg hij, if_neg hij]; ring
  rw [sum_congr rfl e, sum_add_distrib, sum_sub_distrib, ← mul_sum, ← mul_sum, hs i hi, sum_ite_eq,
    if_pos (mem_range.mpr hi)]
  ring

def AllZero (x : Array K) : Prop := ∀ j, rd x j = 0

theorem allZero_wr_zero (x : Array K) (h : AllZero x) (i : Nat) (v : K) (hv : v = 0) :
    AllZero (wr x i v) := by
  intro j; rw [rd_wr]; split
  · exact hv
  · exact h j

/-- no pivot hypothesis: `0 / x = 0` in a field also for `x = 0` -/
theorem linSolve_allZero (s : SolverCfg K) (J Lo Up X : Mat K) (c : Nat)
    (h : AllZero (X.getD c #[])) : AllZero ((s.linSolve J Lo Up X).getD c #[]) :=
  linSolve_induct AllZero
    (fun x t m j hx => allZero_wr_zero x hx t _ (by rw [hx t, hx j, mul_zero, sub_zero]))
    (fun x t d hx => allZero_wr_zero x hx t _ (by rw [hx t, zero_div])) s J Lo Up X c h

theorem be_residual_zero (s : SolverCfg K) (r : BEState K) (hf0 : CellShape n c r.sc.f0)
    (h0 : ∀ i, i < n → rd ((beForcing s kc r).getD c #[]) i
      - (rd (r.Yn1.getD c #[]) i - rd (r.Yn.getD c #[]) i) / r.h = 0) :
    ∀ v, rd ((beResidual s kc r).getD c #[]) v = 0 := by
  obtain ⟨x1, x2⟩ := beRhs_cell kc c s r hf0
  rw [beResidual_eq]
  apply linSolve_allZero s _ _ _ _ c
  intro j
  by_cases hj : j < n
  · rw [x2 j hj, h0 j hj]
  · exact rd_of_ge _ _ (by rw [x1.2]; omega)

end BEField

section BEField2
variable {K : Type} [Field K]
variable (o : Ops K) {s : SolverCfg K} (p : BEParams K) (kc : Mat K) (atol : Array K) (rtol : K)
    (T : K) {n : Nat} (c : Nat) {m : NameMap} {procs : List (Process K)} {kind : LUKind}
    {jac : Pattern}

/-- C08: first Newton iteration of an outer iteration (`Yn1 = Yn` on the cell) when, at `Yn1`, the
    forcing is `A·y` and `−∂f/∂y = −A`: the un-clipped iterate `y` satisfies `(I − H A) y = y_n` -/
theorem be_linear_first (hb : BuiltCfg s m procs n kind jac) (A : Nat → Nat → K) (r : BEState K)
    (hh : r.h ≠ 0) (hY : CellShape n c r.Yn1) (hf0 : CellShape n c r.sc.f0)
    (hj : CellShape s.la.A.nnz c r.sc.jac) (hl : CellShape s.la.Lp.nnz c r.sc.lower)
    (hu : CellShape s.la.Up.nnz c r.sc.upper)
    (hpiv : ∀ i, i < n → attPivot s (beFactor s kc r) c i ≠ 0)
    (hstart : ∀ i, i < n → rd (r.Yn1.getD c #[]) i = rd (r.Yn.getD c #[]) i)
    (hlinF : ∀ i, i < n → rd ((beForcing s kc r).getD c #[]) i
      = ∑ j ∈ range n, A i j * rd (r.Yn1.getD c #[]) j)
    (hlinJ : ∀ i j, i < n → j < n →
      negJac m procs (kc.getD c #[]) (r.Yn1.getD c #[]) i j = - A i j)
    (i : Nat) (hi : i < n) :
    ∑ j ∈ range n, ((if i = j then 1 else 0) - r.h * A i j)
      * rd ((beUnclipped s kc r).getD c #[]) j = rd (r.Yn.getD c #[]) i := by
  have hsys := be_newton_system kc c hb r hf0 hj hl hu hpiv
  have hs : ∀ i, i < n → ∑ j ∈ range n, ((if i = j then 1 / r.h else 0) - A i j)
      * rd ((beResidual s kc r).getD c #[]) j = ∑ j ∈ range n, A i j * rd (r.Yn.getD c #[]) j := by
    intro i hi
    have h1 := hsys i hi
    rw [hlinF i hi, hstart i hi, sub_self, zero_div, sub_zero] at h1
    have e2 : ∑ j ∈ range n, A i j * rd (r.Yn.getD c #[]) j
        = ∑ j ∈ range n, A i j * rd (r.Yn1.getD c #[]) j :=
      sum_congr rfl (fun j hj' => by rw [hstart j (mem_range.mp hj')])
    rw [e2, ← h1]
    apply sum_congr rfl
    intro j hj'
    rw [hlinJ i j hi (mem_range.mp hj')]; ring
  have := be_linear_first_alg n A r.h hh (fun j => rd (r.Yn.getD c #[]) j)
    (fun j => rd ((beResidual s kc r).getD c #[]) j) hs i hi
  rw [← this]
  apply sum_congr rfl
  intro j hj'
  rw [rd_beUnclipped kc c s r hY j (mem_range.mp hj'), hstart j (mem_range.mp hj')]

/-- C08: at an iterate with `(I − H A) y = y_n` the residual vanishes, so the Newton update is zero -/
theorem be_linear_fixed (s : SolverCfg K) (A : Nat → Nat → K) (r : BEState K) (hh : r.h ≠ 0)
    (hf0 : CellShape n c r.sc.f0)
    (hlinF : ∀ i, i < n → rd ((beForcing s kc r).getD c #[]) i
      = ∑ j ∈ range n, A i j * rd (r.Yn1.getD c #[]) j)
    (hfix : ∀ i, i < n → ∑ j ∈ range n, ((if i = j then 1 else 0) - r.h * A i j)
      * rd (r.Yn1.getD c #[]) j = rd (r.Yn.getD c #[]) i) :
    ∀ v, rd ((beResidual s kc r).getD c #[]) v = 0 := by
  apply be_residual_zero kc c s r hf0
  intro i hi
  have h1 := hfix i hi
  have e : ∀ j ∈ range n, ((if i = j then (1 : K) else 0) - r.h * A i j) * rd (r.Yn1.getD c #[]) j
      = (if i = j then rd (r.Yn1.getD c #[]) j else 0) - r.h * (A i j * rd (r.Yn1.getD c #[]) j) := by
    intro j _
    by_cases hij : i = j
    · simp only [hij, if_true]; ring
    · simp only [hij, if_false]; ring
  rw [sum_congr rfl e, sum_sub_distrib, sum_ite_eq, ← mul_sum] at h1
  simp only [mem_range, hi, if_true] at h1
  rw [hlinF i hi, ← h1, sub_sub_cancel, mul_div_cancel_left₀ _ hh, sub_self]

theorem beStep_cont_fields (r : BEState K) (hd : (beHead o T r).done = false)
    (hc : beConv o s p kc atol rtol r = false) (hm : r.iterations + 1 < p.maxSteps) :
    let r1 := beStep o s p kc atol rtol T r
    r1.Yn1 = beNewY o s kc r ∧ r1.Yn = r.Yn ∧ r1.h = r.h ∧ r1.t = r.t ∧
    r1.sc.f0 = beResidual s kc r ∧ r1.iterations = r.iterations + 1 ∧
    (beHead o T r1).done = false := by
  intro r1
  have e : r1 = _ := (beStep_of_cont o s p kc atol rtol T r hd hc hm).trans (beNewton_head o s kc T r)
  rw [e]
  refine ⟨rfl, rfl, rfl, rfl, rfl, rfl, ?_⟩
  rw [beHead_of_ne_zero o T _ (Nat.succ_ne_zero _)]; exact hd

theorem beResidual_shape (s : SolverCfg K) (r : BEState K) (hf0 : CellShape n c r.sc.f0) :
    CellShape n c (beResidual s kc r) := by
  rw [beResidual_eq]
  exact cellShape_linSolve s _ _ _ _ (beRhs_cell kc c s r hf0).1

/-- C09, invariant of cell `c`: buffers of the configured sizes, and both `Yn1` and `Yn` carry the
    conserved sum `σ` -/
structure BEConsInv (s : SolverCfg K) (w : Nat → K) (n c : Nat) (σ : K) (r : BEState K) : Prop where
  Y1 : CellShape n c r.Yn1
  Y : CellShape n c r.Yn
  f0 : CellShape n c r.sc.f0
  jac : CellShape s.la.A.nnz c r.sc.jac
  lower : CellShape s.la.Lp.nnz c r.sc.lower
  upper : CellShape s.la.Up.nnz c r.sc.upper
  sum1 : wdot w n (r.Yn1.getD c #[]) = σ
  sum : wdot w n (r.Yn.getD c #[]) = σ

/-- what has to hold of the Newton iteration made from `r` (if one is made): `H ≠ 0`, no zero pivot
    in cell `c`, and the clamp does not change cell `c` -/
def BENoClip (s : SolverCfg K) (n c : Nat) (r : BEState K) : Prop :=
  (beHead o T r).done = false →
    r.h ≠ 0 ∧ (∀ i, i < n → attPivot s (beFactor s kc r) c i ≠ 0) ∧
    ∀ v, v < n → rd ((beNewY o s kc r).getD c #[]) v = rd ((beUnclipped s kc r).getD c #[]) v

theorem BEConsInv_step (hb : BuiltCfg s m procs n kind jac) (rxns : List (RRxn K))
    (hr : Resolves m procs rxns) (w : Nat → K)
    (hbal : ∀ rx ∈ rxns, (rx.2.map fun p => w p.1 * p.2).sum = (rx.1.map w).sum)
    (σ : K) (r : BEState K) (h : BEConsInv s w n c σ r) (hnc : BENoClip o kc T s n c r) :
    BEConsInv s w n c σ (beStep o s p kc atol rtol T r) := by
  cases hd : (beHead o T r).done
  · obtain ⟨hh, hpiv, hno⟩ := hnc hd
    have hcons := (be_unclipped_conserves kc c hb rxns hr w hbal r hh h.Y1 h.f0 h.jac h.lower h.upper
      hpiv).2
    have hN : CellShape n c (beNewY o s kc r) := (beNewY_shape o kc c r h.Y1).1
    have hNs : wdot w n ((beNewY o s kc r).getD c #[]) = σ := by
      rw [← h.sum, ← hcons]
      unfold wdot
      apply sum_congr rfl
      intro v hv
      rw [hno v (mem_range.mp hv)]
    have hM : CellShape s.la.A.nnz c (beMatrix s kc r) := by
      rw [beMatrix_eq]
      exact cellShape_shift s _ _ (cellShape_jacobian s kc _ _ (cellShape_fillM h.jac 0).1)
    obtain ⟨f1, f2, f3⟩ := cellShape_factor s (beMatrix s kc r) r.sc.lower r.sc.upper hM h.lower h.upper
    have hsc := beStep_sc o s p kc atol rtol T r hd
    have hY1 := beStep_Yn1 o s p kc atol rtol T r hd
    have hY1' : CellShape n c (beStep o s p kc atol rtol T r).Yn1 ∧
        wdot w n ((beStep o s p kc atol rtol T r).Yn1.getD c #[]) = σ := by
      rw [hY1]; split
      · exact ⟨h.Y, h.sum⟩
      · exact ⟨hN, hNs⟩
    have hYn : CellShape n c (beStep o s p kc atol rtol T r).Yn ∧
        wdot w n ((beStep o s p kc atol rtol T r).Yn.getD c #[]) = σ := by
      rcases beStep_Yn o s p kc atol rtol T r with ⟨e, _⟩ | ⟨e, _⟩
      · rw [e]; exact ⟨h.Y, h.sum⟩
      · rw [e]; exact hY1'
    refine ⟨hY1'.1, hYn.1, ?_, ?_, ?_, ?_, hY1'.2, hYn.2⟩
    · rw [hsc]; exact beResidual_shape kc c s r h.f0
    · rw [hsc]; exact f1
    · rw [hsc]; exact f2
    · rw [hsc]; exact f3
  · rw [beStep_of_exit o s p kc atol rtol T r hd]
    exact ⟨by simpa using h.Y1, by simpa using h.Y, by simpa using h.f0, by simpa using h.jac,
      by simpa using h.lower, by simpa using h.upper, by simpa using h.sum1, by simpa using h.sum⟩

theorem BEConsInv_loop (hb : BuiltCfg s m procs n kind jac) (rxns : List (RRxn K))
    (hr : Resolves m procs rxns) (w : Nat → K)
    (hbal : ∀ rx ∈ rxns, (rx.2.map fun p => w p.1 * p.2).sum = (rx.1.map w).sum)
    (σ : K) (fuel : Nat) (r : BEState K) (h : BEConsInv s w n c σ r)
    (hnc : ∀ k, k < fuel → BENoClip o kc T s n c ((beStep o s p kc atol rtol T)^[k] r)) :
    BEConsInv s w n c σ (beLoop o s p kc atol rtol T fuel r) := by
  induction fuel generalizing r with
  | zero =>
    rw [beLoop_zero]; split
    · exact h
    · exact ⟨h.1, h.2, h.3, h.4, h.5, h.6, h.7, h.8⟩
  | succ fuel ih =>
    rw [beLoop_succ]; split
    · exact h
    · apply ih _ (BEConsInv_step o p kc atol rtol T c hb rxns hr w hbal σ r h (hnc 0 (by omega)))
      intro k hk
      have := hnc (k + 1) (by omega)
      rwa [Function.iterate_succ_apply] at this

end BEField2

/-! ### a concrete instance over `ℚ` used by the `example`s of C05b/C06c/C06e/C07b/C08b/C09c:
    `A → B` (rate constant `k`), which conserves `A + B` and is linear: `f(y) = (−k y₀, k y₀)` -/

namespace BEEx

def procs : List (Process ℚ) :=
  [ { reactants := [⟨"A", false⟩], products := [(⟨"B", false⟩, 1)] } ]

def nmap : NameMap := [("A", 0), ("B", 1)]

def rxns : List (RRxn ℚ) := [([0], [(1, 1)])]

def w : Nat → ℚ
  | 0 => 1
  | 1 => 1
  | _ => 0

def tables : PSTables ℚ :=
  { nReact := [1], reactIds := [0], nProd := [1], prodIds := [1], yields := [1],
    jInfo := [⟨0, 0, 0, 1⟩], jReactIds := [], jProdIds := [1], jYields := [1] }

theorem exBuild : ProcessSet.build procs nmap = .ok tables := rfl

theorem exResolves : Resolves nmap procs rxns := by unfold Resolves; rfl

theorem exBalanced : ∀ rx ∈ rxns, (rx.2.map fun p => w p.1 * p.2).sum = (rx.1.map w).sum := by
  decide +kernel

/-- the Jacobian pattern the builder creates: `(0,0) (1,0) (1,1)` -/
def jacP : Pattern := Pattern.mk' 2 false 0 (buildJacobianSet 2 tables.nonZeroJacobianElements)

def flat : List Nat := [0, 1]

theorem exFlat (kind : LUKind) : tables.jacobianFlatIds (LinAlg.build kind jacP).A = .ok flat := by
  cases kind <;> decide +kernel

def cfg (kind : LUKind) : SolverCfg ℚ :=
  { nSpecies := 2, L := 0, tables := tables, flatIds := flat, la := LinAlg.build kind jacP,
    diag := (LinAlg.build kind jacP).A.diagRanks }

/-- `BuiltCfg` is satisfiable: it holds for this configuration, for every LU variant -/
theorem exBuilt (kind : LUKind) : BuiltCfg (cfg kind) nmap procs 2 kind jacP :=
  builtCfg_of_builder procs nmap tables exBuild (by decide) (by decide) (by simp [procs])
    2 (by decide) false 0 0 kind flat (exFlat kind)

/-- scratch buffers of the configured sizes, filled with junk (`7`) -/
def scratch (kind : LUKind) : Scratch ℚ :=
  let d : Mat ℚ := #[#[7, 7]]
  { jac := #[Array.replicate (cfg kind).la.A.nnz 7], lower := #[Array.replicate (cfg kind).la.Lp.nnz 7],
    upper := #[Array.replicate (cfg kind).la.Up.nnz 7], ynew := d, f0 := d, k := #[], yerr := d }

/-- the defaults of `BackwardEulerSolverParameters` (`small = 1e-40`, `h_start = 0`,
    `max_number_of_steps = 11`, reductions `½ ½ ½ ½ 0.1`) -/
def params : BEParams ℚ :=
  { small := 1 / 10 ^ 40, hstart := 0, maxSteps := 11, reductions := [1/2, 1/2, 1/2, 1/2, 1/10] }

/-- rate constant `k = 1`, `Y₀ = (1, 0)`, `atol = rtol = 1/10` -/
def run (kind : LUKind) (p : BEParams ℚ) (T : ℚ) (fuel : Nat) : SolveResult ℚ :=
  beSolve ratOps (cfg kind) p #[#[1]] #[1/10, 1/10] (1/10) T #[#[1, 0]] (scratch kind) fuel

def init (kind : LUKind) (p : BEParams ℚ) (T : ℚ) : BEState ℚ :=
  beInit (beInitialH ratOps p T) #[#[1, 0]] (scratch kind)

def iter (kind : LUKind) (p : BEParams ℚ) (T : ℚ) (k : Nat) : BEState ℚ :=
  (beStep ratOps (cfg kind) p #[#[1]] #[1/10, 1/10] (1/10) T)^[k] (init kind p T)

end BEEx

end Micm
