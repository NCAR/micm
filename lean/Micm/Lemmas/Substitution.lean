import Mathlib.Algebra.BigOperators.Group.Finset.Basic
import Mathlib.Algebra.BigOperators.Intervals
import Mathlib.Algebra.BigOperators.Ring.Finset
import Mathlib.Algebra.Field.Basic
import Mathlib.Tactic.Ring
import Mathlib.Tactic.FieldSimp
import Micm.Model.LU
import Micm.Lemmas.LUFolds

/-!
Lemmas for C03/C04.  The "accumulate into one slot" folds of all LU and substitution kernels are single
writes (`accum`); with that the passes of `solveCell` and `solveInPlaceCell` are substitution passes on
logical data (`fsub`, `bsub` over `view p a`, the matrix a rank-indexed array holds under a pattern), whose
equations compose to `(L·U) y = b`.  `lowerUnit` / `upperPart` are the two factors packed in an in-place LU.
-/
open Finset
namespace Micm
variable {K : Type} [Field K]

theorem wr_wr_same {α : Type} (a : Array α) (i : Nat) (v w : α) :
    wr (wr a i v) i w = wr a i w := by
  simp [wr, Array.setIfInBounds_setIfInBounds]

theorem wr_rd_self {α : Type} [OfNat α 0] (a : Array α) (i : Nat) : wr a i (rd a i) = a := by
  apply Array.ext
  · simp
  · intro j h1 h2
    simp only [wr, rd]
    rw [Array.getElem_setIfInBounds]
    split
    · next h => subst h; simp [Array.getD_eq_getD_getElem?, h2]
    · rfl

/-- absent elements read as `0` -/
def view (p : Pattern) (a : Array K) (r c : Nat) : K :=
  if p.zero? r c then 0 else rd a (p.rk r c)

theorem view_absent (p : Pattern) (a : Array K) (r c : Nat) (h : p.zero? r c = true) :
    view p a r c = 0 := by simp [view, h]

theorem view_present (p : Pattern) (a : Array K) (r c : Nat) (h : p.zero? r c = false) :
    view p a r c = rd a (p.rk r c) := by simp [view, h]

theorem present_of_view_ne (p : Pattern) (a : Array K) (r c : Nat) (h : view p a r c ≠ 0) :
    p.zero? r c = false := by
  cases hz : p.zero? r c
  · rfl
  · exact absurd (view_absent p a r c hz) h

/-- as long as the subtrahends do not read slot `t`, the fold that writes slot `t` after every term is
    one write of the initial value minus the sum of the terms -/
theorem accum_init {β : Type} (F : Array K → β → K) (t : Nat) (ps : List β) (M : Array K)
    (ht : t < M.size) (hF : ∀ p ∈ ps, ∀ v, F (wr M t v) p = F M p) (v : K) :
    ps.foldl (fun M p => wr M t (rd M t - F M p)) (wr M t v)
      = wr M t (v - (ps.map (F M)).sum) := by
  induction ps generalizing v with
  | nil => simp
  | cons p ps ih =>
    rw [List.foldl_cons, rd_wr_same _ _ _ ht, hF p (List.mem_cons_self) v, wr_wr_same,
      ih (fun q hq => hF q (List.mem_cons_of_mem _ hq)), List.map_cons, List.sum_cons, sub_sub]

theorem accum {β : Type} (F : Array K → β → K) (t : Nat) (ps : List β) (M : Array K)
    (ht : t < M.size) (hF : ∀ p ∈ ps, ∀ v, F (wr M t v) p = F M p) :
    ps.foldl (fun M p => wr M t (rd M t - F M p)) M
      = wr M t (rd M t - (ps.map (F M)).sum) := by
  have := accum_init F t ps M ht hF (rd M t)
  rwa [wr_rd_self] at this

theorem sum_filterMap_range' {β : Type} (g : Nat → Option β) (f : β → K) (a len : Nat) :
    (((List.range' a len).filterMap g).map f).sum
      = ∑ j ∈ Ico a (a + len), (g j).elim 0 f := by
  induction len with
  | zero => simp
  | succ len ih =>
    rw [List.range'_concat, List.filterMap_append, List.map_append, List.sum_append, ih,
      ← Nat.add_assoc, Finset.sum_Ico_succ_top (Nat.le_add_right a len)]
    congr 1
    simp only [Nat.one_mul]
    cases h : g (a + len) <;> simp [h]

theorem sum_filterMap_range {β : Type} (g : Nat → Option β) (f : β → K) (i : Nat) :
    (((List.range i).filterMap g).map f).sum = ∑ j ∈ range i, (g j).elim 0 f := by
  rw [List.range_eq_range', sum_filterMap_range', Nat.zero_add, Finset.range_eq_Ico]

theorem mem_filterMap_range' {β : Type} (g : Nat → Option β) (a len : Nat) (p : β)
    (h : p ∈ (List.range' a len).filterMap g) : ∃ j, a ≤ j ∧ j < a + len ∧ g j = some p := by
  rw [List.mem_filterMap] at h
  obtain ⟨j, hj, hg⟩ := h
  rw [List.mem_range'_1] at hj
  exact ⟨j, hj.1, hj.2, hg⟩

theorem mem_filterMap_rangeFrom {β : Type} (g : Nat → Option β) (a b : Nat) (p : β)
    (h : p ∈ (rangeFrom a b).filterMap g) : ∃ j, a ≤ j ∧ j < b ∧ g j = some p := by
  obtain ⟨j, h1, h2, h3⟩ := mem_filterMap_range' g a (b - a) p h
  exact ⟨j, h1, by omega, h3⟩

theorem mem_filterMap_range {β : Type} (g : Nat → Option β) (i : Nat) (p : β)
    (h : p ∈ (List.range i).filterMap g) : ∃ j, j < i ∧ g j = some p := by
  rw [List.mem_filterMap] at h
  obtain ⟨j, hj, hg⟩ := h
  exact ⟨j, List.mem_range.mp hj, hg⟩

def subStep (C : Nat → Nat → K) (d : Nat → K) (cols : Nat → Finset Nat) (x : Array K) (i : Nat) :
    Array K :=
  wr x i ((rd x i - ∑ j ∈ cols i, C i j * rd x j) / d i)

def fsub (C : Nat → Nat → K) (d : Nat → K) (m : Nat) (x : Array K) : Array K :=
  (List.range m).foldl (subStep C d range) x

def bsub (C : Nat → Nat → K) (d : Nat → K) (n m : Nat) (x : Array K) : Array K :=
  (List.range m).reverse.foldl (subStep C d fun i => Ico (i + 1) n) x

theorem subStep_size (C : Nat → Nat → K) (d : Nat → K) (cols : Nat → Finset Nat) (x : Array K)
    (i : Nat) : (subStep C d cols x i).size = x.size := wr_size _ _ _

theorem subStep_congr {C C' : Nat → Nat → K} {d d' : Nat → K} (cols : Nat → Finset Nat) (i : Nat)
    (hC : ∀ j ∈ cols i, C i j = C' i j) (hd : d i = d' i) (x : Array K) :
    subStep C d cols x i = subStep C' d' cols x i := by
  unfold subStep
  rw [hd, sum_congr rfl fun j hj => by rw [hC j hj]]

theorem fsub_succ (C : Nat → Nat → K) (d : Nat → K) (m : Nat) (x : Array K) :
    fsub C d (m + 1) x = subStep C d range (fsub C d m x) m := by
  unfold fsub
  rw [List.range_succ, List.foldl_append]
  rfl

theorem bsub_succ (C : Nat → Nat → K) (d : Nat → K) (n m : Nat) (x : Array K) :
    bsub C d n (m + 1) x = bsub C d n m (subStep C d (fun i => Ico (i + 1) n) x m) := by
  unfold bsub
  rw [List.range_succ, List.reverse_append]
  rfl

theorem fsub_size (C : Nat → Nat → K) (d : Nat → K) (m : Nat) (x : Array K) :
    (fsub C d m x).size = x.size :=
  foldl_range_induct (fun _ y => y.size = x.size) _ x m rfl
    fun i _ y hy => (subStep_size C d range y i).trans hy

theorem fsub_congr {C C' : Nat → Nat → K} {d d' : Nat → K} (m : Nat)
    (hC : ∀ i j, i < m → j < i → C i j = C' i j) (hd : ∀ i, i < m → d i = d' i) (x : Array K) :
    fsub C d m x = fsub C' d' m x :=
  List.foldl_ext _ _ _ fun x i hi => subStep_congr range i
    (fun j hj => hC i j (List.mem_range.mp hi) (mem_range.mp hj)) (hd i (List.mem_range.mp hi)) x

theorem bsub_congr {C C' : Nat → Nat → K} {d d' : Nat → K} (n m : Nat)
    (hC : ∀ i j, i < m → i < j → j < n → C i j = C' i j) (hd : ∀ i, i < m → d i = d' i)
    (x : Array K) : bsub C d n m x = bsub C' d' n m x :=
  List.foldl_ext _ _ _ fun x i hi => by
    have hi' := List.mem_range.mp (List.mem_reverse.mp hi)
    exact subStep_congr (fun i => Ico (i + 1) n) i
      (fun j hj => hC i j hi' (mem_Ico.mp hj).1 (mem_Ico.mp hj).2) (hd i hi') x

theorem fsub_spec (n : Nat) (C : Nat → Nat → K) (d : Nat → K) (hd : ∀ i, i < n → d i ≠ 0)
    (b : Array K) (hb : b.size = n) (m : Nat) (hm : m ≤ n) :
    (∀ i, i < m → (∑ j ∈ range i, C i j * rd (fsub C d m b) j) + d i * rd (fsub C d m b) i
        = rd b i) ∧
      (∀ i, m ≤ i → rd (fsub C d m b) i = rd b i) := by
  suffices h : (fsub C d m b).size = n ∧
      (∀ i, i < m → (∑ j ∈ range i, C i j * rd (fsub C d m b) j) + d i * rd (fsub C d m b) i
        = rd b i) ∧ (∀ i, m ≤ i → rd (fsub C d m b) i = rd b i) from h.2
  refine foldl_range_induct (fun m x => x.size = n ∧
      (∀ i, i < m → (∑ j ∈ range i, C i j * rd x j) + d i * rd x i = rd b i) ∧
      (∀ i, m ≤ i → rd x i = rd b i)) _ b m
    ⟨hb, fun i hi => absurd hi (Nat.not_lt_zero i), fun _ _ => rfl⟩ ?_
  rintro m hm' x ⟨hsz, h1, h2⟩
  have hmn : m < n := Nat.lt_of_lt_of_le hm' hm
  -- row `m` is written after the sums of the rows `≤ m` have been read
  have hsum : ∀ i k, k ≤ m → ∑ j ∈ range k, C i j * rd (subStep C d range x m) j
      = ∑ j ∈ range k, C i j * rd x j := fun i k hk => sum_congr rfl fun j hj => by
    rw [subStep, rd_wr_ne _ _ _ _ (Nat.lt_of_lt_of_le (mem_range.mp hj) hk).ne']
  refine ⟨by rw [subStep, wr_size, hsz], fun i hi => ?_, fun i hi => ?_⟩
  · rcases Nat.lt_succ_iff_lt_or_eq.mp hi with hlt | rfl
    · rw [hsum i i hlt.le, subStep, rd_wr_ne _ _ _ _ hlt.ne']
      exact h1 i hlt
    · rw [hsum i i (le_refl i), subStep, rd_wr_same _ _ _ (hsz ▸ hmn), h2 i (le_refl i),
        mul_div_cancel₀ _ (hd i hmn)]
      ring
  · rw [subStep, rd_wr_ne _ _ _ _ (Nat.ne_of_lt hi)]
    exact h2 i (Nat.le_of_succ_le hi)

theorem bsub_spec (n : Nat) (C : Nat → Nat → K) (d : Nat → K) (hd : ∀ i, i < n → d i ≠ 0)
    (m : Nat) (hm : m ≤ n) (y : Array K) (hy : y.size = n) :
    (∀ i, i < m → (∑ j ∈ Ico (i + 1) n, C i j * rd (bsub C d n m y) j)
          + d i * rd (bsub C d n m y) i = rd y i) ∧
      (∀ i, m ≤ i → rd (bsub C d n m y) i = rd y i) := by
  induction m generalizing y with
  | zero => exact ⟨fun i hi => absurd hi (Nat.not_lt_zero i), fun _ _ => rfl⟩
  | succ m ih =>
    rw [bsub_succ]
    obtain ⟨g2, g3⟩ := ih (Nat.le_of_succ_le hm) _ ((subStep_size _ _ _ y m).trans hy)
    generalize bsub C d n m (subStep C d (fun i => Ico (i + 1) n) y m) = y' at g2 g3
    refine ⟨fun i hi => ?_, fun i hi => ?_⟩
    · rcases Nat.lt_succ_iff_lt_or_eq.mp hi with hlt | rfl
      · rw [g2 i hlt, subStep, rd_wr_ne _ _ _ _ hlt.ne']
      · -- the entries right of `i` are those of `y`: later rows do not touch them
        have hsum : ∑ j ∈ Ico (i + 1) n, C i j * rd y' j = ∑ j ∈ Ico (i + 1) n, C i j * rd y j :=
          sum_congr rfl fun j hj => by
            have hij : i < j := (mem_Ico.mp hj).1
            rw [g3 j hij.le, subStep, rd_wr_ne _ _ _ _ hij.ne]
        rw [hsum, g3 i (le_refl i), subStep, rd_wr_same _ _ _ (hy ▸ hm),
          mul_div_cancel₀ _ (hd i hm)]
        ring
    · rw [g3 i (Nat.le_of_succ_le hi), subStep, rd_wr_ne _ _ _ _ (Nat.ne_of_lt hi)]

theorem fold_fsub (n : Nat) (C : Nat → Nat → K) (d : Nat → K)
    (step : Array K × Nat → SubRow → Array K × Nat) (rowOf : Nat → SubRow)
    (hstep : ∀ x i, i < n → x.size = n →
      step (x, i) (rowOf i)
        = (wr x i ((rd x i - ∑ j ∈ range i, C i j * rd x j) / d i), i + 1))
    (b : Array K) (hb : b.size = n) :
    ((List.range n).map rowOf).foldl step (b, 0) = (fsub C d n b, n) := by
  refine foldl_rows_induct (fun i s => s = (fsub C d i b, i)) rowOf step (b, 0) n rfl ?_
  intro i hi s hs
  rw [hs, hstep _ i hi ((fsub_size C d i b).trans hb), fsub_succ]
  rfl

/-- the row index is tracked as in the source, with the "do not step before begin" guard -/
theorem fold_bsub (n : Nat) (C : Nat → Nat → K) (d : Nat → K)
    (step : Array K × Nat → SubRow → Array K × Nat) (rowOf : Nat → SubRow)
    (hstep : ∀ x i, i < n → x.size = n →
      step (x, i) (rowOf i)
        = (wr x i ((rd x i - ∑ j ∈ Ico (i + 1) n, C i j * rd x j) / d i),
            if i = 0 then 0 else i - 1))
    (m : Nat) (hm : m ≤ n) (y : Array K) (hy : y.size = n) :
    (((List.range m).reverse.map rowOf).foldl step (y, m - 1)).1 = bsub C d n m y := by
  induction m generalizing y with
  | zero => rfl
  | succ m ih =>
    have hidx : (if m = 0 then 0 else m - 1) = m - 1 := by split <;> omega
    rw [bsub_succ, List.range_succ, List.reverse_append]
    simp only [List.reverse_cons, List.reverse_nil, List.nil_append, List.singleton_append,
      List.map_cons, List.foldl_cons, Nat.add_sub_cancel]
    rw [hstep y m hm hy, hidx]
    exact ih (Nat.le_of_succ_le hm) _ (by rw [wr_size, hy])

theorem sum_lower (n i : Nat) (hi : i < n) (f : Nat → K) (h0 : ∀ j, i < j → j < n → f j = 0) :
    ∑ j ∈ range n, f j = (∑ j ∈ range i, f j) + f i := by
  rw [← Finset.sum_range_add_sum_Ico f hi, Finset.sum_range_succ]
  have : ∑ j ∈ Ico (i + 1) n, f j = 0 := by
    apply sum_eq_zero
    intro j hj
    have := mem_Ico.mp hj
    exact h0 j this.1 this.2
  rw [this]; ring

theorem sum_upper (n i : Nat) (hi : i < n) (f : Nat → K) (h0 : ∀ j, j < i → f j = 0) :
    ∑ j ∈ range n, f j = (∑ j ∈ Ico (i + 1) n, f j) + f i := by
  rw [← Finset.sum_range_add_sum_Ico f hi, Finset.sum_range_succ]
  have : ∑ j ∈ range i, f j = 0 := by
    apply sum_eq_zero
    intro j hj
    exact h0 j (mem_range.mp hj)
  rw [this]; ring

theorem lu_compose (n : Nat) (Lm Um : Nat → Nat → K) (b z y : Nat → K)
    (hL : ∀ i, i < n → ∑ k ∈ range n, Lm i k * z k = b i)
    (hU : ∀ k, k < n → ∑ j ∈ range n, Um k j * y j = z k) (i : Nat) (hi : i < n) :
    ∑ j ∈ range n, (∑ k ∈ range n, Lm i k * Um k j) * y j = b i := by
  rw [← hL i hi]
  have : ∀ j, (∑ k ∈ range n, Lm i k * Um k j) * y j = ∑ k ∈ range n, Lm i k * (Um k j * y j) := by
    intro j; rw [Finset.sum_mul]; apply sum_congr rfl; intro k _; ring
  simp only [this]
  rw [Finset.sum_comm]
  apply sum_congr rfl
  intro k hk
  rw [← Finset.mul_sum, hU k (mem_range.mp hk)]

theorem subRow_fold (M : Array K) (p : Pattern) (i : Nat) (x : Array K) (hi : i < x.size)
    (a len : Nat) (hne : ∀ j, a ≤ j → j < a + len → j ≠ i) :
    ((List.range' a len).filterMap fun j =>
        if p.zero? i j then none else some (p.rk i j, j)).foldl
        (fun x q => wr x i (rd x i - rd M q.1 * rd x q.2)) x
      = wr x i (rd x i - ∑ j ∈ Ico a (a + len), view p M i j * rd x j) := by
  refine (accum (fun (x : Array K) (q : Nat × Nat) => rd M q.1 * rd x q.2) i _ x hi ?_).trans ?_
  · intro q hq v
    obtain ⟨j, h1, h2, h3⟩ := mem_filterMap_range' _ _ _ _ hq
    have hq2 : q.2 = j := by
      split at h3
      · cases h3
      · cases h3; rfl
    show rd M q.1 * rd (wr x i v) q.2 = rd M q.1 * rd x q.2
    rw [rd_wr_ne _ _ _ _ (by rw [hq2]; exact (hne j h1 h2).symm)]
  · rw [sum_filterMap_range']
    congr 2
    apply sum_congr rfl
    intro j _
    cases hz : p.zero? i j <;> simp [view, hz]

def fwStep (L : Array K) (s : Array K × Nat) (r : SubRow) : Array K × Nat :=
  let x := r.pairs.foldl (fun x p => wr x s.2 (rd x s.2 - rd L p.1 * rd x p.2)) s.1
  (wr x s.2 (rd x s.2 / rd L r.diag), s.2 + 1)

def bwStep (U : Array K) (s : Array K × Nat) (r : SubRow) : Array K × Nat :=
  let x := r.pairs.foldl (fun x p => wr x s.2 (rd x s.2 - rd U p.1 * rd x p.2)) s.1
  (wr x s.2 (rd x s.2 / rd U r.diag), if s.2 = 0 then 0 else s.2 - 1)

/-- unit diagonal: no division -/
def fwStepIP (M : Array K) (s : Array K × Nat) (r : SubRow) : Array K × Nat :=
  let x := r.pairs.foldl (fun x p => wr x s.2 (rd x s.2 - rd M p.1 * rd x p.2)) s.1
  (x, s.2 + 1)

theorem solveCell_eq (fw bw : List SubRow) (L U x : Array K) :
    solveCell fw bw L U x
      = (bw.foldl (bwStep U) ((fw.foldl (fwStep L) (x, 0)).1,
            (fw.foldl (fwStep L) (x, 0)).1.size - 1)).1 := rfl

theorem solveInPlaceCell_eq (fw bw : List SubRow) (M x : Array K) :
    solveInPlaceCell fw bw M x
      = (bw.foldl (bwStep M) ((fw.foldl (fwStepIP M) (x, 0)).1,
            (fw.foldl (fwStepIP M) (x, 0)).1.size - 1)).1 := rfl

def fwRow (Lp : Pattern) (i : Nat) : SubRow :=
  ⟨(List.range i).filterMap fun j => if Lp.zero? i j then none else some (Lp.rk i j, j), Lp.rk i i⟩

def bwRow (n : Nat) (Up : Pattern) (i : Nat) : SubRow :=
  ⟨(rangeFrom (i + 1) n).filterMap fun j => if Up.zero? i j then none else some (Up.rk i j, j),
    Up.rk i i⟩

theorem solverRows_eq (Lp Up : Pattern) :
    solverRows Lp Up = ((List.range Lp.n).map (fwRow Lp), (List.range Lp.n).reverse.map (bwRow Lp.n Up)) :=
  rfl

theorem fwStep_row (Lp : Pattern) (L x : Array K) (i : Nat) (hi : i < x.size) :
    fwStep L (x, i) (fwRow Lp i)
      = (wr x i ((rd x i - ∑ j ∈ range i, view Lp L i j * rd x j) / rd L (Lp.rk i i)), i + 1) := by
  have h := subRow_fold L Lp i x hi 0 i (by intro j _ h; omega)
  rw [← List.range_eq_range', Nat.zero_add, ← Finset.range_eq_Ico] at h
  simp only [fwStep, fwRow, h, rd_wr_same _ _ _ hi, wr_wr_same]

theorem fwStepIP_row (P : Pattern) (M x : Array K) (i : Nat) (hi : i < x.size) :
    fwStepIP M (x, i) (fwRow P i)
      = (wr x i ((rd x i - ∑ j ∈ range i, view P M i j * rd x j) / 1), i + 1) := by
  have h := subRow_fold M P i x hi 0 i (by intro j _ h; omega)
  rw [← List.range_eq_range', Nat.zero_add, ← Finset.range_eq_Ico] at h
  simp only [fwStepIP, fwRow, h, div_one]

theorem bwStep_row (n : Nat) (Up : Pattern) (U x : Array K) (i : Nat) (hi : i < x.size)
    (hin : i < n) :
    bwStep U (x, i) (bwRow n Up i)
      = (wr x i ((rd x i - ∑ j ∈ Ico (i + 1) n, view Up U i j * rd x j) / rd U (Up.rk i i)),
          if i = 0 then 0 else i - 1) := by
  have h := subRow_fold U Up i x hi (i + 1) (n - (i + 1)) (by intro j h _; omega)
  rw [show i + 1 + (n - (i + 1)) = n by omega] at h
  simp only [bwStep, bwRow, rangeFrom, h, rd_wr_same _ _ _ hi, wr_wr_same]

/-- the triangular systems solved by `fsub` and `bsub`, read through matrices `Lm`, `Um` that are
    lower / upper triangular on the block, give `(Lm·Um) y = b` -/
theorem solve_compose (n : Nat) (Lm Um Lc Uc : Nat → Nat → K) (dL dU : Nat → K) (b z y : Nat → K)
    (hLlow : ∀ i j, i < n → j < i → Lm i j = Lc i j) (hLd : ∀ i, i < n → Lm i i = dL i)
    (hLup : ∀ i j, i < n → j < n → i < j → Lm i j = 0)
    (hUup : ∀ i j, i < n → j < n → i < j → Um i j = Uc i j) (hUd : ∀ i, i < n → Um i i = dU i)
    (hUlow : ∀ i j, i < n → j < i → Um i j = 0)
    (hz : ∀ i, i < n → (∑ j ∈ range i, Lc i j * z j) + dL i * z i = b i)
    (hy : ∀ i, i < n → (∑ j ∈ Ico (i + 1) n, Uc i j * y j) + dU i * y i = z i)
    (i : Nat) (hi : i < n) :
    ∑ j ∈ range n, (∑ k ∈ range n, Lm i k * Um k j) * y j = b i := by
  apply lu_compose n Lm Um b z y _ _ i hi
  · intro i hi
    rw [sum_lower n i hi _ (by intro j h1 h2; rw [hLup i j hi h2 h1]; ring), hLd i hi, ← hz i hi]
    congr 1
    apply sum_congr rfl
    intro j hj
    rw [hLlow i j hi (mem_range.mp hj)]
  · intro k hk
    rw [sum_upper n k hk _ (by intro j h1; rw [hUlow k j hk h1]; ring), hUd k hk, ← hy k hk]
    congr 1
    apply sum_congr rfl
    intro j hj
    have := mem_Ico.mp hj
    rw [hUup k j hk this.2 this.1]

/-- strictly lower part of `V` with a unit diagonal (the `L` factor packed in an in-place LU) -/
def lowerUnit (V : Nat → Nat → K) (i j : Nat) : K :=
  if j < i then V i j else if i = j then 1 else 0

/-- upper part of `V` including the diagonal (the `U` factor packed in an in-place LU) -/
def upperPart (V : Nat → Nat → K) (i j : Nat) : K := if i ≤ j then V i j else 0

theorem solveCell_sub (Lp Up : Pattern) (L U x : Array K) (n : Nat) (hn : Lp.n = n)
    (hx : x.size = n) :
    solveCell (solverRows Lp Up).1 (solverRows Lp Up).2 L U x
      = bsub (view Up U) (fun i => rd U (Up.rk i i)) n n
          (fsub (view Lp L) (fun i => rd L (Lp.rk i i)) n x) := by
  rw [solveCell_eq, solverRows_eq, hn, fold_fsub n (view Lp L) (fun i => rd L (Lp.rk i i)) (fwStep L)
    (fwRow Lp) (fun x i hi hx => fwStep_row Lp L x i (hx ▸ hi)) x hx]
  have hz := (fsub_size (view Lp L) (fun i => rd L (Lp.rk i i)) n x).trans hx
  simp only [hz]
  exact fold_bsub n (view Up U) (fun i => rd U (Up.rk i i)) (bwStep U) (bwRow n Up)
    (fun x i hi hx => bwStep_row n Up U x i (hx ▸ hi) hi) n (le_refl n) _ hz

theorem solveInPlaceCell_sub (P : Pattern) (M x : Array K) (n : Nat) (hn : P.n = n)
    (hx : x.size = n) :
    solveInPlaceCell (solverRows P P).1 (solverRows P P).2 M x
      = bsub (view P M) (fun i => rd M (P.rk i i)) n n (fsub (view P M) (fun _ => 1) n x) := by
  rw [solveInPlaceCell_eq, solverRows_eq, hn, fold_fsub n (view P M) (fun _ => 1) (fwStepIP M)
    (fwRow P) (fun x i hi hx => fwStepIP_row P M x i (hx ▸ hi)) x hx]
  have hz := (fsub_size (view P M) (fun _ => 1) n x).trans hx
  simp only [hz]
  exact fold_bsub n (view P M) (fun i => rd M (P.rk i i)) (bwStep M) (bwRow n P)
    (fun x i hi hx => bwStep_row n P M x i (hx ▸ hi) hi) n (le_refl n) _ hz

theorem solveCell_correct (Lp Up : Pattern) (L U x : Array K) (n : Nat)
    (hn : Lp.n = n) (hx : x.size = n)
    (hLd : ∀ i, i < n → view Lp L i i ≠ 0)
    (hLu : ∀ i j, i < n → j < n → i < j → view Lp L i j = 0)
    (hUd : ∀ i, i < n → view Up U i i ≠ 0)
    (hUl : ∀ i j, i < n → j < n → j < i → view Up U i j = 0) (i : Nat) (hi : i < n) :
    ∑ j ∈ range n, (∑ k ∈ range n, view Lp L i k * view Up U k j)
        * rd (solveCell (solverRows Lp Up).1 (solverRows Lp Up).2 L U x) j = rd x i := by
  have hdl : ∀ i, i < n → view Lp L i i = rd L (Lp.rk i i) := fun i hi =>
    view_present _ _ _ _ (present_of_view_ne _ _ _ _ (hLd i hi))
  have hdu : ∀ i, i < n → view Up U i i = rd U (Up.rk i i) := fun i hi =>
    view_present _ _ _ _ (present_of_view_ne _ _ _ _ (hUd i hi))
  rw [solveCell_sub Lp Up L U x n hn hx]
  obtain ⟨hz1, _⟩ := fsub_spec n (view Lp L) (fun i => rd L (Lp.rk i i))
    (fun i hi => by rw [← hdl i hi]; exact hLd i hi) x hx n (le_refl n)
  obtain ⟨hy1, _⟩ := bsub_spec n (view Up U) (fun i => rd U (Up.rk i i))
    (fun i hi => by rw [← hdu i hi]; exact hUd i hi) n (le_refl n) _ ((fsub_size _ _ n x).trans hx)
  exact solve_compose n (view Lp L) (view Up U) (view Lp L) (view Up U) _ _ (rd x) _ _
    (fun _ _ _ _ => rfl) hdl hLu (fun _ _ _ _ _ => rfl) hdu (fun i j hi hj => hUl i j hi (hj.trans hi) hj)
    hz1 hy1 i hi

theorem solveInPlaceCell_correct (P : Pattern) (M x : Array K) (n : Nat)
    (hn : P.n = n) (hx : x.size = n) (hd : ∀ i, i < n → view P M i i ≠ 0) (i : Nat) (hi : i < n) :
    ∑ j ∈ range n, (∑ k ∈ range n, lowerUnit (view P M) i k * upperPart (view P M) k j)
        * rd (solveInPlaceCell (solverRows P P).1 (solverRows P P).2 M x) j = rd x i := by
  have hdu : ∀ i, i < n → view P M i i = rd M (P.rk i i) := fun i hi =>
    view_present _ _ _ _ (present_of_view_ne _ _ _ _ (hd i hi))
  rw [solveInPlaceCell_sub P M x n hn hx]
  obtain ⟨hz1, _⟩ := fsub_spec n (view P M) (fun _ => 1) (fun _ _ => one_ne_zero) x hx n
    (le_refl n)
  obtain ⟨hy1, _⟩ := bsub_spec n (view P M) (fun i => rd M (P.rk i i))
    (fun i hi => by rw [← hdu i hi]; exact hd i hi) n (le_refl n) _ ((fsub_size _ _ n x).trans hx)
  refine solve_compose n (lowerUnit (view P M)) (upperPart (view P M)) (view P M) (view P M) _ _
    (rd x) _ _ ?_ ?_ ?_ ?_ ?_ ?_ hz1 hy1 i hi
  · intro i j _ hj; simp [lowerUnit, hj]
  · intro i _; simp [lowerUnit]
  · intro i j _ _ hij
    simp [lowerUnit, Nat.lt_asymm hij, hij.ne]
  · intro i j _ _ hij
    simp [upperPart, hij.le]
  · intro i hi; simp [upperPart, hdu i hi]
  · intro i j _ hj
    simp [upperPart, Nat.not_le.mpr hj]

end Micm
