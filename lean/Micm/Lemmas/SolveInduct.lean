/-
The linear-algebra kernels of `Model/LU.lean` and `Model/Rosenbrock.lean` over a bare carrier (no
arithmetic laws): an induction principle for the substitution kernels — every write they make is
`x[t] := x[t] − m·x[j]` or `x[t] := x[t] / d` — from which the shape, NaN and zero-vector facts
about `Solve` all follow; the cell-by-cell description of the block operations (`Solve`, `Factor`,
`Fill`, the forcing, the Jacobian and its shift); and which elements `NormalizedError` visits.
-/
import Micm.Model.Rosenbrock
import Micm.Lemmas.ArrayFold
namespace Micm
set_option linter.unusedSectionVars false

section Solve
variable {α : Type} [OfNat α 0] [Sub α] [Mul α] [Div α]

/-- Induction principle of `LinearSolver::Solve`: the only writes a row program makes are `x[t] −= m·x[j]`
    and `x[t] /= d`. -/
theorem solveCell_induct (P : Array α → Prop)
    (hsub : ∀ x t m j, P x → P (wr x t (rd x t - m * rd x j)))
    (hdiv : ∀ x t d, P x → P (wr x t (rd x t / d)))
    (fw bw : List SubRow) (L U x : Array α) (h : P x) : P (solveCell fw bw L U x) := by
  have hrow : ∀ (M : Array α) (t : Nat) (ps : List (Nat × Nat)) (x : Array α), P x →
      P (ps.foldl (fun x p => wr x t (rd x t - rd M p.1 * rd x p.2)) x) := fun M t ps x hx =>
    foldl_inv P _ ps (fun p _ x hx => hsub x t (rd M p.1) p.2 hx) hx
  unfold solveCell
  exact foldl_fst_induct P _ (fun s r hs => hdiv _ _ _ (hrow U s.2 r.pairs s.1 hs)) bw _
    (foldl_fst_induct P _ (fun s r hs => hdiv _ _ _ (hrow L s.2 r.pairs s.1 hs)) fw (x, 0) h)

/-- `LinearSolverInPlace::Solve`; unit lower diagonal: the forward rows do not divide -/
theorem solveInPlaceCell_induct (P : Array α → Prop)
    (hsub : ∀ x t m j, P x → P (wr x t (rd x t - m * rd x j)))
    (hdiv : ∀ x t d, P x → P (wr x t (rd x t / d)))
    (fw bw : List SubRow) (M x : Array α) (h : P x) : P (solveInPlaceCell fw bw M x) := by
  have hrow : ∀ (t : Nat) (ps : List (Nat × Nat)) (x : Array α), P x →
      P (ps.foldl (fun x p => wr x t (rd x t - rd M p.1 * rd x p.2)) x) := fun t ps x hx =>
    foldl_inv P _ ps (fun p _ x hx => hsub x t (rd M p.1) p.2 hx) hx
  unfold solveInPlaceCell
  exact foldl_fst_induct P _ (fun s r hs => hdiv _ _ _ (hrow s.2 r.pairs s.1 hs)) bw _
    (foldl_fst_induct P _ (fun s r hs => hrow s.2 r.pairs s.1 hs) fw (x, 0) h)

theorem solveCell_size (fw bw : List SubRow) (L U x : Array α) : (solveCell fw bw L U x).size = x.size :=
  solveCell_induct (·.size = x.size) (fun _ _ _ _ h => by rw [wr_size]; exact h)
    (fun _ _ _ h => by rw [wr_size]; exact h) fw bw L U x rfl

theorem solveInPlaceCell_size (fw bw : List SubRow) (M x : Array α) :
    (solveInPlaceCell fw bw M x).size = x.size :=
  solveInPlaceCell_induct (·.size = x.size) (fun _ _ _ _ h => by rw [wr_size]; exact h)
    (fun _ _ _ h => by rw [wr_size]; exact h) fw bw M x rfl

end Solve

section Cfg
variable {α : Type} [OfNat α 0] [OfNat α 1] [Add α] [Sub α] [Mul α] [Div α]

theorem linSolve_size (s : SolverCfg α) (J Lo Up X : Mat α) : (s.linSolve J Lo Up X).size = X.size := by
  unfold SolverCfg.linSolve
  cases s.la.kind.inPlace
  · exact Array.size_mapIdx
  · exact Array.size_mapIdx

theorem linSolve_getD (s : SolverCfg α) (J Lo Up X : Mat α) (c : Nat) (hc : c < X.size) :
    (s.linSolve J Lo Up X).getD c #[] =
      if s.la.kind.inPlace then solveInPlaceCell s.la.fw s.la.bw (J.getD c #[]) (X.getD c #[])
      else solveCell s.la.fw s.la.bw (Lo.getD c #[]) (Up.getD c #[]) (X.getD c #[]) := by
  unfold SolverCfg.linSolve
  by_cases hk : s.la.kind.inPlace = true
  · rw [if_pos hk, if_pos hk]; exact getD_mapIdx _ X c hc #[] #[]
  · rw [if_neg hk, if_neg hk]; exact getD_mapIdx _ X c hc #[] #[]

theorem linSolve_getD_of_ge (s : SolverCfg α) (J Lo Up X : Mat α) (c : Nat) (hc : ¬ c < X.size) :
    (s.linSolve J Lo Up X).getD c #[] = X.getD c #[] := by
  have h1 : ¬ c < (s.linSolve J Lo Up X).size := by rw [linSolve_size]; exact hc
  simp [Array.getD, hc, h1]

theorem linSolve_induct (P : Array α → Prop)
    (hsub : ∀ x t m j, P x → P (wr x t (rd x t - m * rd x j)))
    (hdiv : ∀ x t d, P x → P (wr x t (rd x t / d)))
    (s : SolverCfg α) (J Lo Up X : Mat α) (c : Nat) (h : P (X.getD c #[])) :
    P ((s.linSolve J Lo Up X).getD c #[]) := by
  by_cases hc : c < X.size
  · rw [linSolve_getD s J Lo Up X c hc]
    by_cases hk : s.la.kind.inPlace = true
    · rw [if_pos hk]; exact solveInPlaceCell_induct P hsub hdiv _ _ _ _ h
    · rw [if_neg hk]; exact solveCell_induct P hsub hdiv _ _ _ _ _ h
  · rw [linSolve_getD_of_ge s J Lo Up X c hc]; exact h

theorem linSolve_getD_size (s : SolverCfg α) (J Lo Up X : Mat α) (c : Nat) :
    ((s.linSolve J Lo Up X).getD c #[]).size = (X.getD c #[]).size :=
  linSolve_induct (·.size = (X.getD c #[]).size) (fun _ _ _ _ h => by rw [wr_size]; exact h)
    (fun _ _ _ h => by rw [wr_size]; exact h) s J Lo Up X c rfl

theorem forcing_size (s : SolverCfg α) (kc Y F : Mat α) : (s.forcing kc Y F).size = F.size :=
  Array.size_mapIdx

theorem forcing_getD (s : SolverCfg α) (kc Y F : Mat α) (c : Nat) (hc : c < F.size) :
    (s.forcing kc Y F).getD c #[] =
      s.tables.addForcingCell (kc.getD c #[]) (Y.getD c #[]) (F.getD c #[]) :=
  getD_mapIdx _ F c hc #[] #[]

theorem jacobian_size (s : SolverCfg α) (kc Y F : Mat α) : (s.jacobian kc Y F).size = F.size :=
  Array.size_mapIdx

theorem jacobian_getD (s : SolverCfg α) (kc Y F : Mat α) (c : Nat) (hc : c < F.size) :
    (s.jacobian kc Y F).getD c #[] =
      s.tables.subtractJacobianCell s.flatIds (kc.getD c #[]) (Y.getD c #[]) (F.getD c #[]) :=
  getD_mapIdx _ F c hc #[] #[]

theorem alphaMinusJacobian_size (s : SolverCfg α) (J : Mat α) (a : α) :
    (s.alphaMinusJacobian J a).size = J.size :=
  Array.size_map ..

theorem build_A_n (kind : LUKind) (jac : Pattern) : (LinAlg.build kind jac).A.n = jac.n := by
  cases kind <;> rfl

theorem build_kind (kind : LUKind) (jac : Pattern) : (LinAlg.build kind jac).kind = kind := by
  cases kind <;> rfl

theorem fillM_size (B : Mat α) (v : α) : (fillM B v).size = B.size := Array.size_map ..

theorem fillM_getD (B : Mat α) (v : α) (c : Nat) (hc : c < B.size) :
    (fillM B v).getD c #[] = Array.replicate (B.getD c #[]).size v := by
  unfold fillM
  rw [getD_map' _ B c hc #[] #[]]
  exact Array.map_const' ..

theorem fillM_getD_size (M : Mat α) (v : α) (c : Nat) :
    (fillM M v).size = M.size ∧ ((fillM M v).getD c #[]).size = (M.getD c #[]).size := by
  refine ⟨by simp [fillM], ?_⟩
  by_cases hc : c < M.size
  · simp [fillM, Array.getD, hc]
  · simp [fillM, Array.getD, hc]

def SolverCfg.factorCell (s : SolverCfg α) (A L U : Array α) : Array α × Array α × Array α :=
  match s.la.kind with
  | .doolittle => (A, doolittleCell s.la.dRows A (L, U))
  | .mozart => (A, mozartCell s.la.mInit s.la.mRows A (L, U))
  | .doolittleInPlace => (doolittleInPlaceCell s.la.diRows A, L, U)
  | .mozartInPlace => (mozartInPlaceCell s.la.miRows A, L, U)

/-- `c < J.size` is needed: the separate variants rebuild the `L`/`U` blocks with one cell per cell of `J`,
    the in-place variants return them whole -/
theorem factor_getD (s : SolverCfg α) (J Lo Up : Mat α) (c : Nat) (hc : c < J.size) :
    (s.factor J Lo Up).1.getD c #[] = (s.factorCell (J.getD c #[]) (Lo.getD c #[]) (Up.getD c #[])).1 ∧
    (s.factor J Lo Up).2.1.getD c #[] = (s.factorCell (J.getD c #[]) (Lo.getD c #[]) (Up.getD c #[])).2.1 ∧
    (s.factor J Lo Up).2.2.getD c #[] = (s.factorCell (J.getD c #[]) (Lo.getD c #[]) (Up.getD c #[])).2.2 := by
  have hc' : ∀ f : Nat → Array α → Array α × Array α, c < (J.mapIdx f).size := fun f => by
    rw [Array.size_mapIdx]; exact hc
  unfold SolverCfg.factor SolverCfg.factorCell
  cases s.la.kind
  · simp only []
    rw [getD_map' _ _ c (hc' _) #[] (#[], #[]), getD_map' _ _ c (hc' _) #[] (#[], #[]),
      getD_mapIdx _ J c hc (#[], #[]) #[]]
    exact ⟨trivial, rfl, rfl⟩
  · simp only []
    rw [getD_map' _ _ c (hc' _) #[] (#[], #[]), getD_map' _ _ c (hc' _) #[] (#[], #[]),
      getD_mapIdx _ J c hc (#[], #[]) #[]]
    exact ⟨trivial, rfl, rfl⟩
  · exact ⟨getD_map' _ J c hc #[] #[], rfl, rfl⟩
  · exact ⟨getD_map' _ J c hc #[] #[], rfl, rfl⟩

theorem factor_size (s : SolverCfg α) (J Lo Up : Mat α) :
    (s.factor J Lo Up).1.size = J.size ∧
    (s.factor J Lo Up).2.1.size = (if s.la.kind.inPlace then Lo.size else J.size) ∧
    (s.factor J Lo Up).2.2.size = (if s.la.kind.inPlace then Up.size else J.size) := by
  unfold SolverCfg.factor
  cases s.la.kind
  · exact ⟨rfl, (Array.size_map ..).trans Array.size_mapIdx, (Array.size_map ..).trans Array.size_mapIdx⟩
  · exact ⟨rfl, (Array.size_map ..).trans Array.size_mapIdx, (Array.size_map ..).trans Array.size_mapIdx⟩
  · exact ⟨Array.size_map .., rfl, rfl⟩
  · exact ⟨Array.size_map .., rfl, rfl⟩

end Cfg

theorem mem_normOrder (L nCells nVars c v : Nat) :
    (c, v) ∈ normOrder L nCells nVars ↔ c < nCells ∧ v < nVars := by
  unfold normOrder
  by_cases hL : L = 0
  · simp only [hL, if_true, List.mem_flatMap, List.mem_range, List.mem_map, Prod.mk.injEq]
    constructor
    · rintro ⟨c', hc', v', hv', rfl, rfl⟩; exact ⟨hc', hv'⟩
    · rintro ⟨hc, hv⟩; exact ⟨c, hc, v, hv, rfl, rfl⟩
  · simp only [hL, if_false, List.mem_append, List.mem_flatMap, List.mem_range, List.mem_map,
      Prod.mk.injEq]
    have hLpos : 0 < L := Nat.pos_of_ne_zero hL
    have hdm : nCells / L * L + nCells % L = nCells := Nat.div_add_mod' nCells L
    have hml : nCells % L < L := Nat.mod_lt _ hLpos
    constructor
    · rintro (⟨g, hg, v', hv', l, hl, rfl, rfl⟩ | ⟨v', hv', l, hl, rfl, rfl⟩)
      · refine ⟨?_, hv'⟩
        have h1 : (g + 1) * L ≤ nCells / L * L := Nat.mul_le_mul_right L hg
        rw [Nat.succ_mul] at h1
        omega
      · exact ⟨by omega, hv'⟩
    · rintro ⟨hc, hv⟩
      have hcd : c / L * L + c % L = c := Nat.div_add_mod' c L
      have hcl : c % L < L := Nat.mod_lt _ hLpos
      by_cases hg : c / L < nCells / L
      · exact Or.inl ⟨c / L, hg, v, hv, c % L, hcl, hcd, rfl⟩
      · have hle : c / L ≤ nCells / L := Nat.div_le_div_right (Nat.le_of_lt hc)
        have he : c / L = nCells / L := by omega
        refine Or.inr ⟨v, hv, c % L, ?_, ?_, rfl⟩
        · rw [he] at hcd; omega
        · rw [← he]; exact hcd

section LUSize
variable {α : Type}

theorem foldl_pair_size {β : Type} (f : Array α × Array α → β → Array α × Array α)
    (hf : ∀ a b, (f a b).1.size = a.1.size ∧ (f a b).2.size = a.2.size)
    (l : List β) (a : Array α × Array α) :
    (l.foldl f a).1.size = a.1.size ∧ (l.foldl f a).2.size = a.2.size :=
  foldl_inv (fun x => x.1.size = a.1.size ∧ x.2.size = a.2.size) f l
    (fun b _ x hx => ⟨(hf x b).1.trans hx.1, (hf x b).2.trans hx.2⟩) ⟨rfl, rfl⟩

variable [OfNat α 0] [OfNat α 1] [Sub α] [Mul α] [Div α]

theorem doolittleCell_size (rows : List DRow) (A : Array α) (LU : Array α × Array α) :
    (doolittleCell rows A LU).1.size = LU.1.size ∧ (doolittleCell rows A LU).2.size = LU.2.size := by
  unfold doolittleCell
  apply foldl_pair_size
  intro LU r
  constructor
  · simp only []
    rw [foldl_size_of_step]
    · simp
    · intro L e
      simp only [wr_size]
      rw [foldl_size_of_step]
      · simp
      · intro a b; simp
  · simp only []
    rw [foldl_size_of_step]
    intro U e
    rw [foldl_size_of_step]
    · simp
    · intro a b; simp

theorem mozartCell_size (ini : List MInit) (rows : List MRow) (A : Array α) (LU : Array α × Array α) :
    (mozartCell ini rows A LU).1.size = LU.1.size ∧ (mozartCell ini rows A LU).2.size = LU.2.size := by
  unfold mozartCell
  have h0 := foldl_pair_size (fun (LU : Array α × Array α) (r : MInit) =>
      let U := r.ujiAji.foldl (fun U p => wr U p.1 (rd A p.2)) LU.2
      let L := wr LU.1 r.lii 1
      let L := r.ljiAji.foldl (fun L p => wr L p.1 (rd A p.2)) L
      (L, U))
    (by
      intro a b
      constructor
      · simp only []
        rw [foldl_size_of_step]
        · simp
        · intro a b; simp
      · simp only []
        rw [foldl_size_of_step]
        intro a b; simp) ini LU
  have hU : ∀ U : Array α, (ini.foldl (fun U r => r.fillU.foldl (fun U i => wr U i 0) U) U).size = U.size := by
    intro U
    apply foldl_size_of_step
    intro a b
    apply foldl_size_of_step
    intro a b; simp
  have hL : ∀ L : Array α, (ini.foldl (fun L r => r.fillL.foldl (fun L i => wr L i 0) L) L).size = L.size := by
    intro L
    apply foldl_size_of_step
    intro a b
    apply foldl_size_of_step
    intro a b; simp
  simp only []
  have h1 := foldl_pair_size (fun (LU : Array α × Array α) (r : MRow) =>
      let inv : α := 1 / rd LU.2 r.uii
      let L := r.lji.foldl (fun L i => wr L i (rd L i * inv)) LU.1
      r.ks.foldl (fun (LU : Array α × Array α) k =>
        let U := k.ujk.foldl (fun U p => wr U p.1 (rd U p.1 - rd LU.1 p.2 * rd U k.uik)) LU.2
        let L := k.ljk.foldl (fun L p => wr L p.1 (rd L p.1 - rd L p.2 * rd U k.uik)) LU.1
        (L, U)) (L, LU.2))
    (by
      intro a b
      simp only []
      have := foldl_pair_size (fun (LU : Array α × Array α) (k : MK) =>
          let U := k.ujk.foldl (fun U p => wr U p.1 (rd U p.1 - rd LU.1 p.2 * rd U k.uik)) LU.2
          let L := k.ljk.foldl (fun L p => wr L p.1 (rd L p.1 - rd L p.2 * rd U k.uik)) LU.1
          (L, U))
        (by
          intro a k
          constructor
          · simp only []; apply foldl_size_of_step; intro a b; simp
          · simp only []; apply foldl_size_of_step; intro a b; simp)
        b.ks (b.lji.foldl (fun L i => wr L i (rd L i * (1 / rd a.2 b.uii))) a.1, a.2)
      refine ⟨this.1.trans ?_, this.2⟩
      apply foldl_size_of_step; intro a b; simp)
    rows
  obtain ⟨k1, k2⟩ := h1 _
  exact ⟨k1.trans ((hL _).trans h0.1), k2.trans ((hU _).trans h0.2)⟩

theorem doolittleInPlaceCell_size (rows : List DIRow) (M : Array α) :
    (doolittleInPlaceCell rows M).size = M.size := by
  unfold doolittleInPlaceCell
  refine foldl_size_of_step _ (fun M r => ?_) rows M
  simp only []
  rw [foldl_size_of_step, foldl_size_of_step]
  · intro M e; exact foldl_size_of_step _ (fun a b => wr_size ..) _ _
  · intro M e; rw [wr_size]; exact foldl_size_of_step _ (fun a b => wr_size ..) _ _

theorem mozartInPlaceCell_size (rows : List MIRow) (M : Array α) :
    (mozartInPlaceCell rows M).size = M.size := by
  unfold mozartInPlaceCell
  refine foldl_size_of_step _ (fun M r => ?_) rows M
  simp only []
  rw [foldl_size_of_step, foldl_size_of_step]
  · intro a b; exact wr_size ..
  · intro M k; exact foldl_size_of_step _ (fun a b => wr_size ..) _ _

variable [Add α]

theorem factorCell_size (s : SolverCfg α) (A L U : Array α) :
    (s.factorCell A L U).1.size = A.size ∧ (s.factorCell A L U).2.1.size = L.size ∧
    (s.factorCell A L U).2.2.size = U.size := by
  unfold SolverCfg.factorCell
  cases s.la.kind
  · exact ⟨rfl, doolittleCell_size _ _ _⟩
  · exact ⟨rfl, mozartCell_size _ _ _ _⟩
  · exact ⟨doolittleInPlaceCell_size _ _, rfl, rfl⟩
  · exact ⟨mozartInPlaceCell_size _ _, rfl, rfl⟩

theorem factor_getD_size (s : SolverCfg α) (J Lo Up : Mat α) (c : Nat) (hc : c < J.size) :
    ((s.factor J Lo Up).1.getD c #[]).size = (J.getD c #[]).size ∧
    ((s.factor J Lo Up).2.1.getD c #[]).size = (Lo.getD c #[]).size ∧
    ((s.factor J Lo Up).2.2.getD c #[]).size = (Up.getD c #[]).size := by
  obtain ⟨e0, e1, e2⟩ := factor_getD s J Lo Up c hc
  rw [e0, e1, e2]
  exact factorCell_size s _ _ _

end LUSize

end Micm
