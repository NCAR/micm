import Micm.Lemmas.ConfigIndepLoop

/-!
C12, "reordered or unreordered state", kernels: a relabelling `σ` of the species (a permutation of
`0 … n−1`) acts on the logical dense data by `x'[σ v] = x[v]` (`PermRow`, `PermMat`, shapes included).
The `Axpy` folds, the forcing, `Factor; Solve` and the terms of the error norm are equivariant (the norm
itself is `C12_norm_relabel`).  `σ` is taken injective on all of `ℕ`; `extendRelabel` makes such a `σ` from
a permutation of `0 … n−1`.
-/
open Finset
namespace Micm
set_option linter.unusedSectionVars false
variable {K : Type} [Field K]

structure IsRelabel (σ : Nat → Nat) (n : Nat) : Prop where
  inj : Function.Injective σ
  lt_iff : ∀ i, σ i < n ↔ i < n

theorem IsRelabel.injOn {σ : Nat → Nat} {n : Nat} (h : IsRelabel σ n) :
    ∀ i, i < n → ∀ j, j < n → σ i = σ j → i = j := fun _ _ _ _ e => h.inj e

theorem IsRelabel.lt {σ : Nat → Nat} {n : Nat} (h : IsRelabel σ n) : ∀ i, i < n → σ i < n :=
  fun i hi => (h.lt_iff i).mpr hi

theorem IsRelabel.surj {σ : Nat → Nat} {n : Nat} (h : IsRelabel σ n) (j : Nat) (hj : j < n) :
    ∃ i, i < n ∧ σ i = j := by
  have := image_perm_range σ n h.injOn h.lt
  have hj' : j ∈ (range n).image σ := by rw [this]; exact mem_range.mpr hj
  obtain ⟨i, hi, e⟩ := Finset.mem_image.mp hj'
  exact ⟨i, mem_range.mp hi, e⟩

theorem IsRelabel.perm_range {σ : Nat → Nat} {n : Nat} (h : IsRelabel σ n) :
    ((List.range n).map σ).Perm (List.range n) := by
  rw [List.perm_ext_iff_of_nodup (List.nodup_range.map h.inj) List.nodup_range]
  intro a
  simp only [List.mem_map, List.mem_range]
  constructor
  · rintro ⟨i, hi, rfl⟩; exact h.lt i hi
  · intro ha; exact h.surj a ha

def PermRow (σ : Nat → Nat) (n : Nat) (x x' : Array K) : Prop :=
  x.size = n ∧ x'.size = n ∧ ∀ v, v < n → rd x' (σ v) = rd x v

def PermMat (σ : Nat → Nat) (nCells n : Nat) (X X' : Mat K) : Prop :=
  X.size = nCells ∧ X'.size = nCells ∧ ∀ c, c < nCells → PermRow σ n (X.getD c #[]) (X'.getD c #[])

section
variable {σ : Nat → Nat} {nCells n : Nat}

theorem PermRow.all (hσ : IsRelabel σ n) {x x' : Array K} (h : PermRow σ n x x') :
    ∀ j, rd x' (σ j) = rd x j := by
  intro j
  by_cases hj : j < n
  · exact h.2.2 j hj
  · rw [rd_of_ge x j (by rw [h.1]; omega),
      rd_of_ge x' (σ j) (by rw [h.2.1]; have := (hσ.lt_iff j).not.mpr hj; omega)]

theorem PermMat.left {X X' : Mat K} (h : PermMat σ nCells n X X') : MatShape nCells n X :=
  ⟨h.1, fun c hc => (h.2.2 c hc).1⟩

theorem PermMat.right {X X' : Mat K} (h : PermMat σ nCells n X X') : MatShape nCells n X' :=
  ⟨h.2.1, fun c hc => (h.2.2 c hc).2.1⟩

theorem PermMat.rd {X X' : Mat K} (h : PermMat σ nCells n X X') (c v : Nat) (hc : c < nCells)
    (hv : v < n) : Micm.rd (X'.getD c #[]) (σ v) = Micm.rd (X.getD c #[]) v := (h.2.2 c hc).2.2 v hv

theorem PermMat.mk' {X X' : Mat K} (h : MatShape nCells n X) (h' : MatShape nCells n X')
    (e : ∀ c, c < nCells → ∀ v, v < n → Micm.rd (X'.getD c #[]) (σ v) = Micm.rd (X.getD c #[]) v) :
    PermMat σ nCells n X X' :=
  ⟨h.1, h'.1, fun c hc => ⟨h.2 c hc, h'.2 c hc, e c hc⟩⟩

theorem PermMat.axpyM (hσ : IsRelabel σ n) {X X' Y Y' : Mat K} (a : K)
    (hX : PermMat σ nCells n X X') (hY : PermMat σ nCells n Y Y') :
    PermMat σ nCells n (Micm.axpyM a X Y) (Micm.axpyM a X' Y') := by
  refine PermMat.mk' (hY.left.axpyM a X) (hY.right.axpyM a X') (fun c hc v hv => ?_)
  rw [axpyM_getD _ _ _ _ (by rw [hY.2.1]; exact hc), axpyM_getD _ _ _ _ (by rw [hY.1]; exact hc),
    rd_axpyRow _ _ _ _ (by rw [(hY.2.2 c hc).2.1]; exact hσ.lt v hv),
    rd_axpyRow _ _ _ _ (by rw [(hY.2.2 c hc).1]; exact hv), hY.rd c v hc hv, hX.rd c v hc hv]

theorem PermMat.axpy_fold (hσ : IsRelabel σ n) (coef : Nat → K) (X X' : Nat → Mat K) (l : List Nat)
    (hX : ∀ j ∈ l, PermMat σ nCells n (X j) (X' j)) {F F' : Mat K} (hF : PermMat σ nCells n F F') :
    PermMat σ nCells n (l.foldl (fun ks j => Micm.axpyM (coef j) (X j) ks) F)
      (l.foldl (fun ks j => Micm.axpyM (coef j) (X' j) ks) F') :=
  axpy_fold_rel (fun a _ _ _ _ hX hY => hX.axpyM hσ a hY) coef X X' l hX hF

theorem PermMat.fillM_zero {M M' : Mat K} (h : MatShape nCells n M) (h' : MatShape nCells n M') :
    PermMat σ nCells n (fillM M 0) (fillM M' 0) := by
  refine PermMat.mk' (h.fillM 0) (h'.fillM 0) (fun c hc v _ => ?_)
  rw [fillM_getD _ _ _ (by rw [h'.1]; exact hc), fillM_getD _ _ _ (by rw [h.1]; exact hc)]
  simp [Micm.rd, Array.getD]

end

theorem cfg_forcing_size (s : SolverCfg K) (k y f : Mat K) : (s.forcing k y f).size = f.size :=
  forcing_size s k y f

section
variable {σ : Nat → Nat} {nCells n : Nat}

theorem PermMat.forcing (hσ : IsRelabel σ n) (m : NameMap) (procs : List (Process K))
    (t t' : PSTables K) (hb : ProcessSet.build procs m = .ok t)
    (hb' : ProcessSet.build procs (relabel σ m) = .ok t')
    (s s' : SolverCfg K) (ht : s.tables = t) (ht' : s'.tables = t') (kc : Mat K)
    {Y Y' f f' : Mat K} (hY : PermMat σ nCells n Y Y') (hf : PermMat σ nCells n f f') :
    PermMat σ nCells n (s.forcing kc Y f) (s'.forcing kc Y' f') := by
  refine PermMat.mk' (hf.left.forcing s kc Y) (hf.right.forcing s' kc Y') (fun c hc v hv => ?_)
  rw [forcing_getD s' _ _ _ _ (by rw [hf.2.1]; exact hc),
    forcing_getD s _ _ _ _ (by rw [hf.1]; exact hc), ht, ht']
  exact forcing_relabel σ hσ.inj m procs t t' (Or.inr hb) (Or.inr hb') _ _ _ _ _
    ((hY.2.2 c hc).all hσ) v (by rw [(hf.2.2 c hc).1]; exact hv)
    (by rw [(hf.2.2 c hc).2.1]; exact hσ.lt v hv) (hf.rd c v hc hv)

/-- The hypotheses: the second configuration holds the symmetrically permuted matrix in every cell, and
    no pivot vanishes in either ordering. -/
theorem linSolve_relabel (hσ : IsRelabel σ n) (s₁ s₂ : SolverCfg K) (kind₁ kind₂ : LUKind)
    (jac₁ jac₂ : Pattern) (hla₁ : s₁.la = LinAlg.build kind₁ jac₁) (hla₂ : s₂.la = LinAlg.build kind₂ jac₂)
    (hn₁ : jac₁.n = n) (hn₂ : jac₂.n = n)
    (hd₁ : kind₁.needsDiag = true → ∀ i, i < n → jac₁.zero? i i = false)
    (hd₂ : kind₂.needsDiag = true → ∀ i, i < n → jac₂.zero? i i = false)
    (M₁ Lo₁ Up₁ M₂ Lo₂ Up₂ : Mat K) (hM₁ : M₁.size = nCells) (hM₂ : M₂.size = nCells)
    (hs₁ : ∀ c, c < nCells → s₁.la.SizesOK (M₁.getD c #[]) (Lo₁.getD c #[]) (Up₁.getD c #[]))
    (hs₂ : ∀ c, c < nCells → s₂.la.SizesOK (M₂.getD c #[]) (Lo₂.getD c #[]) (Up₂.getD c #[]))
    (hpiv₁ : ∀ c, c < nCells → ∀ i, i < n →
      s₁.la.pivot (M₁.getD c #[]) (Lo₁.getD c #[]) (Up₁.getD c #[]) i ≠ 0)
    (hpiv₂ : ∀ c, c < nCells → ∀ i, i < n →
      s₂.la.pivot (M₂.getD c #[]) (Lo₂.getD c #[]) (Up₂.getD c #[]) i ≠ 0)
    (hview : ∀ c, c < nCells → ∀ r c', r < n → c' < n →
      view s₂.la.A (M₂.getD c #[]) (σ r) (σ c') = view s₁.la.A (M₁.getD c #[]) r c')
    {x x' : Mat K} (hx : PermMat σ nCells n x x') :
    PermMat σ nCells n
      (s₁.linSolve (s₁.factor M₁ Lo₁ Up₁).1 (s₁.factor M₁ Lo₁ Up₁).2.1 (s₁.factor M₁ Lo₁ Up₁).2.2 x)
      (s₂.linSolve (s₂.factor M₂ Lo₂ Up₂).1 (s₂.factor M₂ Lo₂ Up₂).2.1 (s₂.factor M₂ Lo₂ Up₂).2.2 x') := by
  refine PermMat.mk' (hx.left.linSolve s₁ _ _ _) (hx.right.linSolve s₂ _ _ _) (fun c hc v hv => ?_)
  rw [linSolve_factor_getD s₁ _ _ _ _ c (by rw [hx.1]; exact hc) (by omega),
    linSolve_factor_getD s₂ _ _ _ _ c (by rw [hx.2.1]; exact hc) (by omega)]
  have h1 := hs₁ c hc
  have h2 := hs₂ c hc
  have h3 := hpiv₁ c hc
  have h4 := hpiv₂ c hc
  have h5 := hview c hc
  rw [hla₁] at h1 h3 h5 ⊢
  rw [hla₂] at h2 h4 h5 ⊢
  exact factorSolve_relabel σ n hσ.injOn hσ.lt kind₁ kind₂ jac₁ jac₂ hn₁ hn₂ hd₁ hd₂ _ _ _ _ _ _ _ _
    h1 h2 (hx.2.2 c hc).1 (hx.2.2 c hc).2.1 h3 h4 h5 (hx.2.2 c hc).2.2 v hv

theorem errTerm_relabel (o : Ops K) (atol atol' : Array K) (rtol : K)
    (hat : ∀ v, v < n → rd atol' (σ v) = rd atol v)
    {y y' ynew ynew' err err' : Mat K} (hy : PermMat σ nCells n y y')
    (hyn : PermMat σ nCells n ynew ynew') (he : PermMat σ nCells n err err')
    (c v : Nat) (hc : c < nCells) (hv : v < n) :
    errTerm o atol' rtol y' ynew' err' c (σ v) = errTerm o atol rtol y ynew err c v := by
  unfold errTerm
  simp only [hy.rd c v hc hv, hyn.rd c v hc hv, he.rd c v hc hv, hat v hv]

theorem sum_map_flatMap_pairs (F : Nat × Nat → K) (lc : List Nat) (nV : Nat) :
    ((lc.flatMap fun c => (List.range nV).map fun v => (c, v)).map F).sum
      = (lc.map fun c => ((List.range nV).map fun v => F (c, v)).sum).sum := by
  induction lc with
  | nil => rfl
  | cons c lc ih =>
    simp only [List.flatMap_cons, List.map_append, List.sum_append, List.map_cons, List.sum_cons, ih,
      List.map_map]
    rfl

theorem sum_range_relabel (hσ : IsRelabel σ n) (g g' : Nat → K) (h : ∀ v, v < n → g' (σ v) = g v) :
    ((List.range n).map g').sum = ((List.range n).map g).sum := by
  rw [← (hσ.perm_range.map g').sum_eq, List.map_map]
  congr 1
  apply List.map_congr_left
  intro v hv
  exact h v (List.mem_range.mp hv)

end

def extendRelabel (σ : Nat → Nat) (n : Nat) (i : Nat) : Nat := if i < n then σ i else i

theorem extendRelabel_lt (σ : Nat → Nat) {n i : Nat} (hi : i < n) : extendRelabel σ n i = σ i := by
  unfold extendRelabel; rw [if_pos hi]

theorem extendRelabel_isRelabel (σ : Nat → Nat) (n : Nat)
    (hinj : ∀ i, i < n → ∀ j, j < n → σ i = σ j → i = j) (hr : ∀ i, i < n → σ i < n) :
    IsRelabel (extendRelabel σ n) n := by
  constructor
  · intro a b h
    unfold extendRelabel at h
    by_cases ha : a < n <;> by_cases hb : b < n
    · rw [if_pos ha, if_pos hb] at h; exact hinj a ha b hb h
    · rw [if_pos ha, if_neg hb] at h; have := hr a ha; omega
    · rw [if_neg ha, if_pos hb] at h; have := hr b hb; omega
    · rw [if_neg ha, if_neg hb] at h; exact h
  · intro i
    unfold extendRelabel
    by_cases hi : i < n
    · rw [if_pos hi]; exact ⟨fun _ => hi, fun _ => hr i hi⟩
    · rw [if_neg hi]

theorem relabel_extend (σ : Nat → Nat) (n : Nat) (m : NameMap) (h : ∀ e ∈ m, e.2 < n) :
    relabel (extendRelabel σ n) m = relabel σ m := by
  unfold relabel
  apply List.map_congr_left
  intro e he
  rw [extendRelabel_lt σ (h e he)]

end Micm
