/-
C02, link to Mathlib's polynomial derivative: the closed form `dMonomial` used in the Jacobian
theorems is the evaluation of `MvPolynomial.pderiv` applied to the rate monomial.
-/
import Micm.Lemmas.Jacobian
import Mathlib.Algebra.MvPolynomial.PDeriv

namespace Micm
open MvPolynomial

variable {K : Type} [CommRing K]

noncomputable def monomialPoly (K : Type) [CommRing K] (rs : List Nat) : MvPolynomial Nat K :=
  (rs.map fun i => (X i : MvPolynomial Nat K)).prod

theorem eval_monomialPoly (y : Nat → K) (rs : List Nat) :
    eval y (monomialPoly K rs) = rateMonomial y rs := by
  unfold monomialPoly rateMonomial
  induction rs with
  | nil => simp
  | cons a l ih => simp [ih]

theorem eval_pderiv_monomialPoly (y : Nat → K) (rs : List Nat) (j : Nat) :
    eval y (pderiv j (monomialPoly K rs)) = dMonomial y rs j := by
  rw [dMonomial_eq_leibniz]
  unfold monomialPoly
  induction rs with
  | nil => simp [dMonomialLeibniz]
  | cons a l ih =>
    rw [List.map_cons, List.prod_cons, Derivation.leibniz, dMonomialLeibniz, ← ih, pderiv_X]
    have hl : eval y ((l.map fun i => (X i : MvPolynomial Nat K)).prod) = (l.map y).prod := by
      have := eval_monomialPoly y l
      unfold monomialPoly rateMonomial at this
      exact this
    by_cases h : a = j
    · subst h
      simp [smul_eq_mul, hl]
      ring
    · simp [smul_eq_mul, h]

end Micm
