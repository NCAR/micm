/-
Helper lemmas for C17 (value semantics of `State`: the store machine of `Model/History.lean`)
and C10 (clamp / NaN propagation facts about `Model/Rosenbrock.lean`).
Core Lean only.
-/
import Micm.Model.History
import Micm.Model.BackwardEuler
import Micm.Lemmas.Forcing
import Micm.Lemmas.SolveInduct
import Micm.Lemmas.BEStep
namespace Micm
set_option linter.unusedSectionVars false

section C17
variable {σ ρ : Type}

/-- the abstract counterpart of `hRun` -/
def specRun (fresh : σ) (solveF : σ → σ × ρ) :
    (Nat → Option σ) → List (HOp σ) → (Nat → Option σ) × List (HOut ρ)
  | st, [] => (st, [])
  | st, op :: ops =>
    let (st', o) := specStep fresh solveF st op
    let (st'', os) := specRun fresh solveF st' ops
    (st'', o :: os)

/-- invariant of the current source (`clone = true`): every live object holds the solver's own kind of
    temporaries -/
def HInv (kind : TempKind) (st : HStore σ) : Prop := ∀ i o, st i = some o → o.temp = kind

def absStore (st : HStore σ) : Nat → Option σ := fun i => (st i).map (·.val)

theorem HInv_empty (kind : TempKind) : HInv kind (fun _ => none : HStore σ) := by
  intro i o h; cases h

theorem absStore_empty : absStore (fun _ => none : HStore σ) = fun _ => none := rfl

theorem HInv_upd {kind : TempKind} {st : HStore σ} (h : HInv kind st) (i : Nat) (o : HObj σ)
    (ho : o.temp = kind) : HInv kind (st.upd i (some o)) := by
  intro j o' hj
  unfold HStore.upd at hj
  split at hj
  · cases hj; exact ho
  · exact h j o' hj

theorem HInv_upd_none {kind : TempKind} {st : HStore σ} (h : HInv kind st) (i : Nat) :
    HInv kind (st.upd i none) := by
  intro j o' hj
  unfold HStore.upd at hj
  split at hj
  · cases hj
  · exact h j o' hj

theorem absStore_upd (st : HStore σ) (i : Nat) (o : HObj σ) :
    absStore (st.upd i (some o)) = fun j => if j = i then some o.val else absStore st j := by
  funext j; unfold absStore HStore.upd; split <;> rfl

theorem absStore_upd_none (st : HStore σ) (i : Nat) :
    absStore (st.upd i none) = fun j => if j = i then none else absStore st j := by
  funext j; unfold absStore HStore.upd; split <;> rfl

theorem hStep_refines (kind : TempKind) (fresh : σ) (solveF : σ → σ × ρ) (st : HStore σ)
    (h : HInv kind st) (op : HOp σ) :
    HInv kind (hStep true kind fresh solveF st op).1 ∧
    absStore (hStep true kind fresh solveF st op).1 = (specStep fresh solveF (absStore st) op).1 ∧
    (hStep true kind fresh solveF st op).2 = (specStep fresh solveF (absStore st) op).2 := by
  cases op with
  | new d =>
    refine ⟨HInv_upd h d _ rfl, ?_, rfl⟩
    simp only [hStep, specStep, absStore_upd]
  | set s f =>
    simp only [hStep, specStep]
    cases hs : st s with
    | none => simp [absStore, hs, h]
    | some o =>
      have hk := h s o hs
      simp only [absStore, hs, Option.map_some]
      exact ⟨HInv_upd h s _ hk, absStore_upd st s _, trivial⟩
  | badSet s code =>
    simp only [hStep, specStep]
    cases hs : st s with
    | none => simp [absStore, hs, h]
    | some o => simp [absStore, hs, h]
  | solve s =>
    simp only [hStep, specStep]
    cases hs : st s with
    | none => simp [absStore, hs, h]
    | some o =>
      have hk := h s o hs
      simp only [absStore, hs, Option.map_some, hk, if_true]
      exact ⟨HInv_upd h s _ rfl, absStore_upd st s _, trivial⟩
  | copyConstruct s d | copyAssign s d =>
    simp only [hStep, specStep]
    cases hs : st s with
    | none => simp [absStore, hs, h]
    | some o =>
      have hk := h s o hs
      simp only [absStore, hs, Option.map_some]
      exact ⟨HInv_upd h d _ (by simp [copyTemp, hk]), absStore_upd st d _, trivial⟩
  | moveConstruct s d | moveAssign s d =>
    simp only [hStep, specStep]
    cases hs : st s with
    | none => simp [absStore, hs, h]
    | some o =>
      have hk := h s o hs
      simp only [absStore, hs, Option.map_some]
      by_cases hsd : s = d
      · simp only [hsd, if_true]; exact ⟨h, trivial, trivial⟩
      · simp only [hsd, if_false]
        refine ⟨HInv_upd_none (HInv_upd h d _ hk) s, ?_, trivial⟩
        rw [absStore_upd_none, absStore_upd]; rfl

theorem specStep_ne_ub (fresh : σ) (solveF : σ → σ × ρ) (st : Nat → Option σ) (op : HOp σ) :
    (specStep fresh solveF st op).2 = .ub → False := by
  intro h
  -- every branch of `specStep` returns a literal `ok`, `noState`, `err` or `result`
  cases op with
  | new d => cases h
  | set s f | badSet s code | solve s | copyConstruct s d | copyAssign s d =>
    simp only [specStep] at h
    cases hs : st s <;> rw [hs] at h <;> cases h
  | moveConstruct s d | moveAssign s d =>
    simp only [specStep] at h
    cases hs : st s with
    | none => rw [hs] at h; cases h
    | some v =>
      rw [hs] at h
      dsimp only at h
      split at h <;> cases h

theorem hRun_refines (kind : TempKind) (fresh : σ) (solveF : σ → σ × ρ) (ops : List (HOp σ)) :
    ∀ (st : HStore σ), HInv kind st →
    HInv kind (hRun true kind fresh solveF st ops).1 ∧
    absStore (hRun true kind fresh solveF st ops).1 = (specRun fresh solveF (absStore st) ops).1 ∧
    (hRun true kind fresh solveF st ops).2 = (specRun fresh solveF (absStore st) ops).2 := by
  induction ops with
  | nil => intro st h; exact ⟨h, rfl, rfl⟩
  | cons op ops ih =>
    intro st h
    obtain ⟨h1, h2, h3⟩ := hStep_refines kind fresh solveF st h op
    obtain ⟨i1, i2, i3⟩ := ih _ h1
    simp only [hRun, specRun]
    rw [← h2]
    exact ⟨i1, i2, by rw [i3, h3]⟩

theorem specRun_no_ub (fresh : σ) (solveF : σ → σ × ρ) (ops : List (HOp σ)) :
    ∀ (st : Nat → Option σ), ∀ o ∈ (specRun fresh solveF st ops).2, o = HOut.ub → False := by
  induction ops with
  | nil => intro st o ho; simp [specRun] at ho
  | cons op ops ih =>
    intro st o ho hub
    simp only [specRun, List.mem_cons] at ho
    rcases ho with ho | ho
    · exact specStep_ne_ub fresh solveF st op (ho ▸ hub)
    · exact ih _ o ho hub

end C17

section C10Clamp
variable {α : Type}

theorem cmax_zero_not_lt [OfNat α 0] (o : Ops α) (h00 : o.lt 0 0 = false) (v : α) :
    o.lt (cmax o v 0) 0 = false := by
  unfold cmax
  cases h : o.lt v 0
  · simp [h]
  · simp [h00]

theorem mem_clampNonNeg [OfNat α 0] (o : Ops α) (Y : Mat α) (row : Array α) (x : α)
    (hrow : row ∈ clampNonNeg o Y) (hx : x ∈ row) :
    ∃ row' ∈ Y, ∃ v ∈ row', x = cmax o v 0 := by
  unfold clampNonNeg at hrow
  rw [Array.mem_map] at hrow
  obtain ⟨row', hr', rfl⟩ := hrow
  rw [Array.mem_map] at hx
  obtain ⟨v, hv, rfl⟩ := hx
  exact ⟨row', hr', v, hv, rfl⟩

theorem clampNonNeg_size [OfNat α 0] (o : Ops α) (Y : Mat α) : (clampNonNeg o Y).size = Y.size := by
  simp [clampNonNeg]

theorem rd_clampNonNeg [OfNat α 0] (o : Ops α) (Y : Mat α) (c v : Nat) :
    rd ((clampNonNeg o Y).getD c #[]) v =
      if c < Y.size ∧ v < (Y.getD c #[]).size then cmax o (rd (Y.getD c #[]) v) 0 else 0 := by
  unfold clampNonNeg rd
  by_cases hc : c < Y.size
  · by_cases hv : v < (Y.getD c #[]).size
    · have hv' : v < Y[c].size := by simpa [Array.getD, hc] using hv
      simp [Array.getD, hc, hv']
    · have hv' : ¬ v < Y[c].size := by simpa [Array.getD, hc] using hv
      simp [Array.getD, hc, hv']
  · simp [Array.getD, hc]

end C10Clamp

section C10
variable {α : Type} [Add α] [Sub α] [Mul α] [Div α]

/-- The IEEE-754 facts about NaN that the C10 theorems use (assumed for `Float`, satisfied by
    `nanRatOps` below). -/
structure NaNLaws (o : Ops α) : Prop where
  add : ∀ a b : α, o.isNaN a = true ∨ o.isNaN b = true → o.isNaN (a + b) = true
  sub : ∀ a b : α, o.isNaN a = true ∨ o.isNaN b = true → o.isNaN (a - b) = true
  mul : ∀ a b : α, o.isNaN a = true ∨ o.isNaN b = true → o.isNaN (a * b) = true
  div : ∀ a b : α, o.isNaN a = true ∨ o.isNaN b = true → o.isNaN (a / b) = true
  cmp : ∀ a b : α, o.isNaN a = true ∨ o.isNaN b = true →
    o.lt a b = false ∧ o.le a b = false ∧ o.eq a b = false
  abs : ∀ a : α, o.isNaN a = true → o.isNaN (o.abs a) = true
  sqrt : ∀ a : α, o.isNaN a = true → o.isNaN (o.sqrt a) = true
  notFinite : ∀ a : α, o.isNaN a = true → o.isFinite a = false
  ofNat : ∀ n : Nat, o.isNaN (o.ofNat n) = false

variable {o : Ops α}

/-- `std::max(x, b)` with `x` NaN returns `x` (`x < b` is false) -/
theorem NaNLaws.cmax_left (hl : NaNLaws o) (x b : α) (h : o.isNaN x = true) : cmax o x b = x := by
  unfold cmax; rw [(hl.cmp x b (Or.inl h)).1]; rfl

/-- `std::max(a, x)` with `x` NaN returns `a` (`a < x` is false): the NaN is **lost** -/
theorem NaNLaws.cmax_right (hl : NaNLaws o) (a x : α) (h : o.isNaN x = true) : cmax o a x = a := by
  unfold cmax; rw [(hl.cmp a x (Or.inr h)).1]; rfl

theorem NaNLaws.foldl_add (hl : NaNLaws o) {β : Type} (f : β → α) (l : List β) (acc : α)
    (h : o.isNaN acc = true ∨ ∃ x ∈ l, o.isNaN (f x) = true) :
    o.isNaN (l.foldl (fun acc x => acc + f x) acc) = true :=
  foldl_absorb (o.isNaN · = true) (fun x => o.isNaN (f x) = true) _
    (fun _ _ ha => hl.add _ _ (Or.inl ha)) (fun _ _ hb => hl.add _ _ (Or.inr hb)) l acc h

variable [OfNat α 0]

theorem NaNLaws.errTerm (hl : NaNLaws o) (atol : Array α) (rtol : α) (y ynew err : Mat α) (c v : Nat)
    (h : o.isNaN (rd (err.getD c #[]) v) = true) :
    o.isNaN (errTerm o atol rtol y ynew err c v) = true := by
  unfold Micm.errTerm
  exact hl.mul _ _ (Or.inl (hl.div _ _ (Or.inl h)))

theorem NaNLaws.normalizedError_term (hl : NaNLaws o) (cs : Consts α) (L nVars : Nat) (atol : Array α)
    (rtol : α) (y ynew err : Mat α) (c v : Nat) (hmem : (c, v) ∈ normOrder L y.size nVars)
    (h : o.isNaN (Micm.errTerm o atol rtol y ynew err c v) = true) :
    o.isNaN (normalizedError o cs L nVars atol rtol y ynew err) = true := by
  unfold normalizedError
  have hsum := hl.foldl_add (fun cv : Nat × Nat => Micm.errTerm o atol rtol y ynew err cv.1 cv.2)
    (normOrder L y.size nVars) 0 (Or.inr ⟨(c, v), hmem, h⟩)
  have hs := hl.sqrt _ (hl.div _ (o.ofNat (y.size * nVars)) (Or.inl hsum))
  simp only []
  rw [hl.cmax_left _ _ hs]
  exact hs

end C10

section ForcingNaN
variable {α : Type} [OfNat α 0] [Add α] [Sub α] [Mul α] [Div α] {o : Ops α}

theorem foldl_rmw_nan_create {β : Type} (g : β → Nat) (val : α → β → α)
    (hst : ∀ x b, o.isNaN x = true → o.isNaN (val x b) = true) (l : List β) (f : Array α) (i : Nat)
    (hall : ∀ x b, b ∈ l → g b = i → o.isNaN (val x b) = true)
    (hmem : ∃ b ∈ l, g b = i) (hi : i < f.size) :
    o.isNaN (rd (l.foldl (fun f b => wr f (g b) (val (rd f (g b)) b)) f) i) = true := by
  induction l generalizing f with
  | nil => obtain ⟨b, hb, _⟩ := hmem; cases hb
  | cons b l ih =>
    simp only [List.foldl_cons]
    by_cases hg : g b = i
    · apply foldl_wr_sticky (o.isNaN · = true) g val hst
      rw [hg, rd_wr_same _ _ _ hi]
      exact hall _ b (List.mem_cons_self ..) hg
    · apply ih
      · intro x b' hb' hg'; exact hall x b' (List.mem_cons_of_mem _ hb') hg'
      · obtain ⟨b', hb', hg'⟩ := hmem
        rcases List.mem_cons.1 hb' with rfl | hb'
        · exact absurd hg' hg
        · exact ⟨b', hb', hg'⟩
      · simpa using hi

theorem NaNLaws.rxnRate (hl : NaNLaws o) (y : Array α) (k : α) (rs : List Nat)
    (h : o.isNaN k = true ∨ ∃ j ∈ rs, o.isNaN (rd y j) = true) : o.isNaN (rxnRate y k rs) = true :=
  foldl_absorb (o.isNaN · = true) (fun j => o.isNaN (rd y j) = true) _
    (fun _ _ ha => hl.mul _ _ (Or.inl ha)) (fun _ _ hb => hl.mul _ _ (Or.inr hb)) rs k h

theorem NaNLaws.rxnStep_sticky (hl : NaNLaws o) (y f : Array α) (k : α) (rx : RRxn α) (i : Nat)
    (h : o.isNaN (rd f i) = true) : o.isNaN (rd (rxnStep y f k rx) i) = true := by
  unfold Micm.rxnStep
  simp only []
  apply foldl_wr_sticky (o.isNaN · = true) (fun p : Nat × α => p.1) (fun x p => x + p.2 * Micm.rxnRate y k rx.1)
    (fun x b hx => hl.add _ _ (Or.inl hx))
  exact foldl_wr_sticky (o.isNaN · = true) (fun i : Nat => i) (fun x _ => x - Micm.rxnRate y k rx.1)
    (fun x b hx => hl.sub _ _ (Or.inl hx)) _ _ _ h

theorem NaNLaws.rxnStep_create (hl : NaNLaws o) (y f : Array α) (k : α) (rx : RRxn α) (i : Nat)
    (hrate : o.isNaN (Micm.rxnRate y k rx.1) = true) (hi : i < f.size)
    (hmem : i ∈ rx.1 ∨ ∃ p ∈ rx.2, p.1 = i) : o.isNaN (rd (rxnStep y f k rx) i) = true := by
  unfold Micm.rxnStep
  simp only []
  rcases hmem with hm | hm
  · apply foldl_wr_sticky (o.isNaN · = true) (fun p : Nat × α => p.1) (fun x p => x + p.2 * Micm.rxnRate y k rx.1)
      (fun x b hx => hl.add _ _ (Or.inl hx))
    exact foldl_rmw_nan_create (fun i : Nat => i) (fun x _ => x - Micm.rxnRate y k rx.1)
      (fun x b hx => hl.sub _ _ (Or.inl hx)) _ _ _ (fun x b _ _ => hl.sub _ _ (Or.inr hrate))
      ⟨i, hm, rfl⟩ hi
  · refine foldl_rmw_nan_create (fun p : Nat × α => p.1) (fun x p => x + p.2 * Micm.rxnRate y k rx.1)
      (fun x b hx => hl.add _ _ (Or.inl hx)) _ _ _
      (fun x b _ _ => hl.add _ _ (Or.inr (hl.mul _ _ (Or.inr hrate)))) hm ?_
    rw [foldl_wr_size (fun i : Nat => i) (fun f i => rd f i - Micm.rxnRate y k rx.1)]
    exact hi

theorem NaNLaws.forcingSpec_sticky (hl : NaNLaws o) (y : Array α) (rxns : List (RRxn α)) (ks : List α)
    (f : Array α) (i : Nat) (h : o.isNaN (rd f i) = true) :
    o.isNaN (rd (forcingSpec y rxns ks f) i) = true := by
  induction rxns generalizing ks f with
  | nil => simpa using h
  | cons rx rest ih =>
    cases ks with
    | nil => simpa using h
    | cons k ks => rw [forcingSpec_cons]; exact ih _ _ (hl.rxnStep_sticky y f k rx i h)

/-- C10, NaN in ⇒ NaN forcing: a NaN rate constant or reactant concentration of the `n`-th reaction makes
    the forcing of each of its in-range reactants and products NaN. -/
theorem NaNLaws.forcingSpec_nan (hl : NaNLaws o) (y : Array α) (rxns : List (RRxn α)) (ks : List α)
    (f : Array α) (n : Nat) (rx : RRxn α) (k : α) (hrx : rxns[n]? = some rx) (hk : ks[n]? = some k)
    (hnan : o.isNaN k = true ∨ ∃ j ∈ rx.1, o.isNaN (rd y j) = true)
    (i : Nat) (hi : i < f.size) (hmem : i ∈ rx.1 ∨ ∃ p ∈ rx.2, p.1 = i) :
    o.isNaN (rd (forcingSpec y rxns ks f) i) = true := by
  induction rxns generalizing ks f n with
  | nil => simp at hrx
  | cons rx0 rest ih =>
    cases ks with
    | nil => simp at hk
    | cons k0 ks =>
      rw [forcingSpec_cons]
      cases n with
      | zero =>
        simp only [List.getElem?_cons_zero, Option.some.injEq] at hrx hk
        subst hrx; subst hk
        exact hl.forcingSpec_sticky y rest ks _ i
          (hl.rxnStep_create y f k0 rx0 i (hl.rxnRate y k0 rx0.1 hnan) hi hmem)
      | succ n =>
        simp only [List.getElem?_cons_succ] at hrx hk
        exact ih ks _ n hrx hk (by rw [rxnStep_size]; exact hi)

end ForcingNaN

/-- rationals with one extra absorbing element (`none`) playing NaN -/
def NaNRat := Option Rat

namespace NaNRat
def bin (f : Rat → Rat → Rat) : NaNRat → NaNRat → NaNRat
  | some x, some y => some (f x y)
  | _, _ => none
def cmp (f : Rat → Rat → Bool) : NaNRat → NaNRat → Bool
  | some x, some y => f x y
  | _, _ => false
def un (f : Rat → Rat) : NaNRat → NaNRat
  | some x => some (f x)
  | none => none
instance : Add NaNRat := ⟨bin (· + ·)⟩
instance : Sub NaNRat := ⟨bin (· - ·)⟩
instance : Mul NaNRat := ⟨bin (· * ·)⟩
instance : Div NaNRat := ⟨bin (· / ·)⟩
instance (n : Nat) : OfNat NaNRat n := ⟨some (n : Rat)⟩
instance : DecidableEq NaNRat := inferInstanceAs (DecidableEq (Option Rat))
def nan : NaNRat := none
def ofRat (q : Rat) : NaNRat := some q
end NaNRat

/-- comparisons false on NaN, `abs`/`sqrt`/`pow` NaN-preserving (`sqrt`, `pow` are placeholders on
    the rationals: no C10 theorem looks at their values) -/
def nanRatOps : Ops NaNRat where
  lt := NaNRat.cmp fun x y => decide (x < y)
  le := NaNRat.cmp fun x y => decide (x ≤ y)
  eq := NaNRat.cmp fun x y => decide (x = y)
  abs := NaNRat.un fun x => if x < 0 then -x else x
  sqrt := NaNRat.un id
  pow := NaNRat.bin fun x _ => x
  isNaN := Option.isNone
  isInf := fun _ => false
  isFinite := Option.isSome
  ofNat := fun n => some (n : Rat)

theorem NaNRat.bin_isNone (f : Rat → Rat → Rat) (a b : Option Rat)
    (h : a.isNone = true ∨ b.isNone = true) : (NaNRat.bin f a b).isNone = true := by
  cases a with
  | none => rfl
  | some x =>
    cases b with
    | none => rfl
    | some y => rcases h with h | h <;> cases h

theorem NaNRat.cmp_false (f : Rat → Rat → Bool) (a b : Option Rat)
    (h : a.isNone = true ∨ b.isNone = true) : NaNRat.cmp f a b = false := by
  cases a with
  | none => rfl
  | some x =>
    cases b with
    | none => rfl
    | some y => rcases h with h | h <;> cases h

theorem NaNRat.un_isNone (f : Rat → Rat) (a : Option Rat) (h : a.isNone = true) :
    (NaNRat.un f a).isNone = true := by
  cases a with
  | none => rfl
  | some x => cases h

theorem nanRatOps_laws : NaNLaws nanRatOps where
  add a b h := NaNRat.bin_isNone _ a b h
  sub a b h := NaNRat.bin_isNone _ a b h
  mul a b h := NaNRat.bin_isNone _ a b h
  div a b h := NaNRat.bin_isNone _ a b h
  cmp a b h := ⟨NaNRat.cmp_false _ a b h, NaNRat.cmp_false _ a b h, NaNRat.cmp_false _ a b h⟩
  abs a h := NaNRat.un_isNone _ a h
  sqrt a h := NaNRat.un_isNone _ a h
  notFinite a h := by
    cases a with
    | none => rfl
    | some x => cases h
  ofNat n := rfl

end Micm
