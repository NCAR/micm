/-
Helper lemmas for C10 (second part): how a NaN reaches the error norm of a Rosenbrock attempt.

  forcing (NaN at (c,v))  →  K₀ = linSolve(forcing)   (forward / backward substitution, any tables)
                          →  Yerr = Σ eᵢ Kᵢ           (Axpy folds from a zero fill)
                          →  error norm               (`NaNLaws.normalizedError_term`)
                          →  `NaNDetected`.

The chain itself is proved in `Properties/C10b.lean`; here are its two ends: the writes of a row
program of the substitution kernels never repair a NaN (the hypotheses of `solveCell_induct`), and
the NaN terms of the norm that come from `Y` or the tolerances.  Arbitrary carrier with the IEEE
facts `NaNLaws o` (Lemmas/Special.lean); no assumption on the substitution tables, on the matrix
values (NaN included), on the LU kind, on the sparse ordering or on the dense layout `L`.
-/
import Micm.Lemmas.Special
import Micm.Lemmas.RosLoop
namespace Micm
set_option linter.unusedSectionVars false

section Subst
variable {α : Type} [OfNat α 0] [Add α] [Sub α] [Mul α] [Div α] {o : Ops α}

theorem NaNLaws.sticky_sub (hl : NaNLaws o) (i : Nat) (x : Array α) (t : Nat) (m : α) (j : Nat)
    (h : o.isNaN (rd x i) = true) : o.isNaN (rd (wr x t (rd x t - m * rd x j)) i) = true :=
  rd_wr_rmw (o.isNaN · = true) (· - m * rd x j) (fun _ ha => hl.sub _ _ (Or.inl ha)) x t i h

theorem NaNLaws.sticky_div (hl : NaNLaws o) (i : Nat) (x : Array α) (t : Nat) (d : α)
    (h : o.isNaN (rd x i) = true) : o.isNaN (rd (wr x t (rd x t / d)) i) = true :=
  rd_wr_rmw (o.isNaN · = true) (· / d) (fun _ ha => hl.div _ _ (Or.inl ha)) x t i h

end Subst

section Chain
variable {α : Type} [OfNat α 0] [OfNat α 1] [Add α] [Sub α] [Mul α] [Div α] {o : Ops α}
variable (s : SolverCfg α) (p : RosParams α) (kc : Mat α)

/-! `errTerm = e * e` with `e = err / (atol + rtol * max |y| |ynew|)`: each proof walks from the NaN operand up
through this expression, `Or.inl` / `Or.inr` naming the side the NaN is on. -/

/-- `max(|NaN|, ·)` returns its first argument, so the scale `atol + rtol·NaN` is NaN and so is `err / NaN` -/
theorem NaNLaws.errTerm_y (hl : NaNLaws o) (atol : Array α) (rtol : α) (y ynew err : Mat α) (c v : Nat)
    (h : o.isNaN (rd (y.getD c #[]) v) = true) :
    o.isNaN (Micm.errTerm o atol rtol y ynew err c v) = true := by
  unfold Micm.errTerm
  simp only []
  rw [hl.cmax_left _ _ (hl.abs _ h)]
  exact hl.mul _ _ (Or.inl (hl.div _ _ (Or.inr (hl.add _ _ (Or.inr (hl.mul _ _ (Or.inr (hl.abs _ h))))))))

theorem NaNLaws.errTerm_atol (hl : NaNLaws o) (atol : Array α) (rtol : α) (y ynew err : Mat α) (c v : Nat)
    (h : o.isNaN (rd atol v) = true) : o.isNaN (Micm.errTerm o atol rtol y ynew err c v) = true := by
  unfold Micm.errTerm
  exact hl.mul _ _ (Or.inl (hl.div _ _ (Or.inr (hl.add _ _ (Or.inl h)))))

theorem NaNLaws.errTerm_rtol (hl : NaNLaws o) (atol : Array α) (rtol : α) (y ynew err : Mat α) (c v : Nat)
    (h : o.isNaN rtol = true) : o.isNaN (Micm.errTerm o atol rtol y ynew err c v) = true := by
  unfold Micm.errTerm
  exact hl.mul _ _ (Or.inl (hl.div _ _ (Or.inr (hl.add _ _ (Or.inr (hl.mul _ _ (Or.inl h)))))))

variable (cs : Consts α) (atol : Array α) (rtol : α)

theorem NaNLaws.attError_nan_y (hl : NaNLaws o) (r : RState α) (c v : Nat) (hc : c < r.Y.size)
    (hv : v < s.nSpecies) (h : o.isNaN (rd (r.Y.getD c #[]) v) = true) :
    o.isNaN (attError o cs s p kc atol rtol r) = true := by
  unfold attError
  exact hl.normalizedError_term cs s.L s.nSpecies atol rtol _ _ _ c v
    ((mem_normOrder s.L r.Y.size s.nSpecies c v).2 ⟨hc, hv⟩) (hl.errTerm_y atol rtol _ _ _ c v h)

theorem NaNLaws.attError_nan_atol (hl : NaNLaws o) (r : RState α) (v : Nat) (hc : 0 < r.Y.size)
    (hv : v < s.nSpecies) (h : o.isNaN (rd atol v) = true) :
    o.isNaN (attError o cs s p kc atol rtol r) = true := by
  unfold attError
  exact hl.normalizedError_term cs s.L s.nSpecies atol rtol _ _ _ 0 v
    ((mem_normOrder s.L r.Y.size s.nSpecies 0 v).2 ⟨hc, hv⟩) (hl.errTerm_atol atol rtol _ _ _ 0 v h)

theorem NaNLaws.attError_nan_rtol (hl : NaNLaws o) (r : RState α) (hc : 0 < r.Y.size)
    (hv : 0 < s.nSpecies) (h : o.isNaN rtol = true) :
    o.isNaN (attError o cs s p kc atol rtol r) = true := by
  unfold attError
  exact hl.normalizedError_term cs s.L s.nSpecies atol rtol _ _ _ 0 0
    ((mem_normOrder s.L r.Y.size s.nSpecies 0 0).2 ⟨hc, hv⟩) (hl.errTerm_rtol atol rtol _ _ _ 0 0 h)

end Chain

section First
variable {α : Type} [OfNat α 0] [OfNat α 1] [Add α] [Sub α] [Mul α] [Div α]
variable (o : Ops α) (cs : Consts α) (s : SolverCfg α) (p : RosParams α) (kc : Mat α)
    (atol : Array α) (rtol : α) (timeStep hm : α)

/-- "the loop is entered": the outer `while` test holds at `t = 0` (`0 − T + round_off ≤ 0`, i.e.
    the no-progress case of `C06_no_progress_iff` is not met) and the first `H` passes the
    step-size-too-small test.  (`number_of_steps = 0 > max_steps` is impossible.) -/
def LoopEntered (h : α) : Prop :=
  o.le (0 - timeStep + p.roundOff) 0 = true ∧
  (o.eq (0 + cs.tenth * h) 0 || o.le h p.roundOff) = false

theorem rosPrologue_rosInit (h : α) (Y : Mat α) (sc : Scratch α)
    (h1 : o.le (0 - timeStep + p.roundOff) 0 = true) :
    rosPrologue o cs s p kc timeStep (rosInit h Y sc) =
      if (o.eq (0 + cs.tenth * h) 0 || o.le h p.roundOff) = true
      then { rosInit h Y sc with status := .stepSizeTooSmall }
      else startStep o s kc timeStep (rosInit h Y sc) := by
  unfold rosPrologue
  have e1 : (rosInit h Y sc).inStep = false := rfl
  have e2 : (rosInit h Y sc).ctl.t = 0 := rfl
  have e3 : (rosInit h Y sc).ctl.h = h := rfl
  have e4 : (rosInit h Y sc).stats.numberOfSteps = 0 := rfl
  rw [e1, e2, e3, e4, h1, if_neg Bool.false_ne_true, if_neg (by decide), if_neg (Nat.not_lt_zero _)]
  rfl

theorem rosPrologue_init (h : α) (Y : Mat α) (sc : Scratch α) (he : LoopEntered o cs p timeStep h) :
    rosPrologue o cs s p kc timeStep (rosInit h Y sc) = startStep o s kc timeStep (rosInit h Y sc) := by
  rw [rosPrologue_rosInit o cs s p kc timeStep h Y sc he.1, if_neg (by rw [he.2]; decide)]

end First

end Micm
