import Micm.Lemmas.RelabelLoop
import Micm.Lemmas.BackwardEuler

/-!
C12, "reordered or unreordered state", backward Euler: `beSolve` on the relabelled mechanism stays
in lockstep with the original run.  The Newton update uses the same kernels as Rosenbrock (forcing,
Jacobian, `Factor; Solve`); the residual, the clamp `max(·, 0)` and the convergence test
`IsConverged` are element-wise, hence commute with the relabelling.
-/
open Finset
namespace Micm
set_option linter.unusedSectionVars false
variable {K : Type} [Field K]

section Elementwise
variable {σ : Nat → Nat} {nCells n : Nat}

theorem PermMat.mapIdx₂ (hσ : IsRelabel σ n) (g g' : Nat → Nat → K → K) {X X' : Mat K}
    (hX : PermMat σ nCells n X X')
    (hg : ∀ c, c < nCells → ∀ v, v < n → ∀ a, g' c (σ v) a = g c v a) :
    PermMat σ nCells n (X.mapIdx fun c xr => xr.mapIdx fun v x => g c v x)
      (X'.mapIdx fun c xr => xr.mapIdx fun v x => g' c v x) := by
  refine ⟨by simp [hX.1], by simp [hX.2.1], fun c hc => ?_⟩
  have h1 : c < X.size := by rw [hX.1]; exact hc
  have h2 : c < X'.size := by rw [hX.2.1]; exact hc
  obtain ⟨s1, s2, e⟩ := hX.2.2 c hc
  rw [getD_mapIdx _ X c h1 #[] #[], getD_mapIdx _ X' c h2 #[] #[]]
  refine ⟨by rw [Array.size_mapIdx]; exact s1, by rw [Array.size_mapIdx]; exact s2, fun v hv => ?_⟩
  rw [rd_mapIdx _ _ _ (by rw [s2]; exact hσ.lt v hv), rd_mapIdx _ _ _ (by rw [s1]; exact hv),
    e v hv, hg c hc v hv]

theorem all_congr_mem {β : Type} {l : List β} {f g : β → Bool} (h : ∀ x ∈ l, f x = g x) :
    l.all f = l.all g := by
  induction l with
  | nil => rfl
  | cons a l ih =>
    simp only [List.all_cons]
    rw [h a List.mem_cons_self, ih (fun x hx => h x (List.mem_cons_of_mem _ hx))]

theorem all_range_relabel (hσ : IsRelabel σ n) (P P' : Nat → Bool)
    (h : ∀ v, v < n → P' (σ v) = P v) : (List.range n).all P' = (List.range n).all P := by
  rw [Bool.eq_iff_iff, List.all_eq_true, List.all_eq_true]
  constructor
  · intro H v hv
    rw [← h v (List.mem_range.mp hv)]
    exact H _ (List.mem_range.mpr (hσ.lt v (List.mem_range.mp hv)))
  · intro H w hw
    obtain ⟨v, hv, rfl⟩ := hσ.surj w (List.mem_range.mp hw)
    rw [h v hv]
    exact H v (List.mem_range.mpr hv)

end Elementwise

structure BEStoreInv (s : SolverCfg K) (nCells n : Nat) (r : BEState K) : Prop where
  f0 : MatShape nCells n r.sc.f0
  jac : MatShape nCells s.la.A.nnz r.sc.jac
  lower : s.la.kind.inPlace = false → MatShape nCells s.la.Lp.nnz r.sc.lower
  upper : s.la.kind.inPlace = false → MatShape nCells s.la.Up.nnz r.sc.upper

structure BERelabelEq (σ : Nat → Nat) (nCells n : Nat) (r₁ r₂ : BEState K) : Prop where
  Yn1 : PermMat σ nCells n r₁.Yn1 r₂.Yn1
  Yn : PermMat σ nCells n r₁.Yn r₂.Yn
  t : r₁.t = r₂.t
  h : r₁.h = r₂.h
  nSucc : r₁.nSucc = r₂.nSucc
  nFail : r₁.nFail = r₂.nFail
  iterations : r₁.iterations = r₂.iterations
  status : r₁.status = r₂.status
  done : r₁.done = r₂.done
  stats : r₁.stats = r₂.stats
  trace : r₁.trace.map (·.h) = r₂.trace.map (·.h)

section BE
variable (o : Ops K) (p : BEParams K) (kc : Mat K) (atol atol' : Array K) (rtol T : K)
variable {σ : Nat → Nat} {procs : List (Process K)} {m : NameMap} {t t' : PSTables K} {n : Nat}

theorem beMatrix_shape (s : SolverCfg K) (nCells : Nat) (r : BEState K)
    (hj : MatShape nCells s.la.A.nnz r.sc.jac) : MatShape nCells s.la.A.nnz (beMatrix s kc r) := by
  rw [beMatrix_eq]
  exact ((hj.fillM 0).jacobian s _ _).alphaMinusJacobian s _

theorem beForcing_shape (s : SolverCfg K) (nCells n : Nat) (r : BEState K)
    (hf : MatShape nCells n r.sc.f0) : MatShape nCells n (beForcing s kc r) := by
  unfold beForcing
  exact (hf.fillM 0).forcing s _ _

theorem BEStoreInv_newton (s : SolverCfg K) (nCells n : Nat) (r : BEState K)
    (h : BEStoreInv s nCells n r) : BEStoreInv s nCells n (beNewton o s kc r) := by
  have hfa := factor_shapes s nCells (beMatrix s kc r) r.sc.lower r.sc.upper
    (beMatrix_shape kc s nCells r h.jac) h.lower h.upper
  refine ⟨?_, hfa.1, hfa.2.1, hfa.2.2⟩
  show MatShape nCells n (beResidual s kc r)
  unfold beResidual
  exact ((beForcing_shape kc s nCells n r h.f0).mapIdx₂ _).linSolve s _ _ _

theorem BEStoreInv_step (s : SolverCfg K) (nCells n : Nat) (r : BEState K)
    (h : BEStoreInv s nCells n r) : BEStoreInv s nCells n (beStep o s p kc atol rtol T r) := by
  have hH : BEStoreInv s nCells n (beHead o T r) :=
    ⟨by rw [beHead_sc]; exact h.f0, by rw [beHead_sc]; exact h.jac, by rw [beHead_sc]; exact h.lower,
      by rw [beHead_sc]; exact h.upper⟩
  have hN := BEStoreInv_newton o kc s nCells n (beHead o T r) hH
  have hc := beStep_cases o s p kc atol rtol T r
  generalize beStep o s p kc atol rtol T r = r' at hc ⊢
  cases hc with
  | exit _ => exact hH
  | cont => exact hN
  | giveUp => exact ⟨hN.f0, hN.jac, hN.lower, hN.upper⟩
  | retry => exact ⟨hN.f0, hN.jac, hN.lower, hN.upper⟩
  | accept => rw [beAccept_eq]; exact ⟨hN.f0, hN.jac, hN.lower, hN.upper⟩

theorem BERelabelEq_head (nCells : Nat) (r₁ r₂ : BEState K) (h : BERelabelEq σ nCells n r₁ r₂) :
    BERelabelEq σ nCells n (beHead o T r₁) (beHead o T r₂) := by
  have e1 : o.lt r₁.t T = o.lt r₂.t T := by rw [h.t]
  unfold beHead
  by_cases h0 : r₂.iterations = 0
  · rw [if_pos (h.iterations.trans h0), if_pos h0, e1]
    cases o.lt r₂.t T
    · exact ⟨h.Yn1, h.Yn, h.t, h.h, h.nSucc, h.nFail, h.iterations, h.status, rfl, h.stats, h.trace⟩
    · exact ⟨h.Yn1, h.Yn, h.t, h.h, h.nSucc, h.nFail, h.iterations, rfl, h.done, h.stats, h.trace⟩
  · rw [if_neg (fun e => h0 (h.iterations.symm.trans e)), if_neg h0]; exact h

theorem BERelabelEq_reject (nCells : Nat) (q₁ q₂ : BEState K) (h : BERelabelEq σ nCells n q₁ q₂) :
    BERelabelEq σ nCells n (beReject o p T q₁) (beReject o p T q₂) := by
  rw [beReject_eq, beReject_eq]
  by_cases hf : p.reductions.length ≤ q₂.nFail
  · rw [if_pos (by rw [h.nFail]; exact hf), if_pos hf]
    exact ⟨h.Yn1, h.Yn, by show q₁.t + q₁.h = q₂.t + q₂.h; rw [h.t, h.h], h.h, rfl, h.nFail, rfl, rfl,
      rfl, by show ({ q₁.stats with rejected := q₁.stats.rejected + 1 } : Stats) = _; rw [h.stats]; rfl,
      h.trace⟩
  · rw [if_neg (by rw [h.nFail]; exact hf), if_neg hf]
    exact ⟨h.Yn, h.Yn, h.t, by
        show cmin o (q₁.h * p.reductions.getD q₁.nFail 1) (T - q₁.t)
          = cmin o (q₂.h * p.reductions.getD q₂.nFail 1) (T - q₂.t)
        rw [h.t, h.h, h.nFail],
      rfl, by show q₁.nFail + 1 = q₂.nFail + 1; rw [h.nFail], rfl, h.status, h.done,
      by show ({ q₁.stats with rejected := q₁.stats.rejected + 1 } : Stats) = _; rw [h.stats]; rfl, h.trace⟩

theorem BERelabelEq_accept (nCells : Nat) (q₁ q₂ : BEState K) (h : BERelabelEq σ nCells n q₁ q₂) :
    BERelabelEq σ nCells n (beAccept o T q₁) (beAccept o T q₂) := by
  rw [beAccept_eq, beAccept_eq]
  exact ⟨h.Yn1, h.Yn1, by show q₁.t + q₁.h = q₂.t + q₂.h; rw [h.t, h.h], by
      show cmin o (if q₁.nSucc + 1 ≥ 2 then q₁.h * 2 else q₁.h) (T - (q₁.t + q₁.h))
        = cmin o (if q₂.nSucc + 1 ≥ 2 then q₂.h * 2 else q₂.h) (T - (q₂.t + q₂.h))
      rw [h.t, h.h, h.nSucc],
    by show (if q₁.nSucc + 1 ≥ 2 then 0 else q₁.nSucc + 1) = (if q₂.nSucc + 1 ≥ 2 then 0 else q₂.nSucc + 1)
       rw [h.nSucc],
    h.nFail, rfl, rfl, h.done,
    by show ({ q₁.stats with accepted := q₁.stats.accepted + 1 } : Stats) = _; rw [h.stats], h.trace⟩

/-- "no pivot vanishes in the Newton iteration made from `r`" (if one is made) -/
def BEPivotsOK (s : SolverCfg K) (nCells n : Nat) (r : BEState K) : Prop :=
  (beHead o T r).done = false →
    ∀ c, c < nCells → ∀ i, i < n →
      s.la.pivot ((beMatrix s kc r).getD c #[]) (r.sc.lower.getD c #[]) (r.sc.upper.getD c #[]) i ≠ 0

theorem BEPivotsOK_of_next (s : SolverCfg K) (nCells n : Nat) (r : BEState K)
    (hj : MatShape nCells s.la.A.nnz r.sc.jac)
    (h : (beHead o T r).done = false → ∀ c, c < nCells → ∀ i, i < n →
      factorPivot s (beStep o s p kc atol rtol T r).sc.jac (beStep o s p kc atol rtol T r).sc.upper c i ≠ 0) :
    BEPivotsOK o kc T s nCells n r := by
  intro hd c hc i hi
  -- whichever way the iteration ends, it leaves the factors of the Newton update in the scratch
  have hF : beFactor s kc (beHead o T r) = beFactor s kc r := by
    unfold beFactor; rw [beMatrix_head, beHead_sc]
  have hsc : (beStep o s p kc atol rtol T r).sc.jac = (beFactor s kc r).1 ∧
      (beStep o s p kc atol rtol T r).sc.upper = (beFactor s kc r).2.2 := by
    rw [← hF]
    have hcs := beStep_cases o s p kc atol rtol T r
    generalize beStep o s p kc atol rtol T r = r' at hcs ⊢
    cases hcs with
    | exit h => rw [hd] at h; cases h
    | cont => exact ⟨rfl, rfl⟩
    | giveUp => exact ⟨rfl, rfl⟩
    | retry => exact ⟨rfl, rfl⟩
    | accept => exact ⟨rfl, rfl⟩
  have := h hd c hc i hi
  rw [hsc.1, hsc.2] at this
  rwa [pivot_eq_factorPivot s _ _ _ c ((beMatrix_shape kc s nCells r hj).lt hc) i]

/-- "no pivot vanishes along the run" can be checked on the scratch of the iterates -/
theorem BEPivotsOK_iterates (s : SolverCfg K) (nCells n : Nat) (r₀ : BEState K)
    (hI : BEStoreInv s nCells n r₀) (fuel : Nat)
    (h : ∀ j, j < fuel → (beHead o T ((beStep o s p kc atol rtol T)^[j] r₀)).done = false →
      ∀ c, c < nCells → ∀ i, i < n → factorPivot s ((beStep o s p kc atol rtol T)^[j + 1] r₀).sc.jac
        ((beStep o s p kc atol rtol T)^[j + 1] r₀).sc.upper c i ≠ 0) :
    ∀ j, j < fuel → BEPivotsOK o kc T s nCells n ((beStep o s p kc atol rtol T)^[j] r₀) := by
  have hIj : ∀ j, BEStoreInv s nCells n ((beStep o s p kc atol rtol T)^[j] r₀) := fun j => by
    induction j with
    | zero => exact hI
    | succ j ih => rw [Function.iterate_succ_apply']; exact BEStoreInv_step o p kc atol rtol T s nCells n _ ih
  intro j hj
  refine BEPivotsOK_of_next o p kc atol rtol T s nCells n _ (hIj j).jac ?_
  rw [← Function.iterate_succ_apply' (beStep o s p kc atol rtol T)]
  exact h j hj

theorem newton_relabel (hset : RelabelSetup σ procs m t t' n)
    (s₁ s₂ : SolverCfg K) (csc₁ csc₂ : Bool) (Ls₁ Ls₂ : Nat) (kind₁ kind₂ : LUKind)
    (hs₁ : CfgBuilt s₁ t n csc₁ Ls₁ kind₁) (hs₂ : CfgBuilt s₂ t' n csc₂ Ls₂ kind₂)
    (nCells : Nat) (q₁ q₂ : BEState K)
    (hI₁ : BEStoreInv s₁ nCells n q₁) (hI₂ : BEStoreInv s₂ nCells n q₂)
    (hE : BERelabelEq σ nCells n q₁ q₂)
    (hpiv₁ : ∀ c, c < nCells → ∀ i, i < n → s₁.la.pivot ((beMatrix s₁ kc q₁).getD c #[])
      (q₁.sc.lower.getD c #[]) (q₁.sc.upper.getD c #[]) i ≠ 0)
    (hpiv₂ : ∀ c, c < nCells → ∀ i, i < n → s₂.la.pivot ((beMatrix s₂ kc q₂).getD c #[])
      (q₂.sc.lower.getD c #[]) (q₂.sc.upper.getD c #[]) i ≠ 0) :
    PermMat σ nCells n (beResidual s₁ kc q₁) (beResidual s₂ kc q₂) ∧
    PermMat σ nCells n (beNewY o s₁ kc q₁) (beNewY o s₂ kc q₂) := by
  have hσ := hset.perm
  have hF : PermMat σ nCells n (beForcing s₁ kc q₁) (beForcing s₂ kc q₂) := by
    unfold beForcing
    exact hset.forcing s₁ s₂ hs₁.tables hs₂.tables kc hE.Yn1 (PermMat.fillM_zero hI₁.f0 hI₂.f0)
  have hR : PermMat σ nCells n (beResidual s₁ kc q₁) (beResidual s₂ kc q₂) := by
    unfold beResidual beFactor
    refine built_linSolve_relabel hset s₁ s₂ csc₁ csc₂ Ls₁ Ls₂ kind₁ kind₂ hs₁ hs₂ kc hE.Yn1 (1 / q₁.h)
      hI₁.jac hI₂.jac (beMatrix_eq s₁ kc q₁) ((beMatrix_eq s₂ kc q₂).trans (by rw [hE.h]))
      hI₁.lower hI₁.upper hI₂.lower hI₂.upper hpiv₁ hpiv₂ ?_
    exact PermMat.mapIdx₂ hσ
      (fun c v f => f - (rd (q₁.Yn1.getD c #[]) v - rd (q₁.Yn.getD c #[]) v) / q₁.h)
      (fun c v f => f - (rd (q₂.Yn1.getD c #[]) v - rd (q₂.Yn.getD c #[]) v) / q₂.h) hF
      (fun c hc v hv a => by simp only [hE.Yn1.rd c v hc hv, hE.Yn.rd c v hc hv, hE.h])
  refine ⟨hR, ?_⟩
  unfold beNewY
  exact PermMat.mapIdx₂ hσ
    (fun c v y => cmax o (y + rd ((beResidual s₁ kc q₁).getD c #[]) v) 0)
    (fun c v y => cmax o (y + rd ((beResidual s₂ kc q₂).getD c #[]) v) 0) hE.Yn1
    (fun c hc v hv a => by simp only [hR.rd c v hc hv])

end BE

section Solve
variable {α : Type} [OfNat α 0] [OfNat α 1] [OfNat α 2] [Add α] [Sub α] [Mul α] [Div α]
variable (o : Ops α) (s : SolverCfg α) (p : BEParams α) (kc : Mat α) (atol : Array α) (rtol T : α)

theorem beSolve_stats (Y : Mat α) (sc : Scratch α) (fuel : Nat) :
    (beSolve o s p kc atol rtol T Y sc fuel).stats =
      (beLoop o s p kc atol rtol T fuel (beInit (beInitialH o p T) Y sc)).stats := rfl

theorem beSolve_Y (Y : Mat α) (sc : Scratch α) (fuel : Nat) :
    (beSolve o s p kc atol rtol T Y sc fuel).Y =
      (beLoop o s p kc atol rtol T fuel (beInit (beInitialH o p T) Y sc)).Yn1 := rfl

theorem beSolve_trace_h (Y : Mat α) (sc : Scratch α) (fuel : Nat) :
    (beSolve o s p kc atol rtol T Y sc fuel).trace.map (·.h) =
      (beLoop o s p kc atol rtol T fuel (beInit (beInitialH o p T) Y sc)).trace.reverse.map (·.h) := by
  rw [beSolve_eq, List.map_map]; rfl

end Solve

end Micm
