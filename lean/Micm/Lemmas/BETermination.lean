/-
Termination of the flattened backward-Euler loop (C06 "Solve terminates", backward-Euler part).

`BackwardEuler::Solve` has three nested sources of repetition: Newton iterations inside an outer
iteration (at most `max(1, max_number_of_steps)`), rejected outer iterations (at most
`time_step_reductions.size() + 1`, already part of `BECtlInv`), and accepted outer iterations, which
the source does not bound at all.  Over an ordered field, with `0 < T`, a first step `0 < h₀ ≤ T` and
reduction factors in `(0, 1]`, the accepted iterations are bounded too:

* `(T − t)·ρ(k)·h₀ ≤ H·T` is invariant, where `ρ(k)` is the product of the `k` factors used so far
  (an acceptance only shrinks `T − t` or clips `H` to it; a rejection multiplies both sides by the factor);
  hence at the start of every *phase* (stretch between two rejections) `T − t ≤ B·H` for any natural `B`
  with `T ≤ B·ρ(all)·h₀`;
* inside a phase `H` never decreases except by the final clip `H = T − t`, after which one more
  acceptance ends the solve; so a phase has at most `B + 1` acceptances.
-/
import Mathlib.Algebra.BigOperators.Group.List.Basic
import Micm.Lemmas.BackwardEuler

namespace Micm
set_option linter.unusedSectionVars false

section BETerm
variable {K : Type} [Field K] [LinearOrder K] [IsStrictOrderedRing K]
variable {o : Ops K} (ho : OrderedOps o) (s : SolverCfg K) (p : BEParams K) (kc : Mat K)
    (atol : Array K) (rtol : K) (T : K)

def redProd (p : BEParams K) (k : Nat) : K := (p.reductions.take k).prod

def RedLegal (p : BEParams K) : Prop := ∀ x ∈ p.reductions, 0 < x ∧ x ≤ 1

theorem list_prod_unit (l : List K) (h : ∀ x ∈ l, 0 < x ∧ x ≤ 1) : 0 < l.prod ∧ l.prod ≤ 1 := by
  induction l with
  | nil => rw [List.prod_nil]; exact ⟨one_pos, le_refl 1⟩
  | cons a l ih =>
    obtain ⟨i1, i2⟩ := ih (fun x hx => h x (List.mem_cons_of_mem _ hx))
    obtain ⟨a1, a2⟩ := h a (List.mem_cons_self)
    rw [List.prod_cons]
    exact ⟨mul_pos a1 i1, mul_le_one₀ a2 (le_of_lt i1) i2⟩

theorem redProd_unit (hl : RedLegal p) (k : Nat) : 0 < redProd p k ∧ redProd p k ≤ 1 :=
  list_prod_unit _ (fun x hx => hl x (List.mem_of_mem_take hx))

theorem redProd_succ (k : Nat) (hk : k < p.reductions.length) :
    redProd p (k + 1) = redProd p k * p.reductions.getD k 1 := by
  unfold redProd
  rw [List.take_succ_eq_append_getElem hk, List.prod_append, List.prod_singleton]
  simp [List.getD, hk]

theorem redProd_all_le (hl : RedLegal p) (k : Nat) :
    redProd p p.reductions.length ≤ redProd p k := by
  have h1 : redProd p p.reductions.length = redProd p k * (p.reductions.drop k).prod := by
    unfold redProd
    rw [List.take_length, List.prod_take_mul_prod_drop]
  have h2 := list_prod_unit (p.reductions.drop k) (fun x hx => hl x (List.mem_of_mem_drop hx))
  rw [h1]
  calc redProd p k * (p.reductions.drop k).prod ≤ redProd p k * 1 :=
        mul_le_mul_of_nonneg_left h2.2 (le_of_lt (redProd_unit p hl k).1)
    _ = redProd p k := mul_one _

theorem getD_red (hl : RedLegal p) (k : Nat) (hk : k < p.reductions.length) :
    0 < p.reductions.getD k 1 ∧ p.reductions.getD k 1 ≤ 1 := by
  have e : p.reductions.getD k 1 = p.reductions[k] := by simp [List.getD, hk]
  rw [e]; exact hl _ (List.getElem_mem hk)

/-- the acceptance-counting invariant.  The data of the current phase are existentially quantified: `Hs`
    the step size and `ts` the time at which it started, `n` the acceptances of full size `≥ Hs` in it so
    far, `e = 1` once the clipped last step `H = T − t` has been accepted. -/
def BEAccInv (p : BEParams K) (T h0 : K) (B : Nat) (r : BEState K) : Prop :=
  (r.iterations ≠ 0 → r.t < T) ∧
  (r.done = false → r.t < T → 0 < r.h) ∧
  (r.done = false → (T - r.t) * redProd p r.nFail * h0 ≤ r.h * T) ∧
  ∃ (Hs ts : K) (n e : Nat), 0 < Hs ∧ ts ≤ r.t ∧ T - ts ≤ (B : K) * Hs ∧ (n : K) * Hs ≤ r.t - ts ∧
    (r.done = false → Hs ≤ r.h ∨ r.h = T - r.t) ∧
    r.stats.accepted ≤ r.nFail * (B + 1) + n + e ∧ e ≤ 1 ∧ (e = 1 → T ≤ r.t)

theorem BEAccInv_init (h0 : K) (hh : 0 < h0) (B : Nat)
    (hB : T ≤ (B : K) * (redProd p p.reductions.length * h0)) (hl : RedLegal p)
    (Y : Mat K) (sc : Scratch K) : BEAccInv p T h0 B (beInit h0 Y sc) := by
  refine ⟨fun h => absurd rfl h, fun _ _ => hh, fun _ => ?_,
    h0, 0, 0, 0, hh, le_refl _, ?_, ?_, fun _ => Or.inl (le_refl _),
    Nat.zero_le _, Nat.zero_le _, fun h => (by cases h)⟩
  · show (T - 0) * redProd p 0 * h0 ≤ h0 * T
    rw [sub_zero, show redProd p 0 = 1 from rfl, mul_one, mul_comm]
  rotate_left
  · show ((0 : ℕ) : K) * h0 ≤ 0 - 0
    rw [Nat.cast_zero, zero_mul, sub_zero]
  · have h1 := (redProd_unit p hl p.reductions.length)
    have : redProd p p.reductions.length * h0 ≤ h0 := by
      calc redProd p p.reductions.length * h0 ≤ 1 * h0 := mul_le_mul_of_nonneg_right h1.2 (le_of_lt hh)
        _ = h0 := one_mul _
    have hB0 : (0 : K) ≤ B := Nat.cast_nonneg B
    calc T - 0 = T := sub_zero T
      _ ≤ (B : K) * (redProd p p.reductions.length * h0) := hB
      _ ≤ (B : K) * h0 := mul_le_mul_of_nonneg_left this hB0

theorem phase_steps_le {Hs ts t : K} {n B : Nat} (g1 : 0 < Hs) (g3 : T - ts ≤ (B : K) * Hs)
    (g4 : (n : K) * Hs ≤ t - ts) (htT : t ≤ T) : n ≤ B := by
  have hn : (n : K) * Hs ≤ (B : K) * Hs := le_trans g4 (le_trans (sub_le_sub_right htT ts) g3)
  exact Nat.cast_le.mp (le_of_mul_le_mul_right hn g1)

theorem BEAccInv_bound (h0 : K) (B : Nat) (r : BEState K) (ht : BETimeInv T r) (hc : BECtlInv p r)
    (h : BEAccInv p T h0 B r) :
    r.stats.accepted ≤ p.reductions.length * (B + 1) + B + 1 := by
  obtain ⟨_, _, _, Hs, ts, n, e, g1, g2, g3, g4, _, g6, g7, _⟩ := h
  have hnB : n ≤ B := phase_steps_le T g1 g3 g4 ht.tT
  have : r.nFail * (B + 1) ≤ p.reductions.length * (B + 1) := Nat.mul_le_mul_right _ hc.nFail
  omega

include ho in
theorem beHead_lt (r : BEState K) (h5 : r.iterations ≠ 0 → r.t < T)
    (hh : (beHead o T r).done = false) : r.t < T := by
  rcases beHead_cases o T r with ⟨_, hl, _⟩ | ⟨_, _, h⟩ | ⟨h0, _⟩
  · rw [ho.lt] at hl; exact of_decide_eq_true hl
  · rw [h] at hh; cases hh
  · exact h5 h0

/-- a rejection starts a new phase: the budget `(T − t)·ρ·h₀ ≤ H·T` for the reduced `H' = H·f` and the
    bound `T ≤ B·ρ(all)·h₀` give `T − t ≤ B·H'` -/
theorem phase_start {t h' ρ ρall h0 : K} {B : Nat} (hh0 : 0 < h0) (hρ : 0 < ρ) (hall : ρall ≤ ρ)
    (hB : T ≤ (B : K) * (ρall * h0)) (hpos : 0 < h') (him : (T - t) * ρ * h0 ≤ h' * T) :
    T - t ≤ (B : K) * h' := by
  have hc0 : 0 < ρ * h0 := mul_pos hρ hh0
  have h2 : T ≤ (B : K) * (ρ * h0) :=
    le_trans hB (mul_le_mul_of_nonneg_left (mul_le_mul_of_nonneg_right hall (le_of_lt hh0))
      (Nat.cast_nonneg B))
  have h3 : (T - t) * (ρ * h0) ≤ ((B : K) * h') * (ρ * h0) := by
    calc (T - t) * (ρ * h0) = (T - t) * ρ * h0 := (mul_assoc _ _ _).symm
      _ ≤ h' * T := him
      _ ≤ h' * ((B : K) * (ρ * h0)) := mul_le_mul_of_nonneg_left h2 (le_of_lt hpos)
      _ = ((B : K) * h') * (ρ * h0) := by rw [← mul_assoc, mul_comm h']
  exact le_of_mul_le_mul_right h3 hc0

/-- an acceptance keeps the budget: the remaining time shrinks, and the next `H` is the candidate
    `hx ≥ H` or the whole remainder -/
theorem budget_accept {t h hx ρ h0 : K} (hT : 0 < T) (hh0 : 0 < h0) (hρ : 0 < ρ) (hρ1 : ρ * h0 ≤ T)
    (hh : 0 ≤ h) (hhx : h ≤ hx) (hrem : 0 ≤ T - (t + h)) (im : (T - t) * ρ * h0 ≤ h * T) :
    (T - (t + h)) * ρ * h0 ≤ min hx (T - (t + h)) * T := by
  rcases le_total hx (T - (t + h)) with hm | hm
  · rw [min_eq_left hm]
    have : T - (t + h) ≤ T - t := sub_le_sub_left (le_add_of_nonneg_right hh) T
    calc (T - (t + h)) * ρ * h0 ≤ (T - t) * ρ * h0 :=
          mul_le_mul_of_nonneg_right (mul_le_mul_of_nonneg_right this (le_of_lt hρ)) (le_of_lt hh0)
      _ ≤ h * T := im
      _ ≤ hx * T := mul_le_mul_of_nonneg_right hhx (le_of_lt hT)
  · rw [min_eq_right hm]
    calc (T - (t + h)) * ρ * h0 = (T - (t + h)) * (ρ * h0) := mul_assoc _ _ _
      _ ≤ (T - (t + h)) * T := mul_le_mul_of_nonneg_left hρ1 hrem

include ho in
theorem BEAccInv_step (hT : 0 < T) (h0 : K) (hh0 : 0 < h0) (hle0 : h0 ≤ T) (B : Nat)
    (hB : T ≤ (B : K) * (redProd p p.reductions.length * h0)) (hl : RedLegal p)
    (r : BEState K) (hd : r.done = false) (ht : BETimeInv T r)
    (h : BEAccInv p T h0 B r) : BEAccInv p T h0 B (beStep o s p kc atol rtol T r) := by
  obtain ⟨i5, ipos, im, Hs, ts, n, e, g1, g2, g3, g4, g5, g6, g7, g8⟩ := h
  have ipos := ipos hd
  have im := im hd
  have g5 := g5 hd
  have hle := ht.hle hd
  have hh := ht.h0
  have htT : r.t + r.h ≤ T := le_sub_iff_add_le'.mp hle
  -- what an advance of `t` by `H ≥ 0` keeps
  have g2' : ts ≤ r.t + r.h := le_add_of_le_of_nonneg g2 hh
  have g4' : (n : K) * Hs ≤ r.t + r.h - ts :=
    le_trans g4 (sub_le_sub_right (le_add_of_nonneg_right hh) _)
  have g8' : e = 1 → T ≤ r.t + r.h := fun h' => le_add_of_le_of_nonneg (g8 h') hh
  have hlt := beHead_lt ho T r i5
  -- while `t < T` the phase has not used its clipped last step
  have he : r.t < T → e = 0 := fun hlt =>
    Nat.eq_zero_of_not_pos fun hpos => not_le.mpr hlt (g8 (Nat.le_antisymm g7 hpos))
  have hs := beStep_spec o s p kc atol rtol T r
  generalize beStep o s p kc atol rtol T r = r' at hs ⊢
  unfold BEAccInv
  cases hs with
  | exit =>
    exact ⟨i5, fun h' => (by cases h'), fun h' => (by cases h'), Hs, ts, n, e, g1, g2, g3, g4,
      fun h' => (by cases h'), g6, g7, g8⟩
  | cont h1 =>
    exact ⟨fun _ => hlt h1, fun _ _ => ipos (hlt h1), fun _ => im, Hs, ts, n, e, g1, g2, g3, g4,
      fun _ => g5, g6, g7, g8⟩
  | giveUp =>
    dsimp only
    exact ⟨fun h' => absurd rfl h', fun h' => (by cases h'), fun h' => (by cases h'), Hs, ts, n, e, g1,
      g2', g3, g4', fun h' => (by cases h'), g6, g7, g8'⟩
  | retry h1 _ _ h4 =>
    have hpos := ipos (hlt h1)
    obtain ⟨r1, r2⟩ := getD_red p hl r.nFail h4
    -- the clip is inactive: `H·f ≤ H ≤ T − t`
    have hmin : cmin o (r.h * p.reductions.getD r.nFail 1) (T - r.t)
        = r.h * p.reductions.getD r.nFail 1 := by
      rw [ho.cmin_eq]
      apply min_eq_left
      calc r.h * p.reductions.getD r.nFail 1 ≤ r.h * 1 := mul_le_mul_of_nonneg_left r2 (le_of_lt hpos)
        _ = r.h := mul_one _
        _ ≤ T - r.t := hle
    have hnewpos : 0 < r.h * p.reductions.getD r.nFail 1 := mul_pos hpos r1
    have him' : (T - r.t) * redProd p (r.nFail + 1) * h0 ≤ r.h * p.reductions.getD r.nFail 1 * T := by
      rw [redProd_succ p r.nFail h4]
      calc (T - r.t) * (redProd p r.nFail * p.reductions.getD r.nFail 1) * h0
          = (T - r.t) * redProd p r.nFail * h0 * p.reductions.getD r.nFail 1 := by ring
        _ ≤ r.h * T * p.reductions.getD r.nFail 1 := mul_le_mul_of_nonneg_right im (le_of_lt r1)
        _ = r.h * p.reductions.getD r.nFail 1 * T := by ring
    -- the finished phase had at most `B` acceptances, and `e = 0` since `t < T`
    have hnB : n ≤ B := phase_steps_le T g1 g3 g4 ht.tT
    have he := he (hlt h1)
    dsimp only
    rw [hmin]
    refine ⟨fun h' => absurd rfl h', fun _ _ => hnewpos, fun _ => him',
      r.h * p.reductions.getD r.nFail 1, r.t, 0, 0, hnewpos, le_refl _,
      phase_start T hh0 (redProd_unit p hl _).1 (redProd_all_le p hl _) hB hnewpos him', ?_,
      fun _ => Or.inl (le_refl _), ?_, Nat.zero_le _, fun h' => (by cases h')⟩
    · rw [Nat.cast_zero, zero_mul, sub_self]
    · rw [Nat.add_mul]; omega
  | accept h1 =>
    have hlt := hlt h1
    have hpos := ipos hlt
    have he := he hlt
    -- the candidate next step `Hx ∈ {H, 2H}` is at least `H`
    have hx : r.h ≤ (if r.nSucc + 1 ≥ 2 then r.h * 2 else r.h) := by
      split
      · exact le_mul_of_one_le_right hh one_le_two
      · exact le_refl _
    have hrho : redProd p r.nFail * h0 ≤ T := by
      calc redProd p r.nFail * h0 ≤ 1 * h0 :=
            mul_le_mul_of_nonneg_right (redProd_unit p hl r.nFail).2 (le_of_lt hh0)
        _ = h0 := one_mul _
        _ ≤ T := hle0
    have hrem : 0 ≤ T - (r.t + r.h) := sub_nonneg.mpr htT
    dsimp only
    rw [ho.cmin_eq]
    refine ⟨fun h' => absurd rfl h', fun _ hlt' => lt_min (lt_of_lt_of_le hpos hx) (sub_pos.mpr hlt'),
      fun _ => budget_accept T hT hh0 (redProd_unit p hl _).1 hrho hh hx hrem im, ?_⟩
    rcases g5 with hge | heq
    · -- an ordinary acceptance inside the phase: one more step of size `≥ Hs`
      refine ⟨Hs, ts, n + 1, e, g1, g2', g3, ?_, fun _ => ?_, by omega, g7, g8'⟩
      · rw [Nat.cast_succ, add_one_mul, add_sub_right_comm]; exact add_le_add g4 hge
      · rcases le_total (if r.nSucc + 1 ≥ 2 then r.h * 2 else r.h) (T - (r.t + r.h)) with hm | hm
        · rw [min_eq_left hm]; exact Or.inl (le_trans hge hx)
        · rw [min_eq_right hm]; exact Or.inr rfl
    · -- the clipped last step: `t' = T`
      have h0' : T - (r.t + r.h) = 0 := by rw [heq, add_sub_cancel, sub_self]
      refine ⟨Hs, ts, n, 1, g1, g2', g3, g4', fun _ => Or.inr ?_, by omega, le_refl _,
        fun _ => le_of_eq (sub_eq_zero.mp h0')⟩
      rw [h0']; exact min_eq_right (le_trans (le_of_lt hpos) hx)

/-- a loop that runs out of fuel recorded a Newton iteration at every step -/
theorem beLoop_not_done_trace (fuel : Nat) (r : BEState K)
    (h : (beLoop o s p kc atol rtol T fuel r).done = false) :
    (beLoop o s p kc atol rtol T fuel r).trace.length = r.trace.length + fuel := by
  induction fuel generalizing r with
  | zero =>
    rw [beLoop_zero] at h ⊢
    cases hd : r.done
    · simp [hd]
    · simp [hd] at h
  | succ n ih =>
    rw [beLoop_succ] at h ⊢
    cases hd : r.done
    · simp only [hd, Bool.false_eq_true, if_false] at h ⊢
      rw [ih _ h, beStep_trace]
      cases hh : (beHead o T r).done
      · simp; omega
      · -- the head ended the loop: the next state is `done`, so the loop cannot end not-`done`
        exfalso
        have e := beStep_of_exit o s p kc atol rtol T r hh
        rw [e] at h
        have : (beLoop o s p kc atol rtol T n (beHead o T r)).done = true := by
          cases n with
          | zero => rw [beLoop_zero]; simp [hh]
          | succ m => rw [beLoop_succ]; simp [hh]
        rw [this] at h; cases h
    · simp [hd] at h

end BETerm
end Micm
