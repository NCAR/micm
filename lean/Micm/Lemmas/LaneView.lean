/-
The argument shared by all lane theorems (C13): the flat-storage kernels compute, on the slots of one
logical block, exactly the per-cell kernel; the other lanes and groups are framed out by address
injectivity.  Core Lean only, no algebraic law on the carrier.  `blockLoop_rel` goes from "one group, seen
through the lane of block `b`, is the per-cell kernel" and "a group keeps what other groups' lanes see" to the
whole flat loop, for the standard layout (`L = 0`: one lane of stride 1) and every vector layout at once.
-/
import Micm.Model.FlatKernels2
import Micm.Lemmas.DenseAddr
import Micm.Lemmas.ArrayFold
namespace Micm

section Folds

theorem and_of_right {a b : Prop} (hb : b) (ha : b → a) : a ∧ b := ⟨ha hb, hb⟩

/-- loop over pairwise distinct indices: iteration `c` transforms the small state by `G`, the others
    keep the relation -/
theorem foldl_hit_one {σ τ : Type} (P : σ → τ → Prop) (T : σ → Nat → σ) (G : τ → τ) (c : Nat)
    (cs : List Nat) (hnd : cs.Nodup) (hc : c ∈ cs)
    (hframe : ∀ c' ∈ cs, c' ≠ c → ∀ S s, P S s → P (T S c') s)
    (hhit : ∀ S s, P S s → P (T S c) (G s)) {S : σ} {s : τ} (h : P S s) :
    P (cs.foldl T S) (G s) := by
  induction cs generalizing S with
  | nil => cases hc
  | cons a l ih =>
    rw [List.foldl_cons]
    have hnd' := List.nodup_cons.1 hnd
    by_cases e : a = c
    · subst e
      exact foldl_inv (fun X => P X (G s)) T l
        (fun c' hc' X hX => hframe c' (List.mem_cons_of_mem _ hc') (fun e' => hnd'.1 (e' ▸ hc')) X _ hX)
        (hhit S s h)
    · have hc' : c ∈ l := (List.mem_cons.1 hc).resolve_left (fun e' => e e'.symm)
      exact ih hnd'.2 hc' (fun c' hc'' => hframe c' (List.mem_cons_of_mem _ hc''))
        (hframe a List.mem_cons_self e S s h)

end Folds

section Arrays
variable {α : Type} [OfNat α 0]

theorem rd_map_range (f : Nat → α) (n j : Nat) (h : j < n) :
    rd ((List.range n).map f).toArray j = f j := by
  simp [rd, h]

theorem rd_map_range_ge (f : Nat → α) (n j : Nat) (h : n ≤ j) :
    rd ((List.range n).map f).toArray j = 0 := by
  simp [rd, h]

end Arrays

/-- logical block `b` of a flat sparse block matrix -/
def sparseRow {α : Type} [OfNat α 0] (L nnz : Nat) (data : Array α) (b : Nat) : Array α :=
  ((List.range nnz).map fun k => rd data (slot L nnz b k)).toArray

section Views
variable {α : Type} [OfNat α 0]

theorem rd_sparseRow (L nnz : Nat) (F : Array α) (b k : Nat) (hk : k < nnz) :
    rd (sparseRow L nnz F b) k = rd F (slot L nnz b k) := by
  unfold sparseRow; exact rd_map_range _ _ _ hk

theorem sparseRow_size (L nnz : Nat) (F : Array α) (b : Nat) : (sparseRow L nnz F b).size = nnz := by
  simp [sparseRow]

theorem flatRow_eq_sparseRow (r n L : Nat) (F : Array α) (c : Nat) :
    flatRow ⟨r, n, L⟩ F c = sparseRow L n F c := by
  unfold flatRow sparseRow
  simp only [addr_eq_slot]

theorem rd_flatRow (s : DenseShape) (F : Array α) (c j : Nat) (hj : j < s.cols) :
    rd (flatRow s F c) j = rd F (s.addr c j) := by
  unfold flatRow; exact rd_map_range _ _ _ hj

theorem flatRow_size (s : DenseShape) (F : Array α) (c : Nat) : (flatRow s F c).size = s.cols := by
  simp [flatRow]

/-- the small array `f` (size `n`) is what the flat array `F` holds at the in-range addresses
    `p 0 … p (n-1)` -/
structure View (n : Nat) (p : Nat → Nat) (F f : Array α) : Prop where
  size : f.size = n
  inb : ∀ j, j < n → p j < F.size
  val : ∀ j, j < n → rd F (p j) = rd f j

/-- `View` for an array that is only read: no size condition, reads are total -/
def Reads (n : Nat) (p : Nat → Nat) (A a : Array α) : Prop := ∀ j, j < n → rd A (p j) = rd a j

theorem View.reads {n : Nat} {p : Nat → Nat} {F f : Array α} (h : View n p F f) : Reads n p F f := h.val

theorem View.frame {n : Nat} {p : Nat → Nat} {F f F' : Array α} (h : View n p F f)
    (hsize : F'.size = F.size) (hmiss : ∀ j, j < n → rd F' (p j) = rd F (p j)) :
    View n p F' f :=
  ⟨h.size, fun j hj => by rw [hsize]; exact h.inb j hj, fun j hj => by rw [hmiss j hj, h.val j hj]⟩

theorem View.wr_hit {n : Nat} {p : Nat → Nat} {F f : Array α} (h : View n p F f)
    (hinj : ∀ i j, i < n → j < n → p i = p j → i = j) (i : Nat) (hi : i < n) (a : α) :
    View n p (wr F (p i) a) (wr f i a) := by
  refine ⟨by rw [wr_size]; exact h.size, fun j hj => by rw [wr_size]; exact h.inb j hj, fun j hj => ?_⟩
  by_cases e : i = j
  · subst e
    rw [rd_wr_same _ _ _ (h.inb i hi), rd_wr_same _ _ _ (by rw [h.size]; exact hi)]
  · rw [rd_wr_ne _ _ _ _ (fun e' => e (hinj i j hi hj e')), rd_wr_ne _ _ _ _ e, h.val j hj]

theorem View.wr_miss {n : Nat} {p : Nat → Nat} {F f : Array α} (h : View n p F f) (x : Nat)
    (hx : ∀ j, j < n → p j ≠ x) (a : α) : View n p (wr F x a) f :=
  h.frame (wr_size _ _ _) (fun j hj => rd_wr_ne _ _ _ _ (fun e => hx j hj e.symm))

theorem View.foldl {β : Type} {n : Nat} {p : Nat → Nat} (S s : Array α → β → Array α) (bs : List β)
    (h : ∀ b ∈ bs, ∀ X x, View n p X x → View n p (S X b) (s x b)) {X x : Array α} (h0 : View n p X x) :
    View n p (bs.foldl S X) (bs.foldl s x) :=
  foldl_rel (View n p) S s bs h h0

theorem View.ofSparseRow {L nnz blocks : Nat} {F : Array α} (hF : F.size = vectorSize L nnz blocks)
    {b : Nat} (hb : b < blocks) : View nnz (slot L nnz b) F (sparseRow L nnz F b) :=
  ⟨sparseRow_size L nnz F b, fun j hj => by rw [hF]; exact slot_lt hb hj,
    fun j hj => (rd_sparseRow L nnz F b j hj).symm⟩

theorem View.sparseRow_eq {L nnz b : Nat} {F f : Array α} (h : View nnz (slot L nnz b) F f) :
    sparseRow L nnz F b = f := by
  refine arr_ext_rd (by rw [sparseRow_size, h.size]) (fun i hi => ?_)
  rw [sparseRow_size] at hi
  rw [rd_sparseRow L nnz F b i hi, h.val i hi]

theorem View.sparseRow_eq₂ {L nL nU b : Nat} {R c : Array α × Array α}
    (h : View nL (slot L nL b) R.1 c.1 ∧ View nU (slot L nU b) R.2 c.2) :
    (sparseRow L nL R.1 b, sparseRow L nU R.2 b) = c :=
  Prod.ext h.1.sparseRow_eq h.2.sparseRow_eq

theorem reads_sparseRow (L nnz : Nat) (A : Array α) (b : Nat) :
    Reads nnz (slot L nnz b) A (sparseRow L nnz A b) :=
  fun j hj => (rd_sparseRow L nnz A b j hj).symm

omit [OfNat α 0] in
theorem lanesDo_size (nc : Nat) (a : Nat → Nat) (v : Array α → Nat → α) (F : Array α) :
    (lanesDo nc (fun F l => wr F (a l) (v F l)) F).size = F.size :=
  foldl_size_of_step _ (fun _ _ => wr_size _ _ _) _ F

theorem lanesDo_rd_miss (nc : Nat) (a : Nat → Nat) (v : Array α → Nat → α) (F : Array α) (x : Nat)
    (h : ∀ l, l < nc → a l ≠ x) : rd (lanesDo nc (fun F l => wr F (a l) (v F l)) F) x = rd F x :=
  foldl_rd_of_step _ x _ (fun _ l hl => rd_wr_ne _ _ _ _ (h l (List.mem_range.1 hl))) F

/-- **the lane step**: `for l < nc: F[off + t*L + l] := v F l`, seen through lane `m < nc ≤ L`, is
    `f[t] := w f` when `v · m` is the function `w` of the view (the value may read the array being
    written, at other element ranks of the same lane, and any other array) -/
theorem View.lanes_step {n : Nat} (L nc m off : Nat) (hm : m < nc) (hnc : nc ≤ L) (t : Nat) (ht : t < n)
    (v : Array α → Nat → α) (w : Array α → α)
    (hvw : ∀ F f, View n (fun j => off + j * L + m) F f → v F m = w f)
    {F f : Array α} (h : View n (fun j => off + j * L + m) F f) :
    View n (fun j => off + j * L + m) (lanesDo nc (fun F l => wr F (off + t * L + l) (v F l)) F)
      (wr f t (w f)) := by
  have hmL : m < L := Nat.lt_of_lt_of_le hm hnc
  -- after the lanes `< k`: lane `m` has been hit iff `m < k`; every other lane misses the view
  have key : ∀ k, k ≤ nc → View n (fun j => off + j * L + m)
      ((List.range k).foldl (fun F l => wr F (off + t * L + l) (v F l)) F)
      (if m < k then wr f t (w f) else f) := by
    intro k hk
    induction k with
    | zero => rw [if_neg (Nat.not_lt_zero m)]; exact h
    | succ k ih =>
      rw [List.range_succ, List.foldl_append, List.foldl_cons, List.foldl_nil]
      have ih := ih (by omega)
      by_cases e : k = m
      · subst e
        rw [if_neg (Nat.lt_irrefl k)] at ih
        rw [if_pos (Nat.lt_succ_self k), hvw _ _ ih]
        exact ih.wr_hit (fun i j _ _ e => (mul_add_inj hmL hmL (by omega : i * L + k = j * L + k)).1)
          t ht (w f)
      · have hif : (if m < k + 1 then wr f t (w f) else f) = if m < k then wr f t (w f) else f := by
          by_cases hmk : m < k
          · rw [if_pos hmk, if_pos (by omega)]
          · rw [if_neg hmk, if_neg (by omega)]
        rw [hif]
        refine ih.wr_miss _ (fun j _ e' => e ?_) _
        exact (mul_add_inj (by omega) hmL (by omega : t * L + k = j * L + m)).2
  have := key nc (Nat.le_refl _)
  rwa [if_pos hm] at this

/-- the frame of one group's program: `X'` agrees with `X` outside the lanes `l < nc` of the element ranks in `S` -/
def Keeps (S : Nat → Prop) (nc L off : Nat) (X X' : Array α) : Prop :=
  X'.size = X.size ∧ ∀ x, (∀ k l, S k → l < nc → off + k * L + l ≠ x) → rd X' x = rd X x

theorem Keeps.refl (S : Nat → Prop) (nc L off : Nat) (X : Array α) : Keeps S nc L off X X :=
  ⟨rfl, fun _ _ => rfl⟩

theorem Keeps.trans {S : Nat → Prop} {nc L off : Nat} {X0 X1 X2 : Array α} (h1 : Keeps S nc L off X0 X1)
    (h2 : Keeps S nc L off X1 X2) : Keeps S nc L off X0 X2 :=
  ⟨h2.1.trans h1.1, fun x hx => (h2.2 x hx).trans (h1.2 x hx)⟩

theorem Keeps.lanes (S : Nat → Prop) (nc L off : Nat) (t : Nat) (ht : S t) (v : Array α → Nat → α)
    (X : Array α) :
    Keeps S nc L off X (lanesDo nc (fun F l => wr F (off + t * L + l) (v F l)) X) :=
  ⟨lanesDo_size nc _ v X, fun x hx => lanesDo_rd_miss nc _ v X x (fun l hl => hx t l ht hl)⟩

theorem Keeps.foldl {β : Type} {S : Nat → Prop} {nc L off : Nat} (T : Array α → β → Array α) (bs : List β)
    (h : ∀ b ∈ bs, ∀ X, Keeps S nc L off X (T X b)) (X : Array α) :
    Keeps S nc L off X (bs.foldl T X) :=
  foldl_inv (Keeps S nc L off X) T bs (fun b hb Y hY => hY.trans (h b hb Y)) (Keeps.refl ..)

theorem Keeps.view {S : Nat → Prop} {nc L off : Nat} {X X' : Array α} (hk : Keeps S nc L off X X')
    {n : Nat} {p : Nat → Nat} {f : Array α} (h : View n p X f)
    (hp : ∀ j k l, j < n → S k → l < nc → off + k * L + l ≠ p j) : View n p X' f :=
  h.frame hk.1 (fun j hj => hk.2 _ (fun k l hk' hl => hp j k l hj hk' hl))

/-- the groups at offsets `off`, `off'` (functions of the number of entries per block) share no
    address, whatever the array -/
def LaneDisj (L : Nat) (off off' : Nat → Nat) : Prop :=
  ∀ n j k l l', j < n → k < n → l < L → l' < L → off' n + k * L + l ≠ off n + j * L + l'

theorem laneDisj_blocks {b b' : Nat} (hne : b' ≠ b) : LaneDisj 1 (fun n => b * n) (fun n => b' * n) := by
  intro n j k l l' hj hk hl hl' e
  dsimp only at e
  exact hne (mul_add_inj hk hj (by omega : b' * n + k = b * n + j)).1

theorem laneDisj_groups {L g g' : Nat} (hne : g' ≠ g) :
    LaneDisj L (fun n => g * (L * n)) (fun n => g' * (L * n)) := by
  intro n j k l l' hj hk hl hl' e
  rw [vec_addr_eq, vec_addr_eq] at e
  exact hne (mul_add_inj hk hj (mul_add_inj hl hl' e).1).1

theorem Keeps.view_other {n nc L m : Nat} {off off' : Nat → Nat} {X X' f : Array α}
    (hk : Keeps (· < n) nc L (off' n) X X') (hnc : nc ≤ L) (hm : m < L) (hd : LaneDisj L off off')
    (h : View n (fun j => off n + j * L + m) X f) : View n (fun j => off n + j * L + m) X' f :=
  hk.view h (fun j k l hj hk' hl => hd n j k l m hj hk' (Nat.lt_of_lt_of_le hl hnc) hm)

def Keeps₂ (SL SU : Nat → Prop) (nc L offL offU : Nat) (X X' : Array α × Array α) : Prop :=
  Keeps SL nc L offL X.1 X'.1 ∧ Keeps SU nc L offU X.2 X'.2

theorem Keeps₂.trans {SL SU : Nat → Prop} {nc L offL offU : Nat} {X0 X1 X2 : Array α × Array α}
    (h1 : Keeps₂ SL SU nc L offL offU X0 X1) (h2 : Keeps₂ SL SU nc L offL offU X1 X2) :
    Keeps₂ SL SU nc L offL offU X0 X2 :=
  ⟨h1.1.trans h2.1, h1.2.trans h2.2⟩

theorem Keeps₂.foldl {β : Type} {SL SU : Nat → Prop} {nc L offL offU : Nat}
    (T : Array α × Array α → β → Array α × Array α) (bs : List β)
    (h : ∀ b ∈ bs, ∀ X, Keeps₂ SL SU nc L offL offU X (T X b)) (X : Array α × Array α) :
    Keeps₂ SL SU nc L offL offU X (bs.foldl T X) :=
  foldl_inv (Keeps₂ SL SU nc L offL offU X) T bs (fun b hb Y hY => hY.trans (h b hb Y))
    ⟨Keeps.refl .., Keeps.refl ..⟩

theorem Keeps₂.view_other {nL nU nc L m : Nat} {off off' : Nat → Nat} {X X' f : Array α × Array α}
    (hk : Keeps₂ (· < nL) (· < nU) nc L (off' nL) (off' nU) X X')
    (hnc : nc ≤ L) (hm : m < L) (hd : LaneDisj L off off')
    (h : View nL (fun j => off nL + j * L + m) X.1 f.1 ∧ View nU (fun j => off nU + j * L + m) X.2 f.2) :
    View nL (fun j => off nL + j * L + m) X'.1 f.1 ∧ View nU (fun j => off nU + j * L + m) X'.2 f.2 :=
  ⟨hk.1.view_other hnc hm hd h.1, hk.2.view_other hnc hm hd h.2⟩

/-- **The block loop.**  `G stride nc off` is the program of one group: `nc` lanes of stride `stride`,
    `off n` the group's offset in an array with `n` entries per block.  If the group of block `b`,
    run with any lane count that includes `b`'s lane, transforms the small state by `g` (`hit`), and
    a group at disjoint addresses keeps the relation (`keep`), then the flat loop — blocks one by one
    with one lane of stride 1 for `L = 0`, groups of `min L (blocks - g*L)` lanes for `L ≥ 1` —
    transforms the small state by `g`.  `P` is the relation "seen through the lane of block `b`". -/
theorem blockLoop_rel {σ τ : Type} (P : σ → τ → Prop) (G : Nat → Nat → (Nat → Nat) → σ → σ) (g : τ → τ)
    (L blocks b : Nat) (hb : b < blocks)
    (hit : ∀ nc, laneIdx L b < nc → nc ≤ laneStride L → ∀ S s, P S s →
      P (G (laneStride L) nc (laneOff L b) S) (g s))
    (keep : ∀ nc off', nc ≤ laneStride L → LaneDisj (laneStride L) (laneOff L b) off' → ∀ S s, P S s →
      P (G (laneStride L) nc off' S) s)
    {S : σ} {s : τ} (h : P S s) :
    P (if L = 0 then (List.range blocks).foldl (fun S b' => G 1 1 (fun n => b' * n) S) S
       else (List.range ((blocks + L - 1) / L)).foldl
        (fun S g' => G L (min L (blocks - g' * L)) (fun n => g' * (L * n)) S) S) (g s) := by
  by_cases hL : L = 0
  · subst hL
    rw [if_pos rfl]
    refine foldl_hit_one P _ g b _ List.nodup_range (List.mem_range.2 hb) ?_ ?_ h
    · intro b' _ hne S s hS
      exact keep 1 (fun n => b' * n) (Nat.le_refl 1) (laneDisj_blocks hne) S s hS
    · intro S s hS
      exact hit 1 Nat.zero_lt_one (Nat.le_refl 1) S s hS
  · rw [if_neg hL]
    have e1 : laneStride L = L := if_neg hL
    have e2 : laneIdx L b = b % L := if_neg hL
    have e3 : laneOff L b = fun n => b / L * (L * n) := funext fun n => if_neg hL
    rw [e1, e2, e3] at hit
    rw [e1, e3] at keep
    refine foldl_hit_one P _ g (b / L) _ List.nodup_range
      (List.mem_range.2 (div_lt_ceil (Nat.pos_of_ne_zero hL) hb)) ?_ ?_ h
    · intro g' _ hne S s hS
      exact keep _ _ (Nat.min_le_left _ _) (laneDisj_groups hne) S s hS
    · intro S s hS
      exact hit _ (lane_lt_min hL hb) (Nat.min_le_left _ _) S s hS

omit [OfNat α 0] in
theorem blockLoop_size {σ : Type} (π : σ → Array α) (G : Nat → Nat → (Nat → Nat) → σ → σ)
    (hsize : ∀ L nc off S, (π (G L nc off S)).size = (π S).size) (L blocks : Nat) (S : σ) :
    (π (if L = 0 then (List.range blocks).foldl (fun S b' => G 1 1 (fun n => b' * n) S) S
       else (List.range ((blocks + L - 1) / L)).foldl
        (fun S g' => G L (min L (blocks - g' * L)) (fun n => g' * (L * n)) S) S)).size = (π S).size := by
  split
  · exact foldl_inv (fun X => (π X).size = (π S).size) _ _ (fun _ _ X hX => (hsize _ _ _ X).trans hX) rfl
  · exact foldl_inv (fun X => (π X).size = (π S).size) _ _ (fun _ _ X hX => (hsize _ _ _ X).trans hX) rfl

/-- the flat loop writes only at slots of real blocks: padding lanes stay untouched -/
theorem blockLoop_frame {σ : Type} (π : σ → Array α) (n : Nat) (G : Nat → Nat → (Nat → Nat) → σ → σ)
    (hkeep : ∀ L nc off S, Keeps (· < n) nc L (off n) (π S) (π (G L nc off S))) (L blocks : Nat) (S : σ) (R : σ)
    (hR : R = if L = 0 then (List.range blocks).foldl (fun S b' => G 1 1 (fun n => b' * n) S) S
       else (List.range ((blocks + L - 1) / L)).foldl
        (fun S g' => G L (min L (blocks - g' * L)) (fun n => g' * (L * n)) S) S) :
    (π R).size = (π S).size ∧
    ∀ x, (∀ b k, b < blocks → k < n → slot L n b k ≠ x) → rd (π R) x = rd (π S) x := by
  subst hR
  refine ⟨blockLoop_size π G (fun L nc off S => (hkeep L nc off S).1) L blocks S, fun x hx => ?_⟩
  by_cases hL : L = 0
  · subst hL
    rw [if_pos rfl]
    refine foldl_inv (fun X => rd (π X) x = rd (π S) x) _ _ (fun b hb X hX => ?_) rfl
    rw [(hkeep 1 1 _ X).2 x (fun k l hk hl e => hx b k (List.mem_range.1 hb) hk ?_), hX]
    have hl0 : l = 0 := by omega
    subst hl0
    rw [slot_eq_lane]
    exact e
  · rw [if_neg hL]
    refine foldl_inv (fun X => rd (π X) x = rd (π S) x) _ _ (fun g _ X hX => ?_) rfl
    rw [(hkeep L _ _ X).2 x (fun k l hk hl e => hx (g * L + l) k (by omega) hk ?_), hX]
    rw [slot_vec_lane L n g l k hL (by omega)]
    exact e

theorem sparseRow_padding {nnz L blocks : Nat} {R M : Array α}
    (h : ∀ x, (∀ b k, b < blocks → k < nnz → slot L nnz b k ≠ x) → rd R x = rd M x)
    (b : Nat) (hb : blocks ≤ b) : sparseRow L nnz R b = sparseRow L nnz M b := by
  unfold sparseRow
  congr 1
  refine List.map_congr_left (fun k hk => h _ (fun b' k' hb' hk' e => ?_))
  have := (slot_inj hk' (List.mem_range.1 hk) e).1
  omega

end Views

end Micm
