/-
C19, sparse part.  The `RowStartVector` loop (`rowStart`) is characterised through a fold invariant; from it,
`std::find` in the range of a major index (`findIn`) finds an element exactly at its position in the sorted
element list, and `rank`, `isZero`, `vectorIndex` and `diagRanks` of every pattern built by `Pattern.mk'`
(CSR and CSC) follow.  Core Lean only.
-/
import Micm.Lemmas.DenseAddr
import Micm.Lemmas.PairSet
import Micm.Lemmas.ArrayFold
import Micm.Lemmas.ExceptLemmas
namespace Micm

/-- a `std::set` of (row, col) pairs of an `n x n` block: strictly sorted, all indices `< n` -/
structure WF (n : Nat) (set : List Pair) : Prop where
  sorted : PairSorted set
  range : ∀ e ∈ set, e.1 < n ∧ e.2 < n

def below (elems : List Pair) (r : Nat) : Nat := elems.countP (fun e => e.1 < r)

/-- the final value of `curr_row` -/
def lastRow (elems : List Pair) : Nat := match elems.getLast? with | some e => e.1 | none => 0

def RowsSorted (elems : List Pair) : Prop := elems.Pairwise (fun a b => a.1 ≤ b.1)

theorem PairSorted.rowsSorted {l : List Pair} (h : PairSorted l) : RowsSorted l :=
  List.Pairwise.imp (fun {a b} hab => by rw [pairLt_iff] at hab; omega) h

theorem fillTo_size (s : Array Nat) (c t tot : Nat) : (fillTo s c t tot).1.size = s.size := by
  fun_induction fillTo s c t tot with
  | case1 s c h ih => simpa using ih
  | case2 s c h => rfl

theorem fillTo_curr (s : Array Nat) (c t tot : Nat) : (fillTo s c t tot).2 = max c t := by
  fun_induction fillTo s c t tot with
  | case1 s c h ih => rw [ih]; omega
  | case2 s c h => simp; omega

theorem fillTo_rd (s : Array Nat) (c t tot : Nat) (i : Nat) (hi : i < s.size) :
    rd (fillTo s c t tot).1 i = if c + 1 ≤ i ∧ i ≤ t then tot else rd s i := by
  fun_induction fillTo s c t tot with
  | case1 s c h ih =>
    rw [ih (by simpa using hi)]
    by_cases h1 : c + 1 + 1 ≤ i ∧ i ≤ t
    · have : c + 1 ≤ i ∧ i ≤ t := by omega
      simp [h1, this]
    · simp only [h1, if_false]
      by_cases h2 : i = c + 1
      · subst h2
        have : c + 1 ≤ c + 1 ∧ c + 1 ≤ t := by omega
        simp [rd, this, hi]
      · have : ¬ (c + 1 ≤ i ∧ i ≤ t) := by omega
        simp only [this, if_false]
        simp [rd, Array.getD_eq_getD_getElem?, Ne.symm h2]
  | case2 s c h =>
    have : ¬ (c + 1 ≤ i ∧ i ≤ t) := by omega
    simp [this]

theorem lastRow_concat (pre : List Pair) (e : Pair) : lastRow (pre ++ [e]) = e.1 := by
  simp [lastRow]

theorem lastRow_le_of_forall {l : List Pair} {m : Nat} (h : ∀ x ∈ l, x.1 ≤ m) : lastRow l ≤ m := by
  unfold lastRow
  cases hl : l.getLast? with
  | none => simp
  | some e => exact h e (List.mem_of_getLast? hl)

theorem lastRow_lt {l : List Pair} {n : Nat} (hne : l ≠ []) (h : ∀ x ∈ l, x.1 < n) : lastRow l < n := by
  unfold lastRow
  cases hl : l.getLast? with
  | none => exact absurd (List.getLast?_eq_none_iff.mp hl) hne
  | some e => exact h e (List.mem_of_getLast? hl)

structure RSInv (n : Nat) (pre : List Pair) (a : RSAcc) : Prop where
  size : a.starts.size = n + 1
  total : a.total = pre.length
  curr : a.curr = lastRow pre
  rows : ∀ e ∈ pre, e.1 ≤ a.curr
  low : ∀ r, r ≤ a.curr → rd a.starts r = below pre r
  high : ∀ r, a.curr < r → rd a.starts r = 0

theorem rsInv_init (n : Nat) : RSInv n [] ⟨Array.replicate (n + 1) 0, 0, 0⟩ where
  size := Array.size_replicate
  total := rfl
  curr := rfl
  rows := fun _ h => nomatch h
  low := fun r _ => rd_replicate_zero (n + 1) r
  high := fun r _ => rd_replicate_zero (n + 1) r

theorem below_append_single (pre : List Pair) (e : Pair) (r : Nat) :
    below (pre ++ [e]) r = below pre r + (if e.1 < r then 1 else 0) := by
  simp [below, List.countP_append, List.countP_cons]

theorem rsInv_step (n : Nat) (pre : List Pair) (a : RSAcc) (e : Pair)
    (h : RSInv n pre a) (he : a.curr ≤ e.1) (hn : e.1 < n) : RSInv n (pre ++ [e]) (rsStep a e) := by
  have hsz := fillTo_size a.starts a.curr e.1 a.total
  have hcur := fillTo_curr a.starts a.curr e.1 a.total
  have hmax : max a.curr e.1 = e.1 := by omega
  refine ⟨?_, ?_, ?_, ?_, ?_, ?_⟩
  · simp [rsStep, hsz, h.size]
  · simp [rsStep, h.total]
  · simp only [rsStep, hcur, hmax, lastRow_concat]
  · intro x hx
    simp only [rsStep, hcur, hmax]
    rcases List.mem_append.mp hx with hx | hx
    · exact Nat.le_trans (h.rows x hx) he
    · simp at hx; subst hx; exact Nat.le_refl _
  · intro r hr
    simp only [rsStep, hcur, hmax] at hr ⊢
    have hri : r < a.starts.size := by rw [h.size]; omega
    rw [fillTo_rd _ _ _ _ _ hri, below_append_single]
    by_cases hlo : r ≤ a.curr
    · have : ¬ (a.curr + 1 ≤ r ∧ r ≤ e.1) := by omega
      have h2 : ¬ e.1 < r := by omega
      simp [this, h2, h.low r hlo]
    · have : a.curr + 1 ≤ r ∧ r ≤ e.1 := by omega
      have h2 : ¬ e.1 < r := by omega
      simp only [this, and_self, if_true, h2, if_false, Nat.add_zero]
      rw [h.total, below]
      symm
      apply List.countP_eq_length.mpr
      intro x hx
      have := h.rows x hx
      simp; omega
  · intro r hr
    simp only [rsStep, hcur, hmax] at hr ⊢
    by_cases hri : r < a.starts.size
    · rw [fillTo_rd _ _ _ _ _ hri]
      have : ¬ (a.curr + 1 ≤ r ∧ r ≤ e.1) := by omega
      simp only [this, if_false]
      exact h.high r (by omega)
    · have : (fillTo a.starts a.curr e.1 a.total).1.size ≤ r := by rw [hsz]; omega
      simp [rd, Array.getD_eq_getD_getElem?, Array.getElem?_eq_none this]

theorem rsInv_foldl (n : Nat) (rest pre : List Pair) (a : RSAcc) (h : RSInv n pre a)
    (hs : RowsSorted (pre ++ rest)) (hn : ∀ e ∈ rest, e.1 < n) :
    RSInv n (pre ++ rest) (rest.foldl rsStep a) := by
  induction rest generalizing pre a with
  | nil => simpa using h
  | cons e rest ih =>
    simp only [List.foldl_cons]
    have hs' : RowsSorted ((pre ++ [e]) ++ rest) := by simpa using hs
    have hle : a.curr ≤ e.1 := by
      rw [h.curr]
      apply lastRow_le_of_forall
      intro x hx
      exact (List.pairwise_append.mp hs).2.2 x hx e (List.mem_cons_self)
    have := ih (pre ++ [e]) (rsStep a e)
      (rsInv_step n pre a e h hle (hn e List.mem_cons_self)) hs'
      (fun x hx => hn x (List.mem_cons_of_mem _ hx))
    simpa using this

theorem rowStart_size (n : Nat) (elems : List Pair) (hs : RowsSorted elems)
    (hn : ∀ e ∈ elems, e.1 < n) : (rowStart n elems).size = n + 1 := by
  have h := rsInv_foldl n elems [] _ (rsInv_init n) (by simpa using hs) hn
  simp only [rowStart, Array.size_setIfInBounds]
  exact h.size

/-- The source's quirk for trailing empty rows is kept: `start[r]` counts the elements in rows `< r` only
    up to one past the last non-empty row, and stays `0` beyond. -/
theorem rowStart_spec (n : Nat) (elems : List Pair) (hs : RowsSorted elems)
    (hn : ∀ e ∈ elems, e.1 < n) (r : Nat) :
    (rowStart n elems).getD r 0 = if r ≤ lastRow elems + 1 then below elems r else 0 := by
  have h := rsInv_foldl n elems [] _ (rsInv_init n) (by simpa using hs) hn
  simp only [List.nil_append] at h
  have hrw := rd_wr (elems.foldl rsStep ⟨Array.replicate (n + 1) 0, 0, 0⟩).starts
    ((elems.foldl rsStep ⟨Array.replicate (n + 1) 0, 0, 0⟩).curr + 1) r
    (elems.foldl rsStep ⟨Array.replicate (n + 1) 0, 0, 0⟩).total
  simp only [rd, wr] at hrw
  simp only [rowStart]
  rw [hrw]
  generalize elems.foldl rsStep ⟨Array.replicate (n + 1) 0, 0, 0⟩ = a at h
  have hcur := h.curr
  -- the loop has filled `starts` up to its current row `a.curr`; the write after the loop sets slot
  -- `a.curr + 1` to the total; slots beyond were never written
  by_cases h1 : r ≤ a.curr
  · have : ¬ (a.curr + 1 = r ∧ a.curr + 1 < a.starts.size) := by omega
    have h2 : r ≤ lastRow elems + 1 := by omega
    simp only [this, if_false, h2, if_true]
    exact h.low r h1
  · by_cases h2 : r = a.curr + 1
    · have h3 : r ≤ lastRow elems + 1 := by omega
      have hall : below elems r = elems.length := by
        apply List.countP_eq_length.mpr
        intro x hx
        have := h.rows x hx
        simp; omega
      simp only [h3, if_true, hall]
      by_cases h4 : a.curr + 1 < a.starts.size
      · have : a.curr + 1 = r ∧ a.curr + 1 < a.starts.size := ⟨h2.symm, h4⟩
        rw [if_pos this]
        exact h.total
      · have : ¬ (a.curr + 1 = r ∧ a.curr + 1 < a.starts.size) := fun hh => h4 hh.2
        rw [if_neg this]
        -- the final write is out of bounds only if `a.curr ≥ n`, while the last element's row is `< n`:
        -- so there is no element (and `n = 0`), and every slot is still `0`
        have hnil : elems = [] := by
          apply Classical.byContradiction
          intro hne
          have := lastRow_lt hne hn
          have := h.size
          omega
        subst hnil
        have := h.high r (by omega)
        simpa [rd] using this
    · have : ¬ (a.curr + 1 = r ∧ a.curr + 1 < a.starts.size) := by omega
      have h3 : ¬ r ≤ lastRow elems + 1 := by omega
      simp only [this, if_false, h3]
      exact h.high r (by omega)

theorem le_lastRow {l : List Pair} (hs : RowsSorted l) {x : Pair} (hx : x ∈ l) : x.1 ≤ lastRow l := by
  obtain ⟨i, hi, rfl⟩ := List.mem_iff_getElem.mp hx
  have hl : l.length - 1 < l.length := by omega
  have hlast : lastRow l = l[l.length - 1].1 := by
    unfold lastRow
    rw [List.getLast?_eq_getElem?, List.getElem?_eq_getElem hl]
  rw [hlast]
  by_cases h : i = l.length - 1
  · simp only [h]; exact Nat.le_refl _
  · exact List.pairwise_iff_getElem.mp hs i (l.length - 1) hi hl (by omega)

theorem below_le_length (l : List Pair) (r : Nat) : below l r ≤ l.length := List.countP_le_length

theorem lt_below_iff {l : List Pair} (hs : RowsSorted l) (r k : Nat) (hk : k < l.length) :
    k < below l r ↔ l[k].1 < r := by
  induction l generalizing k with
  | nil => simp at hk
  | cons a t ih =>
    have hs' := List.pairwise_cons.mp hs
    have hb : below (a :: t) r = below t r + (if a.1 < r then 1 else 0) := by
      simp [below, List.countP_cons]
    by_cases ha : a.1 < r
    · cases k with
      | zero => simp [hb, ha]
      | succ k =>
        have hk' : k < t.length := by simpa using hk
        have := ih hs'.2 k hk'
        simp only [List.getElem_cons_succ, hb, ha, if_true]
        omega
    · have hz : below t r = 0 := by
        apply List.countP_eq_zero.mpr
        intro x hx
        have := hs'.1 x hx
        simp; omega
      cases k with
      | zero => simp [hb, ha, hz]
      | succ k =>
        have hk' : k < t.length := by simpa using hk
        have := hs'.1 t[k] (List.getElem_mem hk')
        simp only [List.getElem_cons_succ, hb, ha, hz, if_false]
        omega

theorem below_mono (l : List Pair) {r r' : Nat} (h : r ≤ r') : below l r ≤ below l r' := by
  unfold below
  apply List.countP_mono_left
  intro x _ hx
  simp at hx ⊢; omega

/-- also for trailing empty rows, where the range `[start[maj], start[maj+1])` is empty or reversed -/
theorem start_range {n : Nat} {elems : List Pair} (hs : RowsSorted elems)
    (hn : ∀ e ∈ elems, e.1 < n) (maj k : Nat) :
    ((rowStart n elems).getD maj 0 ≤ k ∧ k < (rowStart n elems).getD (maj + 1) 0) ↔
      ∃ h : k < elems.length, elems[k].1 = maj := by
  rw [rowStart_spec n elems hs hn, rowStart_spec n elems hs hn]
  by_cases hm : maj ≤ lastRow elems
  · have h1 : maj ≤ lastRow elems + 1 := by omega
    have h2 : maj + 1 ≤ lastRow elems + 1 := by omega
    simp only [h1, h2, if_true]
    constructor
    · rintro ⟨hlo, hhi⟩
      have hk : k < elems.length := Nat.lt_of_lt_of_le hhi (below_le_length _ _)
      have a1 := lt_below_iff hs maj k hk
      have a2 := lt_below_iff hs (maj + 1) k hk
      exact ⟨hk, by omega⟩
    · rintro ⟨hk, he⟩
      have a1 := lt_below_iff hs maj k hk
      have a2 := lt_below_iff hs (maj + 1) k hk
      omega
  · have h2 : ¬ maj + 1 ≤ lastRow elems + 1 := by omega
    simp only [h2, if_false]
    constructor
    · rintro ⟨_, hhi⟩; omega
    · rintro ⟨hk, he⟩
      have := le_lastRow hs (List.getElem_mem hk)
      omega

theorem findIn_some (ids : Array Nat) (x b e k : Nat) :
    findIn ids x b e = some k ↔
      b ≤ k ∧ k < e ∧ ids.getD k 0 = x ∧ ∀ j, b ≤ j → j < k → ids.getD j 0 ≠ x := by
  fun_induction findIn ids x b e with
  | case1 b h hx =>
    constructor
    · intro hk
      have : b = k := by simpa using hk
      subst this
      exact ⟨Nat.le_refl _, h, hx, fun j h1 h2 => by omega⟩
    · rintro ⟨h1, _, h3, h4⟩
      have : b = k := by
        apply Classical.byContradiction
        intro hne
        exact h4 b (Nat.le_refl _) (by omega) hx
      simp [this]
  | case2 b h hx ih =>
    rw [ih]
    constructor
    · rintro ⟨h1, h2, h3, h4⟩
      refine ⟨by omega, h2, h3, fun j hj1 hj2 => ?_⟩
      by_cases hjb : j = b
      · subst hjb; exact hx
      · exact h4 j (by omega) hj2
    · rintro ⟨h1, h2, h3, h4⟩
      have hne : b ≠ k := by
        intro hbk; subst hbk; exact hx h3
      exact ⟨by omega, h2, h3, fun j hj1 hj2 => h4 j (by omega) hj2⟩
  | case3 b h =>
    constructor
    · intro hk; simp at hk
    · rintro ⟨h1, h2, _⟩; omega

theorem findIn_none (ids : Array Nat) (x b e : Nat) :
    findIn ids x b e = none ↔ ∀ j, b ≤ j → j < e → ids.getD j 0 ≠ x := by
  fun_induction findIn ids x b e with
  | case1 b h hx =>
    constructor
    · intro hk; simp at hk
    · intro hk; exact absurd hx (hk b (Nat.le_refl _) h)
  | case2 b h hx ih =>
    rw [ih]
    constructor
    · intro h4 j hj1 hj2
      by_cases hjb : j = b
      · subst hjb; exact hx
      · exact h4 j (by omega) hj2
    · intro h4 j hj1 hj2
      exact h4 j (by omega) hj2
  | case3 b h =>
    constructor
    · intro _ j h1 h2; omega
    · intro _; trivial

theorem ids_getD (elems : List Pair) (k : Nat) (hk : k < elems.length) :
    (elems.map (·.2)).toArray.getD k 0 = elems[k].2 := by
  simp [Array.getD_eq_getD_getElem?, hk]

/-- `std::find` in the major index's range finds exactly the position of (maj, mnr) -/
theorem lookup_some {n : Nat} {elems : List Pair} (hw : WF n elems) (maj mnr k : Nat) :
    findIn (elems.map (·.2)).toArray mnr ((rowStart n elems).getD maj 0)
        ((rowStart n elems).getD (maj + 1) 0) = some k ↔ elems[k]? = some (maj, mnr) := by
  have hs := hw.sorted.rowsSorted
  have hn : ∀ e ∈ elems, e.1 < n := fun e he => (hw.range e he).1
  have hR := start_range hs hn maj
  rw [findIn_some, List.getElem?_eq_some_iff]
  constructor
  · rintro ⟨h1, h2, h3, _⟩
    obtain ⟨hk, he⟩ := (hR k).mp ⟨h1, h2⟩
    rw [ids_getD elems k hk] at h3
    exact ⟨hk, Prod.ext he h3⟩
  · rintro ⟨hk, he⟩
    have he1 : elems[k].1 = maj := by rw [he]
    have he2 : elems[k].2 = mnr := by rw [he]
    obtain ⟨h1, h2⟩ := (hR k).mpr ⟨hk, he1⟩
    refine ⟨h1, h2, by rw [ids_getD elems k hk, he2], ?_⟩
    intro j hj1 hj2 hj3
    obtain ⟨hj, hje⟩ := (hR j).mp ⟨hj1, by omega⟩
    rw [ids_getD elems j hj] at hj3
    have heq : elems[j] = elems[k] := by rw [he]; exact Prod.ext hje hj3
    have hlt := List.pairwise_iff_getElem.mp hw.sorted j k hj hk hj2
    rw [heq] at hlt
    exact pairLt_irrefl _ hlt

theorem lookup_none {n : Nat} {elems : List Pair} (hw : WF n elems) (maj mnr : Nat) :
    findIn (elems.map (·.2)).toArray mnr ((rowStart n elems).getD maj 0)
        ((rowStart n elems).getD (maj + 1) 0) = none ↔ (maj, mnr) ∉ elems := by
  constructor
  · intro h hmem
    obtain ⟨k, hk⟩ := List.mem_iff_getElem?.mp hmem
    rw [← lookup_some hw maj mnr k, h] at hk
    cases hk
  · intro h
    cases hf : findIn (elems.map (·.2)).toArray mnr ((rowStart n elems).getD maj 0)
        ((rowStart n elems).getD (maj + 1) 0) with
    | none => rfl
    | some k =>
      rw [lookup_some hw] at hf
      exact absurd (List.mem_of_getElem? hf) h

def Pattern.key (p : Pattern) (r c : Nat) : Pair := if p.csc then (c, r) else (r, c)

structure Pattern.Good (p : Pattern) : Prop where
  wf : WF p.n p.elems
  ids_eq : p.ids = (p.elems.map (·.2)).toArray
  start_eq : p.start = rowStart p.n p.elems

theorem Pattern.rank_ok_rk (p : Pattern) (r c v : Nat) (h : p.rank r c = .ok v) : p.rk r c = v := by
  simp [Pattern.rk, h]

theorem Pattern.Good.nnz {p : Pattern} (h : p.Good) : p.nnz = p.elems.length := by
  simp [Pattern.nnz, h.ids_eq]

theorem Pattern.Good.start_size {p : Pattern} (h : p.Good) : p.start.size - 1 = p.n := by
  rw [h.start_eq, rowStart_size p.n p.elems h.wf.sorted.rowsSorted (fun e he => (h.wf.range e he).1)]
  omega

theorem Pattern.Good.key_range {p : Pattern} (h : p.Good) {r c : Nat} (hm : p.key r c ∈ p.elems) :
    r < p.n ∧ c < p.n := by
  have := h.wf.range _ hm
  unfold Pattern.key at this
  cases hc : p.csc <;> simp [hc] at this <;> omega

theorem Pattern.Good.rank_eq {p : Pattern} (h : p.Good) {r c : Nat} (hr : r < p.n) (hc : c < p.n) :
    p.rank r c =
      match findIn (p.elems.map (·.2)).toArray (p.key r c).2
          ((rowStart p.n p.elems).getD (p.key r c).1 0)
          ((rowStart p.n p.elems).getD ((p.key r c).1 + 1) 0) with
      | some k => .ok k
      | none => .error .zeroElementAccess := by
  have hn1 := h.start_size
  unfold Pattern.rank
  simp only [hn1]
  have : ¬ ((decide (r ≥ p.n) || decide (c ≥ p.n)) = true) := by simp; omega
  simp only [this]
  rw [← h.ids_eq, ← h.start_eq]
  unfold Pattern.key
  cases p.csc <;> rfl

theorem Pattern.Good.rank_oor {p : Pattern} (h : p.Good) (r c : Nat) :
    p.rank r c = .error .elementOutOfRange ↔ r ≥ p.n ∨ c ≥ p.n := by
  constructor
  · intro hrk
    apply Classical.byContradiction
    intro hcon
    rw [h.rank_eq (by omega) (by omega)] at hrk
    split at hrk <;> simp at hrk
  · intro hcon
    have hn1 := h.start_size
    unfold Pattern.rank
    simp only [hn1]
    have : (decide (r ≥ p.n) || decide (c ≥ p.n)) = true := by simp; omega
    simp [this]

theorem Pattern.Good.rank_ok {p : Pattern} (h : p.Good) (r c k : Nat) :
    p.rank r c = .ok k ↔ p.elems[k]? = some (p.key r c) := by
  by_cases hin : r < p.n ∧ c < p.n
  · rw [h.rank_eq hin.1 hin.2, ← lookup_some h.wf]
    generalize findIn _ _ _ _ = o
    cases o <;> simp
  · constructor
    · intro hrk
      have := (h.rank_oor r c).mpr (by omega)
      rw [this] at hrk
      cases hrk
    · intro hk
      exact absurd (h.key_range (List.mem_of_getElem? hk)) hin

theorem Pattern.Good.rank_zero {p : Pattern} (h : p.Good) (r c : Nat) :
    p.rank r c = .error .zeroElementAccess ↔ r < p.n ∧ c < p.n ∧ p.key r c ∉ p.elems := by
  by_cases hin : r < p.n ∧ c < p.n
  · rw [h.rank_eq hin.1 hin.2, ← lookup_none h.wf]
    generalize findIn _ _ _ _ = o
    cases o <;> simp [hin]
  · constructor
    · intro hrk
      have := (h.rank_oor r c).mpr (by omega)
      rw [this] at hrk
      simp at hrk
    · intro hk
      exact absurd ⟨hk.1, hk.2.1⟩ hin

theorem Pattern.Good.rank_lt {p : Pattern} (h : p.Good) {r c k : Nat} (hk : p.rank r c = .ok k) :
    k < p.nnz := by
  rw [h.nnz]
  rw [h.rank_ok, List.getElem?_eq_some_iff] at hk
  exact hk.1

theorem Pattern.key_inj (p : Pattern) {r c r' c' : Nat} (h : p.key r c = p.key r' c') :
    r = r' ∧ c = c' := by
  unfold Pattern.key at h
  cases hc : p.csc <;> simp [hc] at h <;> omega

theorem Pattern.Good.rank_inj {p : Pattern} (h : p.Good) {r c r' c' k : Nat}
    (h1 : p.rank r c = .ok k) (h2 : p.rank r' c' = .ok k) : r = r' ∧ c = c' := by
  rw [h.rank_ok] at h1 h2
  rw [h1] at h2
  exact p.key_inj (Option.some.inj h2)

theorem Pattern.Good.isZero_false {p : Pattern} (h : p.Good) (r c : Nat) :
    p.isZero r c = .ok false ↔ p.key r c ∈ p.elems := by
  unfold Pattern.isZero
  constructor
  · intro hz
    split at hz
    · rename_i k hk
      exact List.mem_of_getElem? ((h.rank_ok r c k).mp hk)
    · simp at hz
    · simp at hz
  · intro hm
    obtain ⟨k, hk⟩ := List.mem_iff_getElem?.mp hm
    rw [(h.rank_ok r c k).mpr hk]

theorem Pattern.Good.isZero_true {p : Pattern} (h : p.Good) (r c : Nat) :
    p.isZero r c = .ok true ↔ r < p.n ∧ c < p.n ∧ p.key r c ∉ p.elems := by
  rw [← h.rank_zero]
  unfold Pattern.isZero
  constructor
  · intro hz
    split at hz
    · simp at hz
    · assumption
    · simp at hz
  · intro hz
    rw [hz]

theorem Pattern.Good.isZero_error {p : Pattern} (h : p.Good) (r c : Nat) (e : MatErr) :
    p.isZero r c = .error e ↔ e = .elementOutOfRange ∧ (r ≥ p.n ∨ c ≥ p.n) := by
  constructor
  · intro hz
    by_cases hin : r < p.n ∧ c < p.n
    · exfalso
      by_cases hm : p.key r c ∈ p.elems
      · rw [(h.isZero_false r c).mpr hm] at hz; simp at hz
      · rw [(h.isZero_true r c).mpr ⟨hin.1, hin.2, hm⟩] at hz; simp at hz
    · have hr := (h.rank_oor r c).mpr (by omega)
      unfold Pattern.isZero at hz
      rw [hr] at hz
      simp at hz
      exact ⟨hz.symm, by omega⟩
  · rintro ⟨rfl, ho⟩
    have hr := (h.rank_oor r c).mpr ho
    unfold Pattern.isZero
    rw [hr]

theorem vectorIndex_of_lt (p : Pattern) {blocks b : Nat} (hb : b < blocks) (r c : Nat) :
    p.vectorIndex blocks b r c = (p.rank r c).map (p.slot b) := by
  unfold Pattern.vectorIndex Pattern.rank Pattern.slot
  have hb' : decide (b ≥ blocks) = false := by simp; omega
  simp only [hb', Bool.or_false]
  by_cases h : (decide (r ≥ p.start.size - 1) || decide (c ≥ p.start.size - 1)) = true
  · simp only [if_pos h]
    rfl
  · simp only [if_neg h]
    generalize findIn _ _ _ _ = o
    cases o <;> rfl

theorem vectorIndex_of_ge (p : Pattern) {blocks b : Nat} (hb : b ≥ blocks) (r c : Nat) :
    p.vectorIndex blocks b r c = .error .elementOutOfRange := by
  unfold Pattern.vectorIndex
  have h' : (decide (r ≥ p.start.size - 1) || decide (c ≥ p.start.size - 1) ||
      decide (b ≥ blocks)) = true := by simp [hb]
  simp only [h', if_true]

theorem Pattern.key_diag (p : Pattern) (i : Nat) : p.key i i = (i, i) := by
  unfold Pattern.key; cases p.csc <;> rfl

theorem Pattern.diagRank_eq_some (p : Pattern) (i k : Nat) :
    (match p.rank i i with | .ok k => some k | .error _ => none) = some k ↔ p.rank i i = .ok k := by
  cases p.rank i i <;> simp

theorem Pattern.mem_diagRanks_iff (p : Pattern) (k : Nat) :
    k ∈ p.diagRanks ↔ ∃ i, i < p.n ∧ p.rank i i = .ok k := by
  unfold Pattern.diagRanks
  simp only [List.mem_filterMap, List.mem_range]
  exact exists_congr fun i => and_congr_right fun _ => p.diagRank_eq_some i k

theorem Pattern.Good.mem_diagRanks {p : Pattern} (h : p.Good) (k : Nat) :
    k ∈ p.diagRanks ↔ ∃ i, p.elems[k]? = some (i, i) := by
  rw [p.mem_diagRanks_iff]
  constructor
  · rintro ⟨i, _, hi⟩
    exact ⟨i, by rw [← p.key_diag i, ← h.rank_ok]; exact hi⟩
  · rintro ⟨i, hi⟩
    rw [← p.key_diag i] at hi
    exact ⟨i, (h.key_range (List.mem_of_getElem? hi)).1, (h.rank_ok i i k).mpr hi⟩

theorem Pattern.diagRanks_nodup (p : Pattern)
    (hinj : ∀ r c r' c' q, p.rank r c = .ok q → p.rank r' c' = .ok q → r = r' ∧ c = c') :
    p.diagRanks.Nodup := by
  unfold Pattern.diagRanks
  rw [List.nodup_iff_pairwise_ne]
  apply List.Pairwise.filterMap _ _ (List.nodup_iff_pairwise_ne.mp List.nodup_range)
  intro i i' hne k hk k' hk' hkk
  subst hkk
  exact hne (hinj _ _ _ _ _ ((p.diagRank_eq_some i k).mp hk) ((p.diagRank_eq_some i' k).mp hk')).1

theorem Pattern.Good.diagRanks_nodup {p : Pattern} (h : p.Good) : p.diagRanks.Nodup :=
  p.diagRanks_nodup fun _ _ _ _ _ => h.rank_inj

theorem good_mk_csr {n : Nat} {set : List Pair} (hw : WF n set) (L : Nat) :
    (Pattern.mk' n false L set).Good := by
  refine ⟨?_, ?_, ?_⟩
  · simpa [Pattern.mk'] using hw
  · simp [Pattern.mk']
  · simp [Pattern.mk']

def cscElems (set : List Pair) : List Pair := setOfList (set.map fun e => (e.2, e.1))

theorem mem_cscElems (set : List Pair) (r c : Nat) : (c, r) ∈ cscElems set ↔ (r, c) ∈ set := by
  unfold cscElems
  rw [mem_setOfList, List.mem_map]
  constructor
  · rintro ⟨e, he, heq⟩
    have : e = (r, c) := by
      cases e; simp at heq; simp [heq]
    exact this ▸ he
  · intro h; exact ⟨(r, c), h, rfl⟩

theorem wf_cscElems {n : Nat} {set : List Pair} (hr : ∀ e ∈ set, e.1 < n ∧ e.2 < n) :
    WF n (cscElems set) := by
  refine ⟨sorted_setOfList _, ?_⟩
  intro e he
  have := (mem_cscElems set e.2 e.1).mp he
  have := hr _ this
  simp at this; omega

theorem good_mk_csc {n : Nat} {set : List Pair} (hr : ∀ e ∈ set, e.1 < n ∧ e.2 < n) (L : Nat) :
    (Pattern.mk' n true L set).Good := by
  have hw := wf_cscElems hr
  refine ⟨?_, ?_, ?_⟩
  · simpa [Pattern.mk', cscElems] using hw
  · simp [Pattern.mk']
  · simp [Pattern.mk']

theorem good_mk {n : Nat} {set : List Pair} (hw : WF n set) (csc : Bool) (L : Nat) :
    (Pattern.mk' n csc L set).Good := by
  cases csc
  · exact good_mk_csr hw L
  · exact good_mk_csc hw.range L

theorem mem_key_mk (n : Nat) (csc : Bool) (L : Nat) (set : List Pair) (r c : Nat) :
    (Pattern.mk' n csc L set).key r c ∈ (Pattern.mk' n csc L set).elems ↔ (r, c) ∈ set := by
  cases csc
  · simp [Pattern.key, Pattern.mk']
  · simpa [Pattern.key, Pattern.mk', cscElems] using mem_cscElems set r c

theorem nnz_mk {n : Nat} {set : List Pair} (hw : WF n set) (csc : Bool) (L : Nat) :
    (Pattern.mk' n csc L set).nnz = set.length := by
  rw [(good_mk hw csc L).nnz]
  cases csc
  · simp [Pattern.mk']
  · -- the sorted transposed list has the same length: both are duplicate free with the same members
    have h1 : (cscElems set).Nodup := (sorted_setOfList _).nodup
    have h2 : (set.map fun e : Pair => (e.2, e.1)).Nodup := by
      rw [List.nodup_iff_pairwise_ne, List.pairwise_map]
      refine List.Pairwise.imp ?_ (List.nodup_iff_pairwise_ne.mp hw.sorted.nodup)
      intro a b hab heq
      apply hab
      have := congrArg Prod.fst heq
      have := congrArg Prod.snd heq
      exact Prod.ext (by simp_all) (by simp_all)
    have hperm : (cscElems set).Perm (set.map fun e : Pair => (e.2, e.1)) := by
      rw [List.perm_ext_iff_of_nodup h1 h2]
      intro a; exact mem_setOfList _ a
    simpa [Pattern.mk', cscElems] using hperm.length_eq

theorem getElem?_eq_some_iff_idxOf {l : List Pair} (hnd : l.Nodup) (k : Nat) (a : Pair) :
    l[k]? = some a ↔ a ∈ l ∧ k = l.idxOf a := by
  constructor
  · intro h
    obtain ⟨hk, he⟩ := List.getElem?_eq_some_iff.mp h
    refine ⟨List.mem_of_getElem? h, ?_⟩
    rw [← he, hnd.idxOf_getElem k hk]
  · rintro ⟨hm, rfl⟩
    have hlt := List.idxOf_lt_length_iff.mpr hm
    rw [List.getElem?_eq_some_iff]
    exact ⟨hlt, List.getElem_idxOf hlt⟩

end Micm
