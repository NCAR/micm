import Micm.Lemmas.LUCellBridge
import Micm.Lemmas.JacobianPattern
import Micm.Lemmas.Shapes
import Mathlib.Algebra.BigOperators.Group.List.Basic
import Mathlib.Data.List.Nodup
import Mathlib.Data.List.Count

/-!
For C12 (configuration independence in exact arithmetic).  A matrix with an LU factorisation and
non-zero pivots is injective, and dense Doolittle only looks at the leading block; `Factor; Solve` of
every `LinAlg.build kind (Pattern.mk' n csc L set)` solves the same linear system, hence returns the
same vector.  The logical view of the Jacobian does not depend on the pattern it is stored in, and the
visiting order of `NormalizedError` for group length `L` is a permutation of the row-major one.
-/
open Finset
namespace Micm
set_option linter.unusedSectionVars false
variable {K : Type} [Field K]

theorem lower_unit_kernel (n : Nat) (Lm : Nat → Nat → K) (w : Nat → K)
    (hd : ∀ i, i < n → Lm i i = 1) (hu : ∀ r c, r < n → c < n → r < c → Lm r c = 0)
    (h : ∀ i, i < n → ∑ k ∈ range n, Lm i k * w k = 0) : ∀ i, i < n → w i = 0 := by
  intro i
  induction i using Nat.strong_induction_on with
  | _ i ih =>
    intro hi
    have h1 := h i hi
    rw [sum_lower n i hi (fun k => Lm i k * w k)
      (fun j hij hj => by rw [hu i j hi hj hij]; ring)] at h1
    have h2 : ∑ j ∈ range i, Lm i j * w j = 0 := by
      apply sum_eq_zero
      intro j hj
      have hj' := mem_range.mp hj
      rw [ih j hj' (by omega)]; ring
    rw [h2, hd i hi] at h1
    simpa using h1

theorem upper_kernel (n : Nat) (Um : Nat → Nat → K) (z : Nat → K)
    (hd : ∀ i, i < n → Um i i ≠ 0) (hl : ∀ r c, r < n → c < n → c < r → Um r c = 0)
    (h : ∀ k, k < n → ∑ j ∈ range n, Um k j * z j = 0) : ∀ k, k < n → z k = 0 := by
  have key : ∀ m, m ≤ n → ∀ k, n - m ≤ k → k < n → z k = 0 := by
    intro m
    induction m with
    | zero => intro _ k h1 h2; omega
    | succ m ih =>
      intro hm k h1 h2
      by_cases hk : n - m ≤ k
      · exact ih (by omega) k hk h2
      · have hk' : k = n - (m + 1) := by omega
        have h3 := h k h2
        rw [sum_upper n k h2 (fun j => Um k j * z j)
          (fun j hj => by rw [hl k j h2 (by omega) hj]; ring)] at h3
        have h4 : ∑ j ∈ Ico (k + 1) n, Um k j * z j = 0 := by
          apply sum_eq_zero
          intro j hj
          have hj' := mem_Ico.mp hj
          rw [ih (by omega) j (by omega) hj'.2]; ring
        rw [h4, zero_add] at h3
        rcases mul_eq_zero.mp h3 with h5 | h5
        · exact absurd h5 (hd k h2)
        · exact h5
  intro k hk
  exact key n (le_refl n) k (by omega) hk

theorem lu_injective (n : Nat) (A Lm Um : Nat → Nat → K) (h : DenseLU.IsLU n A Lm Um)
    (hp : ∀ i, i < n → Um i i ≠ 0) (x y : Nat → K)
    (hxy : ∀ i, i < n → ∑ j ∈ range n, A i j * x j = ∑ j ∈ range n, A i j * y j) :
    ∀ j, j < n → x j = y j := by
  -- z = x − y is in the kernel of A
  have hz : ∀ i, i < n → ∑ j ∈ range n, A i j * (x j - y j) = 0 := by
    intro i hi
    have : ∀ j, A i j * (x j - y j) = A i j * x j - A i j * y j := fun j => by ring
    simp only [this, sum_sub_distrib, hxy i hi, sub_self]
  -- A z = L (U z)
  have hcomp : ∀ i, i < n →
      ∑ k ∈ range n, Lm i k * (∑ j ∈ range n, Um k j * (x j - y j)) = 0 := by
    intro i hi
    have := lu_compose n Lm Um (fun i => ∑ k ∈ range n, Lm i k * (∑ j ∈ range n, Um k j * (x j - y j)))
      (fun k => ∑ j ∈ range n, Um k j * (x j - y j)) (fun j => x j - y j)
      (fun _ _ => rfl) (fun _ _ => rfl) i hi
    rw [← this, ← hz i hi]
    apply sum_congr rfl
    intro j hj
    rw [h.prod i j hi (mem_range.mp hj)]
  have hw := lower_unit_kernel n Lm (fun k => ∑ j ∈ range n, Um k j * (x j - y j))
    h.L_diag h.L_up hcomp
  have hzz := upper_kernel n Um (fun j => x j - y j) hp h.U_low hw
  intro j hj
  exact sub_eq_zero.mp (hzz j hj)

theorem stage_congr (A A' : Nat → Nat → K) (n i : Nat) (hi : i < n) (s s' : DenseLU.LU K)
    (hA : ∀ r c, r < n → c < n → A r c = A' r c)
    (hL : ∀ r c, r < n → c < n → s.L r c = s'.L r c) (hU : ∀ r c, r < n → c < n → s.U r c = s'.U r c) :
    ∀ r c, r < n → c < n →
      (DenseLU.stage A i s).L r c = (DenseLU.stage A' i s').L r c ∧
      (DenseLU.stage A i s).U r c = (DenseLU.stage A' i s').U r c := by
  have hU' : ∀ r c, r < n → c < n → (DenseLU.stage A i s).U r c = (DenseLU.stage A' i s').U r c := by
    intro r c hr hc
    have hs : ∀ j ∈ range i, s.L i j * s.U j c = s'.L i j * s'.U j c := fun j hj => by
      have hj' := mem_range.mp hj
      rw [hL i j hi (by omega), hU j c (by omega) hc]
    show (if r = i ∧ i ≤ c then A i c - ∑ j ∈ range i, s.L i j * s.U j c else s.U r c)
      = if r = i ∧ i ≤ c then A' i c - ∑ j ∈ range i, s'.L i j * s'.U j c else s'.U r c
    rw [hA i c hi hc, hU r c hr hc, sum_congr rfl hs]
  intro r c hr hc
  refine ⟨?_, hU' r c hr hc⟩
  have hs : ∀ j ∈ range i, s.L r j * (DenseLU.stage A i s).U j i = s'.L r j * (DenseLU.stage A' i s').U j i :=
    fun j hj => by
      have hj' := mem_range.mp hj
      rw [hL r j hr (by omega), hU' j i (by omega) hi]
  show (if c = i ∧ i < r then (A r i - ∑ j ∈ range i, s.L r j * (DenseLU.stage A i s).U j i)
        / (DenseLU.stage A i s).U i i else if r = i ∧ c = i then 1 else s.L r c)
    = if c = i ∧ i < r then (A' r i - ∑ j ∈ range i, s'.L r j * (DenseLU.stage A' i s').U j i)
        / (DenseLU.stage A' i s').U i i else if r = i ∧ c = i then 1 else s'.L r c
  rw [hA r i hr hi, hU' i i hi hi, hL r c hr hc, sum_congr rfl hs]

theorem lu_congr (A A' : Nat → Nat → K) (n : Nat)
    (hA : ∀ r c, r < n → c < n → A r c = A' r c) (m : Nat) (hm : m ≤ n) :
    ∀ r c, r < n → c < n →
      (DenseLU.lu A m).L r c = (DenseLU.lu A' m).L r c ∧
      (DenseLU.lu A m).U r c = (DenseLU.lu A' m).U r c := by
  induction m with
  | zero => intro r c _ _; exact ⟨rfl, rfl⟩
  | succ m ih =>
    have ih := ih (by omega)
    exact stage_congr A A' n m (by omega) _ _ hA (fun r c hr hc => (ih r c hr hc).1)
      (fun r c hr hc => (ih r c hr hc).2)

theorem group_index_inj {L g g' l l' : Nat} (hl : l < L) (hl' : l' < L)
    (h : g * L + l = g' * L + l') : g = g' := by
  rcases Nat.lt_trichotomy g g' with hg | hg | hg
  · have := Nat.mul_le_mul_right L (show g + 1 ≤ g' from hg)
    rw [Nat.succ_mul] at this; omega
  · exact hg
  · have := Nat.mul_le_mul_right L (show g' + 1 ≤ g from hg)
    rw [Nat.succ_mul] at this; omega

theorem nodup_cellVar_block (nVars cnt : Nat) (cell : Nat → Nat) (hc : ∀ l l', cell l = cell l' → l = l') :
    ((List.range nVars).flatMap fun v => (List.range cnt).map fun l => (cell l, v)).Nodup := by
  rw [List.nodup_flatMap]
  refine ⟨fun v _ => ?_, ?_⟩
  · exact List.nodup_range.map (fun a b h => hc a b (Prod.mk.inj h).1)
  · refine List.nodup_range.imp ?_
    intro v v' hne x hx hx'
    simp only [List.mem_map, List.mem_range] at hx hx'
    obtain ⟨l, _, rfl⟩ := hx
    obtain ⟨l', _, h⟩ := hx'
    exact hne (Prod.mk.inj h).2.symm

theorem normOrder_nodup (L nCells nVars : Nat) : (normOrder L nCells nVars).Nodup := by
  unfold normOrder
  by_cases hL : L = 0
  · rw [if_pos hL, List.nodup_flatMap]
    refine ⟨fun c _ => ?_, ?_⟩
    · exact List.nodup_range.map (fun a b h => (Prod.mk.inj h).2)
    · refine List.nodup_range.imp ?_
      intro c c' hne x hx hx'
      simp only [List.mem_map, List.mem_range] at hx hx'
      obtain ⟨v, _, rfl⟩ := hx
      obtain ⟨v', _, h⟩ := hx'
      exact hne (Prod.mk.inj h).1.symm
  · rw [if_neg hL]
    simp only []
    rw [List.nodup_append]
    refine ⟨?_, ?_, ?_⟩
    · rw [List.nodup_flatMap]
      refine ⟨fun g _ => ?_, ?_⟩
      · exact nodup_cellVar_block nVars L (fun l => g * L + l) (fun l l' h => by omega)
      · refine List.nodup_range.imp ?_
        intro g g' hne x hx hx'
        simp only [List.mem_flatMap, List.mem_map, List.mem_range] at hx hx'
        obtain ⟨v, _, l, hl, rfl⟩ := hx
        obtain ⟨v', _, l', hl', h⟩ := hx'
        exact hne (group_index_inj hl' hl (Prod.mk.inj h).1).symm
    · exact nodup_cellVar_block nVars (nCells % L) (fun l => nCells / L * L + l)
        (fun l l' h => by omega)
    · intro a ha b hb hab
      simp only [List.mem_flatMap, List.mem_map, List.mem_range] at ha hb
      obtain ⟨g, hg, v, _, l, hl, rfl⟩ := ha
      obtain ⟨v', _, l', _, rfl⟩ := hb
      have h1 := (Prod.mk.inj hab).1
      have h2 : (g + 1) * L ≤ nCells / L * L := Nat.mul_le_mul_right L hg
      rw [Nat.succ_mul] at h2
      omega

/-- the group-major visiting order of `VectorMatrix<L>` is a permutation of the row-major one,
    for every `L` and every cell count (partial last group included) -/
theorem normOrder_perm (L nCells nVars : Nat) :
    (normOrder L nCells nVars).Perm (normOrder 0 nCells nVars) := by
  rw [List.perm_ext_iff_of_nodup (normOrder_nodup _ _ _) (normOrder_nodup _ _ _)]
  rintro ⟨c, v⟩
  rw [mem_normOrder, mem_normOrder]

theorem foldl_add_perm {β : Type} (f : β → K) {l₁ l₂ : List β} (h : l₁.Perm l₂) (init : K) :
    l₁.foldl (fun acc x => acc + f x) init = l₂.foldl (fun acc x => acc + f x) init :=
  h.foldl_eq' (fun x _ y _ z => by ring) init

theorem foldl_add_eq_sum {β : Type} (f : β → K) (l : List β) (init : K) :
    l.foldl (fun acc x => acc + f x) init = init + (l.map f).sum := by
  induction l generalizing init with
  | nil => simp
  | cons a l ih => simp only [List.foldl_cons, List.map_cons, List.sum_cons, ih]; ring

/-- exact arithmetic: the same terms are added, in a different order -/
theorem normalizedError_layout_indep (o : Ops K) (cs : Consts K) (L nVars : Nat) (atol : Array K)
    (rtol : K) (y ynew err : Mat K) :
    normalizedError o cs L nVars atol rtol y ynew err
      = normalizedError o cs 0 nVars atol rtol y ynew err := by
  unfold normalizedError
  simp only []
  rw [foldl_add_perm (fun cv : Nat × Nat => errTerm o atol rtol y ynew err cv.1 cv.2)
    (normOrder_perm L y.size nVars) 0]

/-- `Factor` followed by `Solve` on one cell, for the configured variant (`l0`, `u0`: prior
    contents of the `L`/`U` storage, unused by the in-place variants) -/
def LinAlg.factorSolveCell (la : LinAlg) (a l0 u0 b : Array K) : Array K :=
  match la.kind with
  | .doolittle =>
    solveCell la.fw la.bw (doolittleCell la.dRows a (l0, u0)).1 (doolittleCell la.dRows a (l0, u0)).2 b
  | .mozart =>
    solveCell la.fw la.bw (mozartCell la.mInit la.mRows a (l0, u0)).1
      (mozartCell la.mInit la.mRows a (l0, u0)).2 b
  | .doolittleInPlace => solveInPlaceCell la.fw la.bw (doolittleInPlaceCell la.diRows a) b
  | .mozartInPlace => solveInPlaceCell la.fw la.bw (mozartInPlaceCell la.miRows a) b

def LinAlg.pivot (la : LinAlg) (a l0 u0 : Array K) (i : Nat) : K :=
  match la.kind with
  | .doolittle => view la.Up (doolittleCell la.dRows a (l0, u0)).2 i i
  | .mozart => view la.Up (mozartCell la.mInit la.mRows a (l0, u0)).2 i i
  | .doolittleInPlace => view la.A (doolittleInPlaceCell la.diRows a) i i
  | .mozartInPlace => view la.A (mozartInPlaceCell la.miRows a) i i

/-- the storage sizes the cell theorems need: `L`/`U` storage for the separate variants, the
    (ALU-pattern) matrix itself for the in-place variants -/
def LinAlg.SizesOK (la : LinAlg) (a l0 u0 : Array K) : Prop :=
  match la.kind with
  | .doolittle | .mozart => l0.size = la.Lp.nnz ∧ u0.size = la.Up.nnz
  | .doolittleInPlace | .mozartInPlace => a.size = la.A.nnz

theorem SizesOK_of_inPlace (la : LinAlg) (a l0 u0 : Array K)
    (h1 : la.kind.inPlace = false → l0.size = la.Lp.nnz ∧ u0.size = la.Up.nnz)
    (h2 : la.kind.inPlace = true → a.size = la.A.nnz) : la.SizesOK a l0 u0 := by
  unfold LinAlg.SizesOK
  cases hk : la.kind <;> simp only [hk, LUKind.inPlace] at h1 h2 ⊢
  · exact h1 trivial
  · exact h1 trivial
  · exact h2 trivial
  · exact h2 trivial

/-- the Mozart variants assume a structurally full diagonal (`BuildJacobian` adds it) -/
def LUKind.needsDiag : LUKind → Bool
  | .mozart | .mozartInPlace => true
  | _ => false

theorem cfg_build_kind (kind : LUKind) (jac : Pattern) : (LinAlg.build kind jac).kind = kind :=
  build_kind kind jac

theorem cfg_build_A_n (kind : LUKind) (jac : Pattern) : (LinAlg.build kind jac).A.n = jac.n :=
  build_A_n kind jac

/-- C04 in uniform notation: for every variant, `Factor; Solve` solves `A y = b` -/
theorem build_factorSolve_spec (kind : LUKind) (jac : Pattern) (n : Nat) (hn : jac.n = n)
    (hdiag : kind.needsDiag = true → ∀ i, i < n → jac.zero? i i = false)
    (a l0 u0 b : Array K) (hs : (LinAlg.build kind jac).SizesOK a l0 u0) (hb : b.size = n)
    (hpiv : ∀ i, i < n → (LinAlg.build kind jac).pivot a l0 u0 i ≠ 0) :
    ∀ i, i < n → ∑ j ∈ range n, view (LinAlg.build kind jac).A a i j *
        rd ((LinAlg.build kind jac).factorSolveCell a l0 u0 b) j = rd b i := by
  subst hn
  cases kind with
  | doolittle => exact C04_build_doolittle jac a l0 u0 b hs.1 hs.2 hb hpiv
  | mozart => exact C04_build_mozart jac (hdiag rfl) a l0 u0 b hs.1 hs.2 hb hpiv
  | doolittleInPlace => exact C04_build_doolittleInPlace jac a b hs hb hpiv
  | mozartInPlace => exact C04_build_mozartInPlace jac (hdiag rfl) a b hs hb hpiv

/-- C03 in uniform notation: for every variant the pivots are those of dense Doolittle applied to
    the logical matrix -/
theorem build_pivot_eq (kind : LUKind) (jac : Pattern) (n : Nat) (hn : jac.n = n)
    (hdiag : kind.needsDiag = true → ∀ i, i < n → jac.zero? i i = false)
    (a l0 u0 : Array K) (hs : (LinAlg.build kind jac).SizesOK a l0 u0) :
    ∀ i, i < n → (LinAlg.build kind jac).pivot a l0 u0 i
      = (DenseLU.lu (view (LinAlg.build kind jac).A a) n).U i i := by
  subst hn
  intro i hi
  cases kind with
  | doolittle => exact (C03_build_doolittle jac a l0 u0 hs.1 hs.2 i i hi hi).2
  | mozart => exact (C03_build_mozart jac (hdiag rfl) a l0 u0 hs.1 hs.2 i i hi hi).2
  | doolittleInPlace =>
    have := C03_build_doolittleInPlace jac a hs i i hi hi
    rw [if_neg (Nat.lt_irrefl i)] at this
    exact this
  | mozartInPlace =>
    have := C03_build_mozartInPlace jac (hdiag rfl) a hs i i hi hi
    rw [if_neg (Nat.lt_irrefl i)] at this
    exact this

theorem pivot_config_indep (kind₁ kind₂ : LUKind) (jac₁ jac₂ : Pattern) (n : Nat)
    (hn₁ : jac₁.n = n) (hn₂ : jac₂.n = n)
    (hd₁ : kind₁.needsDiag = true → ∀ i, i < n → jac₁.zero? i i = false)
    (hd₂ : kind₂.needsDiag = true → ∀ i, i < n → jac₂.zero? i i = false)
    (a₁ l₁ u₁ a₂ l₂ u₂ : Array K)
    (hs₁ : (LinAlg.build kind₁ jac₁).SizesOK a₁ l₁ u₁) (hs₂ : (LinAlg.build kind₂ jac₂).SizesOK a₂ l₂ u₂)
    (hview : ∀ r c, r < n → c < n →
      view (LinAlg.build kind₁ jac₁).A a₁ r c = view (LinAlg.build kind₂ jac₂).A a₂ r c) :
    ∀ i, i < n → (LinAlg.build kind₁ jac₁).pivot a₁ l₁ u₁ i = (LinAlg.build kind₂ jac₂).pivot a₂ l₂ u₂ i := by
  intro i hi
  rw [build_pivot_eq kind₁ jac₁ n hn₁ hd₁ a₁ l₁ u₁ hs₁ i hi,
    build_pivot_eq kind₂ jac₂ n hn₂ hd₂ a₂ l₂ u₂ hs₂ i hi]
  exact (lu_congr _ _ n hview n (le_refl n) i i hi hi).2

theorem image_perm_range (σ : Nat → Nat) (n : Nat) (hinj : ∀ i, i < n → ∀ j, j < n → σ i = σ j → i = j)
    (hr : ∀ i, i < n → σ i < n) : (range n).image σ = range n := by
  apply Finset.eq_of_subset_of_card_le
  · intro x hx
    obtain ⟨i, hi, rfl⟩ := Finset.mem_image.mp hx
    exact mem_range.mpr (hr i (mem_range.mp hi))
  · rw [Finset.card_image_of_injOn]
    intro i hi j hj h
    exact hinj i (mem_range.mp hi) j (mem_range.mp hj) h

theorem sum_perm_range (σ : Nat → Nat) (n : Nat) (hinj : ∀ i, i < n → ∀ j, j < n → σ i = σ j → i = j)
    (hr : ∀ i, i < n → σ i < n) (f : Nat → K) :
    ∑ j ∈ range n, f (σ j) = ∑ j ∈ range n, f j := by
  conv_rhs => rw [← image_perm_range σ n hinj hr]
  rw [Finset.sum_image]
  intro i hi j hj h
  exact hinj i (mem_range.mp hi) j (mem_range.mp hj) h

/-- `A₂[σ r, σ c] = A₁[r, c]` and `b₂[σ i] = b₁[i]` give `y₂[σ j] = y₁[j]`.  Unlike for a change of
    storage, the pivots of the two orderings differ, so both pivot hypotheses are needed. -/
theorem factorSolve_relabel (σ : Nat → Nat) (n : Nat)
    (hinj : ∀ i, i < n → ∀ j, j < n → σ i = σ j → i = j) (hr : ∀ i, i < n → σ i < n)
    (kind₁ kind₂ : LUKind) (jac₁ jac₂ : Pattern) (hn₁ : jac₁.n = n) (hn₂ : jac₂.n = n)
    (hd₁ : kind₁.needsDiag = true → ∀ i, i < n → jac₁.zero? i i = false)
    (hd₂ : kind₂.needsDiag = true → ∀ i, i < n → jac₂.zero? i i = false)
    (a₁ l₁ u₁ b₁ a₂ l₂ u₂ b₂ : Array K)
    (hs₁ : (LinAlg.build kind₁ jac₁).SizesOK a₁ l₁ u₁) (hs₂ : (LinAlg.build kind₂ jac₂).SizesOK a₂ l₂ u₂)
    (hb₁ : b₁.size = n) (hb₂ : b₂.size = n)
    (hpiv₁ : ∀ i, i < n → (LinAlg.build kind₁ jac₁).pivot a₁ l₁ u₁ i ≠ 0)
    (hpiv₂ : ∀ i, i < n → (LinAlg.build kind₂ jac₂).pivot a₂ l₂ u₂ i ≠ 0)
    (hview : ∀ r c, r < n → c < n →
      view (LinAlg.build kind₂ jac₂).A a₂ (σ r) (σ c) = view (LinAlg.build kind₁ jac₁).A a₁ r c)
    (hb : ∀ i, i < n → rd b₂ (σ i) = rd b₁ i) :
    ∀ j, j < n → rd ((LinAlg.build kind₂ jac₂).factorSolveCell a₂ l₂ u₂ b₂) (σ j)
      = rd ((LinAlg.build kind₁ jac₁).factorSolveCell a₁ l₁ u₁ b₁) j := by
  have e₁ := build_factorSolve_spec kind₁ jac₁ n hn₁ hd₁ a₁ l₁ u₁ b₁ hs₁ hb₁ hpiv₁
  have e₂ := build_factorSolve_spec kind₂ jac₂ n hn₂ hd₂ a₂ l₂ u₂ b₂ hs₂ hb₂ hpiv₂
  have hlu : DenseLU.IsLU n (view (LinAlg.build kind₁ jac₁).A a₁)
      (DenseLU.lu (view (LinAlg.build kind₁ jac₁).A a₁) n).L
      (DenseLU.lu (view (LinAlg.build kind₁ jac₁).A a₁) n).U :=
    DenseLU.lu_isLU _ n (fun i hi => by
      rw [← build_pivot_eq kind₁ jac₁ n hn₁ hd₁ a₁ l₁ u₁ hs₁ i hi]; exact hpiv₁ i hi)
  refine lu_injective n _ _ _ hlu (fun i hi => ?_)
    (fun j => rd ((LinAlg.build kind₂ jac₂).factorSolveCell a₂ l₂ u₂ b₂) (σ j)) _ (fun i hi => ?_)
  · rw [← build_pivot_eq kind₁ jac₁ n hn₁ hd₁ a₁ l₁ u₁ hs₁ i hi]; exact hpiv₁ i hi
  · rw [e₁ i hi, ← hb i hi, ← e₂ (σ i) (hr i hi),
      ← sum_perm_range σ n hinj hr (fun j => view (LinAlg.build kind₂ jac₂).A a₂ (σ i) j *
        rd ((LinAlg.build kind₂ jac₂).factorSolveCell a₂ l₂ u₂ b₂) j)]
    apply sum_congr rfl
    intro j hj
    rw [hview i j hi (mem_range.mp hj)]

/-- C12, one cell.  The pivot hypothesis is stated for the first configuration; it then holds for
    the second.  A change of configuration is the relabelling `σ = id`. -/
theorem factorSolve_config_indep (kind₁ kind₂ : LUKind) (jac₁ jac₂ : Pattern) (n : Nat)
    (hn₁ : jac₁.n = n) (hn₂ : jac₂.n = n)
    (hd₁ : kind₁.needsDiag = true → ∀ i, i < n → jac₁.zero? i i = false)
    (hd₂ : kind₂.needsDiag = true → ∀ i, i < n → jac₂.zero? i i = false)
    (a₁ l₁ u₁ a₂ l₂ u₂ b : Array K)
    (hs₁ : (LinAlg.build kind₁ jac₁).SizesOK a₁ l₁ u₁) (hs₂ : (LinAlg.build kind₂ jac₂).SizesOK a₂ l₂ u₂)
    (hb : b.size = n)
    (hpiv : ∀ i, i < n → (LinAlg.build kind₁ jac₁).pivot a₁ l₁ u₁ i ≠ 0)
    (hview : ∀ r c, r < n → c < n →
      view (LinAlg.build kind₁ jac₁).A a₁ r c = view (LinAlg.build kind₂ jac₂).A a₂ r c) :
    ∀ j, j < n → rd ((LinAlg.build kind₁ jac₁).factorSolveCell a₁ l₁ u₁ b) j
      = rd ((LinAlg.build kind₂ jac₂).factorSolveCell a₂ l₂ u₂ b) j := by
  have hpiv₂ : ∀ i, i < n → (LinAlg.build kind₂ jac₂).pivot a₂ l₂ u₂ i ≠ 0 := fun i hi => by
    rw [← pivot_config_indep kind₁ kind₂ jac₁ jac₂ n hn₁ hn₂ hd₁ hd₂ a₁ l₁ u₁ a₂ l₂ u₂ hs₁ hs₂ hview i hi]
    exact hpiv i hi
  exact fun j hj => (factorSolve_relabel id n (fun _ _ _ _ h => h) (fun _ h => h) kind₁ kind₂ jac₁ jac₂
    hn₁ hn₂ hd₁ hd₂ a₁ l₁ u₁ b a₂ l₂ u₂ b hs₁ hs₂ hb hb hpiv hpiv₂
    (fun r c hr hc => (hview r c hr hc).symm) (fun _ _ => rfl) j hj).symm

theorem factorSolveCell_size (la : LinAlg) (a l0 u0 b : Array K) :
    (la.factorSolveCell a l0 u0 b).size = b.size := by
  unfold LinAlg.factorSolveCell
  cases la.kind
  · exact solveCell_size ..
  · exact solveCell_size ..
  · exact solveInPlaceCell_size ..
  · exact solveInPlaceCell_size ..

/-- the `i`-th pivot of cell `c`, read off the matrices `Factor` returns: the diagonal of the `U`
    storage, or of `jacobian_` itself for the in-place variants -/
def factorPivot (s : SolverCfg K) (J Up : Mat K) (c i : Nat) : K :=
  if s.la.kind.inPlace then view s.la.A (J.getD c #[]) i i else view s.la.Up (Up.getD c #[]) i i

theorem pivot_eq_factorPivot (s : SolverCfg K) (M Lo Up : Mat K) (c : Nat) (hc : c < M.size) (i : Nat) :
    s.la.pivot (M.getD c #[]) (Lo.getD c #[]) (Up.getD c #[]) i
      = factorPivot s (s.factor M Lo Up).1 (s.factor M Lo Up).2.2 c i := by
  obtain ⟨e0, _, e2⟩ := factor_getD s M Lo Up c hc
  rw [factorPivot, e0, e2]
  unfold LinAlg.pivot SolverCfg.factorCell
  cases s.la.kind <;> rfl

theorem linSolve_factor_getD (s : SolverCfg K) (J Lo Up x : Mat K) (c : Nat) (hc : c < x.size)
    (hcJ : c < J.size) :
    (s.linSolve (s.factor J Lo Up).1 (s.factor J Lo Up).2.1 (s.factor J Lo Up).2.2 x).getD c #[]
      = s.la.factorSolveCell (J.getD c #[]) (Lo.getD c #[]) (Up.getD c #[]) (x.getD c #[]) := by
  obtain ⟨e0, e1, e2⟩ := factor_getD s J Lo Up c hcJ
  rw [linSolve_getD s _ _ _ x c hc, e0, e1, e2]
  unfold LinAlg.factorSolveCell SolverCfg.factorCell
  cases s.la.kind <;> rfl

/-- the formal partial derivative `∂f_i/∂y_j` of the mass-action forcing (the right-hand side of
    C02's theorems, `jacNet`/`dMonomial` of `Micm/Lemmas/Jacobian.lean`) -/
def jacEntrySpec (procs : List (Process K)) (m : NameMap) (k y : Array K) (i j : Nat) : K :=
  (procs.zipIdx.map fun pi =>
    jacNet (specReactIds m pi.1.reactants) (specProdIds m pi.1.products) i
      * (rd k pi.2 * dMonomial (rd y) (specReactIds m pi.1.reactants) j)).sum

theorem jacEntrySpec_eq_zero (procs : List (Process K)) (m : NameMap) (t : PSTables K)
    (hb : ProcessSet.build procs m = .ok t) (k y : Array K) (i j : Nat)
    (h : (i, j) ∉ t.nonZeroJacobianElements) : jacEntrySpec procs m k y i j = 0 := by
  unfold jacEntrySpec
  apply jac_sum_map_zero
  intro pi hpi
  have hp : pi.1 ∈ procs := List.fst_mem_of_mem_zipIdx hpi
  have hno := mt (mem_nonZero_of_build procs m t hb (i, j)).mpr h
  by_cases hj : j ∈ specReactIds m pi.1.reactants
  · have hi1 : i ∉ specReactIds m pi.1.reactants := fun hi => hno ⟨pi.1, hp, hj, Or.inl hi⟩
    have hi2 : i ∉ (specProdIds m pi.1.products).map (·.1) := fun hi => hno ⟨pi.1, hp, hj, Or.inr hi⟩
    have hf : (specProdIds m pi.1.products).filter (fun p => p.1 = i) = [] := by
      rw [List.filter_eq_nil_iff]
      intro a ha hai
      exact hi2 (List.mem_map.mpr ⟨a, ha, by simpa using hai⟩)
    rw [jacNet, hf, List.count_eq_zero_of_not_mem hi1, List.map_nil, List.sum_nil, Nat.cast_zero,
      sub_zero, zero_mul]
  · rw [dMonomial_of_not_mem _ _ _ hj, mul_zero, mul_zero]

/-- `SubtractJacobianTerms` on a zeroed block gives `−∂f_r/∂y_c` at every position, not only in the
    slots of `p`: on a structural zero of `p` the derivative is identically `0` -/
theorem view_jacobian (procs : List (Process K)) (m : NameMap) (t : PSTables K)
    (hb : ProcessSet.build procs m = .ok t)
    (hk : (m.map (·.1)).Nodup) (hv : (m.map (·.2)).Nodup)
    (hparam : ∀ p ∈ procs, ∀ r ∈ p.reactants, r.param = true → nmLookup m r.name = none)
    (p : Pattern) (flat : List Nat) (hflat : t.jacobianFlatIds p = .ok flat)
    (hinj : ∀ r c r' c' q, p.rank r c = .ok q → p.rank r' c' = .ok q → r = r' ∧ c = c')
    (hrange : ∀ r c q, p.rank r c = .ok q → q < p.nnz)
    (hcover : ∀ x ∈ t.nonZeroJacobianElements, p.zero? x.1 x.2 = false) (k y : Array K) (r c : Nat) :
    view p (t.subtractJacobianCell flat k y (Array.replicate p.nnz 0)) r c
      = - jacEntrySpec procs m k y r c := by
  cases hz : p.zero? r c
  · obtain ⟨q, hq⟩ := (zero?_false_iff_rank _ r c).mp hz
    rw [view_present _ _ _ _ hz, Pattern.rank_ok_rk _ _ _ _ hq]
    exact C02_jacobian_zero procs m t hb hk hv hparam p flat hflat hinj k y _ hrange r c q hq
  · have hx : (r, c) ∉ t.nonZeroJacobianElements := fun h => by
      rw [hcover _ h] at hz; cases hz
    rw [view_absent _ _ _ _ hz, jacEntrySpec_eq_zero procs m t hb k y r c hx, neg_zero]

/-- `set'` is any well-formed element set that contains the declared elements: the builder's
    `BuildJacobian` set, or the fill-closed ALU set of an in-place LU.  `SetJacobianFlatIds` succeeds
    on it and the view is `−∂f_r/∂y_c` also on structural zeros and fill-in slots. -/
theorem jacobian_view (procs : List (Process K)) (m : NameMap) (t : PSTables K)
    (hb : ProcessSet.build procs m = .ok t)
    (hk : (m.map (·.1)).Nodup) (hv : (m.map (·.2)).Nodup)
    (hparam : ∀ p ∈ procs, ∀ r ∈ p.reactants, r.param = true → nmLookup m r.name = none)
    (n : Nat) (csc : Bool) (L : Nat) (set' : List Pair) (hw : WF n set')
    (hsup : ∀ x ∈ t.nonZeroJacobianElements, x ∈ set') :
    ∃ flat, t.jacobianFlatIds (Pattern.mk' n csc L set') = .ok flat ∧
      ∀ (k y : Array K) (r c : Nat),
        view (Pattern.mk' n csc L set')
          (t.subtractJacobianCell flat k y (Array.replicate (Pattern.mk' n csc L set').nnz 0)) r c
          = - jacEntrySpec procs m k y r c := by
  have hg := good_mk hw csc L
  have hcover : ∀ x ∈ t.nonZeroJacobianElements, (Pattern.mk' n csc L set').zero? x.1 x.2 = false :=
    fun x hx => (zero?_mk_iff hw csc L x.1 x.2).mpr (hsup x hx)
  obtain ⟨flat, hflat⟩ := C02_flatids_defined procs m t hb hk hparam (Pattern.mk' n csc L set')
    (fun x hx => (zero?_false_iff_rank _ _ _).mp (hcover x hx))
  exact ⟨flat, hflat, view_jacobian procs m t hb hk hv hparam _ flat hflat
    (fun _ _ _ _ _ h1 h2 => hg.rank_inj h1 h2) (fun _ _ _ h => hg.rank_lt h) hcover⟩

/-- `(LinAlg.build kind jac).A` is the pattern of `state.jacobian_`: the declared one for the
    separate-storage variants, the ALU pattern for the in-place ones -/
theorem build_A_good (kind : LUKind) (jac : Pattern) (hg : jac.Good) : (LinAlg.build kind jac).A.Good := by
  cases kind with
  | doolittle => exact hg
  | mozart => exact hg
  | doolittleInPlace =>
    exact good_mk (wf_doolittleInPlaceSymbolic jac.n (fun r c => jac.zero? r c)) jac.csc jac.L
  | mozartInPlace =>
    exact good_mk (wf_mozartInPlaceSymbolic jac.n (fun r c => jac.zero? r c)) jac.csc jac.L

theorem build_A_support (kind : LUKind) (jac : Pattern) (r c : Nat) (hr : r < jac.n) (hc : c < jac.n)
    (h : jac.zero? r c = false) : (LinAlg.build kind jac).A.zero? r c = false := by
  cases kind with
  | doolittle => exact h
  | mozart => exact h
  | doolittleInPlace =>
    exact (zero?_mk_iff (wf_doolittleInPlaceSymbolic jac.n (fun r c => jac.zero? r c)) jac.csc jac.L r c).mpr
      (doolittleInPlaceSymbolic_support jac.n _ r c hr hc h)
  | mozartInPlace =>
    exact (zero?_mk_iff (wf_mozartInPlaceSymbolic jac.n (fun r c => jac.zero? r c)) jac.csc jac.L r c).mpr
      (mozartInPlaceSymbolic_support jac.n _ r c hr hc h)

/-- the pattern of `state.jacobian_` the builder produces: `BuildJacobian` of the declared elements,
    then `LinAlg.build` -/
theorem builder_A (procs : List (Process K)) (m : NameMap) (t : PSTables K)
    (hb : ProcessSet.build procs m = .ok t) (n : Nat) (hn : ∀ e ∈ m, e.2 < n)
    (kind : LUKind) (csc : Bool) (L : Nat) :
    (LinAlg.build kind (Pattern.mk' n csc L (buildJacobianSet n t.nonZeroJacobianElements))).A.Good ∧
    (∀ i, i < n → (Pattern.mk' n csc L (buildJacobianSet n t.nonZeroJacobianElements)).zero? i i = false) ∧
    (∀ i, i < n → (LinAlg.build kind
      (Pattern.mk' n csc L (buildJacobianSet n t.nonZeroJacobianElements))).A.zero? i i = false) ∧
    ∀ x ∈ t.nonZeroJacobianElements, (LinAlg.build kind
      (Pattern.mk' n csc L (buildJacobianSet n t.nonZeroJacobianElements))).A.zero? x.1 x.2 = false := by
  have hw : WF n (buildJacobianSet n t.nonZeroJacobianElements) :=
    jac_buildJacobianSet_WF procs m t hb n hn
  have hin : ∀ x ∈ buildJacobianSet n t.nonZeroJacobianElements, (LinAlg.build kind
      (Pattern.mk' n csc L (buildJacobianSet n t.nonZeroJacobianElements))).A.zero? x.1 x.2 = false :=
    fun x hx => build_A_support kind _ x.1 x.2 (hw.range x hx).1 (hw.range x hx).2
      ((zero?_mk_iff hw csc L x.1 x.2).mpr hx)
  have hd : ∀ i, i < n → (i, i) ∈ buildJacobianSet n t.nonZeroJacobianElements :=
    fun i hi => (jac_mem_buildJacobianSet n _ (i, i)).mpr (Or.inr ⟨rfl, hi⟩)
  exact ⟨build_A_good kind _ (good_mk hw csc L), fun i hi => (zero?_mk_iff hw csc L i i).mpr (hd i hi),
    fun i hi => hin (i, i) (hd i hi), fun x hx => hin x ((jac_mem_buildJacobianSet n _ x).mpr (Or.inl hx))⟩

theorem jacobian_view_build (procs : List (Process K)) (m : NameMap) (t : PSTables K)
    (hb : ProcessSet.build procs m = .ok t)
    (hk : (m.map (·.1)).Nodup) (hv : (m.map (·.2)).Nodup)
    (hparam : ∀ p ∈ procs, ∀ r ∈ p.reactants, r.param = true → nmLookup m r.name = none)
    (n : Nat) (hn : ∀ e ∈ m, e.2 < n) (kind : LUKind) (csc : Bool) (L : Nat) :
    ∃ flat, t.jacobianFlatIds (LinAlg.build kind
        (Pattern.mk' n csc L (buildJacobianSet n t.nonZeroJacobianElements))).A = .ok flat ∧
      ∀ (k y : Array K) (r c : Nat),
        view (LinAlg.build kind (Pattern.mk' n csc L (buildJacobianSet n t.nonZeroJacobianElements))).A
          (t.subtractJacobianCell flat k y (Array.replicate (LinAlg.build kind
            (Pattern.mk' n csc L (buildJacobianSet n t.nonZeroJacobianElements))).A.nnz 0)) r c
          = - jacEntrySpec procs m k y r c := by
  obtain ⟨hg, _, _, hcover⟩ := builder_A procs m t hb n hn kind csc L
  obtain ⟨flat, hflat⟩ := C02_flatids_defined procs m t hb hk hparam _
    (fun x hx => (zero?_false_iff_rank _ _ _).mp (hcover x hx))
  exact ⟨flat, hflat, view_jacobian procs m t hb hk hv hparam _ flat hflat
    (fun _ _ _ _ _ h1 h2 => hg.rank_inj h1 h2) (fun _ _ _ h => hg.rank_lt h) hcover⟩

theorem forcing_congr_tables (s₁ s₂ : SolverCfg K) (ht : s₁.tables = s₂.tables) (k y f : Mat K) :
    s₁.forcing k y f = s₂.forcing k y f := by
  unfold SolverCfg.forcing; rw [ht]

/-- The stage loop depends on the configuration only through the forcing tables and the
    `Factor; Solve` map; the `ynew` buffers and counters at entry may differ (`Ro`).  By `stagesGo_rel`
    with equality and the logical shape for the stage vectors, equality for `Y`. -/
theorem stagesGo_config_indep (s₁ s₂ : SolverCfg K) (ht : s₁.tables = s₂.tables) (p : RosParams K)
    (kc Y J₁ Lo₁ Up₁ J₂ Lo₂ Up₂ : Mat K) (h : K) (nCells n : Nat)
    (hsolve : ∀ x, MatShape nCells n x → s₁.linSolve J₁ Lo₁ Up₁ x = s₂.linSolve J₂ Lo₂ Up₂ x)
    (Ks : Array (Mat K)) (hK : KShape nCells n Ks) (hsz : p.stages ≤ Ks.size)
    {Ro : Mat K → Mat K → Prop} (hRo : ∀ X, Ro X X) {ynew ynew' : Mat K} (hyn : Ro ynew ynew')
    (st st' : Stats) :
    (stagesGo s₁ p kc Y J₁ Lo₁ Up₁ h p.stages 0 Ks ynew st).1
      = (stagesGo s₂ p kc Y J₂ Lo₂ Up₂ h p.stages 0 Ks ynew' st').1 ∧
    KShape nCells n (stagesGo s₁ p kc Y J₁ Lo₁ Up₁ h p.stages 0 Ks ynew st).1 ∧
    Ro (stagesGo s₁ p kc Y J₁ Lo₁ Up₁ h p.stages 0 Ks ynew st).2.1
      (stagesGo s₂ p kc Y J₂ Lo₂ Up₂ h p.stages 0 Ks ynew' st').2.1 := by
  obtain ⟨hR, hy⟩ := stagesGo_rel (Rm := fun X X' => X = X' ∧ MatShape nCells n X)
    (Sh := fun X X' => X = X' ∧ MatShape nCells n X) (Ry := Eq) (Ro := Ro) s₁ s₂ p kc
    (fun h => h) (fun e => e ▸ hRo _) (fun h => ⟨by rw [h.1], h.2.fillM 0⟩)
    (fun a _ _ _ _ hX hY => ⟨by rw [hX.1, hY.1], hY.2.axpyM a _⟩)
    (fun a _ _ _ _ hX hY => by rw [hX.1, hY])
    (fun hY hf => ⟨by rw [forcing_congr_tables s₁ s₂ ht, hY, hf.1], hf.2.forcing s₁ _ _⟩)
    J₁ Lo₁ Up₁ J₂ Lo₂ Up₂ (fun hx => ⟨by rw [← hx.1]; exact hsolve _ hx.2, hx.2.linSolve s₁ _ _ _⟩)
    (rfl : Y = Y) h p.stages 0 (Ks := Ks) (Ks' := Ks)
    ⟨fun _ _ => Iff.rfl, fun j hj _ => ⟨rfl, hK j hj⟩, fun j hj => absurd hj (Nat.not_lt_zero j)⟩
    (fun h1 _ => ⟨rfl, hK 0 (by omega)⟩) (Or.inr (by omega)) (by omega) hyn st st'
  have hs₁ := stagesGo_K_size s₁ p kc Y J₁ Lo₁ Up₁ h p.stages 0 Ks ynew st
  have hs₂ := stagesGo_K_size s₂ p kc Y J₂ Lo₂ Up₂ h p.stages 0 Ks ynew' st'
  exact ⟨array_ext_getD #[] (hs₁.trans hs₂.symm) (fun j hj => (hR.shape j hj (by omega)).1),
    fun j hj => (hR.shape j hj (by omega)).2, hy⟩

theorem linSolve_config_indep (s₁ s₂ : SolverCfg K) (kind₁ kind₂ : LUKind) (jac₁ jac₂ : Pattern)
    (n : Nat) (hla₁ : s₁.la = LinAlg.build kind₁ jac₁) (hla₂ : s₂.la = LinAlg.build kind₂ jac₂)
    (hn₁ : jac₁.n = n) (hn₂ : jac₂.n = n)
    (hd₁ : kind₁.needsDiag = true → ∀ i, i < n → jac₁.zero? i i = false)
    (hd₂ : kind₂.needsDiag = true → ∀ i, i < n → jac₂.zero? i i = false)
    (M₁ Lo₁ Up₁ M₂ Lo₂ Up₂ : Mat K) (nCells : Nat) (hM₁ : M₁.size = nCells) (hM₂ : M₂.size = nCells)
    (hs₁ : ∀ c, c < nCells → s₁.la.SizesOK (M₁.getD c #[]) (Lo₁.getD c #[]) (Up₁.getD c #[]))
    (hs₂ : ∀ c, c < nCells → s₂.la.SizesOK (M₂.getD c #[]) (Lo₂.getD c #[]) (Up₂.getD c #[]))
    (hpiv : ∀ c, c < nCells → ∀ i, i < n →
      s₁.la.pivot (M₁.getD c #[]) (Lo₁.getD c #[]) (Up₁.getD c #[]) i ≠ 0)
    (hview : ∀ c, c < nCells → ∀ r c', r < n → c' < n →
      view s₁.la.A (M₁.getD c #[]) r c' = view s₂.la.A (M₂.getD c #[]) r c')
    (x : Mat K) (hx : MatShape nCells n x) :
    s₁.linSolve (s₁.factor M₁ Lo₁ Up₁).1 (s₁.factor M₁ Lo₁ Up₁).2.1 (s₁.factor M₁ Lo₁ Up₁).2.2 x
      = s₂.linSolve (s₂.factor M₂ Lo₂ Up₂).1 (s₂.factor M₂ Lo₂ Up₂).2.1 (s₂.factor M₂ Lo₂ Up₂).2.2 x := by
  apply array_ext_getD #[] (by rw [linSolve_size, linSolve_size])
  intro c hc
  rw [linSolve_size] at hc
  have hcn : c < nCells := by rw [← hx.1]; exact hc
  rw [linSolve_factor_getD s₁ _ _ _ _ c hc (by omega), linSolve_factor_getD s₂ _ _ _ _ c hc (by omega)]
  apply arr_ext_rd (by rw [factorSolveCell_size, factorSolveCell_size])
  intro j hj
  rw [factorSolveCell_size, hx.2 c hcn] at hj
  have h1 := hs₁ c hcn
  have h2 := hs₂ c hcn
  have h3 := hpiv c hcn
  have h4 := hview c hcn
  rw [hla₁] at h1 h3 h4 ⊢
  rw [hla₂] at h2 h4 ⊢
  exact factorSolve_config_indep kind₁ kind₂ jac₁ jac₂ n hn₁ hn₂ hd₁ hd₂ _ _ _ _ _ _ _ h1 h2
    (hx.2 c hcn) h3 h4 j hj

theorem view_shiftRow (p : Pattern)
    (hinj : ∀ r c r' c' q, p.rank r c = .ok q → p.rank r' c' = .ok q → r = r' ∧ c = c')
    (hrange : ∀ r c q, p.rank r c = .ok q → q < p.nnz) (Jr : Array K) (hsz : Jr.size = p.nnz) (a : K)
    (r c : Nat) (hr : r < p.n) (hd : p.zero? r r = false) :
    view p (shiftRow p.diagRanks Jr a) r c = view p Jr r c + if r = c then a else 0 := by
  cases hz : p.zero? r c
  · obtain ⟨q, hq⟩ := (zero?_false_iff_rank p r c).mp hz
    rw [view_present _ _ _ _ hz, view_present _ _ _ _ hz, Pattern.rank_ok_rk _ _ _ _ hq,
      rd_shiftRow _ (p.diagRanks_nodup hinj)]
    have hqs : q < Jr.size := by rw [hsz]; exact hrange _ _ _ hq
    by_cases hrc : r = c
    · subst hrc
      rw [if_pos ⟨(p.mem_diagRanks_iff q).mpr ⟨r, hr, hq⟩, hqs⟩, if_pos rfl]
    · have hm : q ∉ p.diagRanks := by
        rw [p.mem_diagRanks_iff]
        rintro ⟨i, _, hi⟩
        obtain ⟨h1, h2⟩ := hinj _ _ _ _ _ hq hi
        exact hrc (h1.trans h2.symm)
      rw [if_neg (fun h => hm h.1), if_neg hrc, add_zero]
  · rw [view_absent _ _ _ _ hz, view_absent _ _ _ _ hz]
    have hrc : r ≠ c := by
      rintro rfl; rw [hd] at hz; cases hz
    rw [if_neg hrc, add_zero]

/-- Cell `c` of the matrix `α·I − J(Y)` of an attempt as the model forms it (cf. `C05_matrix_step`)
    has the logical view `−∂f_r/∂y_c' + α·[r = c']` on every pair. -/
theorem shifted_jacobian_view (procs : List (Process K)) (m : NameMap) (s : SolverCfg K)
    (hb : ProcessSet.build procs m = .ok s.tables)
    (hk : (m.map (·.1)).Nodup) (hv : (m.map (·.2)).Nodup)
    (hparam : ∀ p ∈ procs, ∀ r ∈ p.reactants, r.param = true → nmLookup m r.name = none)
    (hflat : s.tables.jacobianFlatIds s.la.A = .ok s.flatIds) (hdiag : s.diag = s.la.A.diagRanks)
    (hinj : ∀ r c r' c' q, s.la.A.rank r c = .ok q → s.la.A.rank r' c' = .ok q → r = r' ∧ c = c')
    (hrange : ∀ r c q, s.la.A.rank r c = .ok q → q < s.la.A.nnz)
    (hcover : ∀ x ∈ s.tables.nonZeroJacobianElements, s.la.A.zero? x.1 x.2 = false)
    (kc Y B : Mat K) (a : K) (c : Nat) (hc : c < B.size) (hB : (B.getD c #[]).size = s.la.A.nnz)
    (r c' : Nat) (hr : r < s.la.A.n) (hd : s.la.A.zero? r r = false) :
    ((s.alphaMinusJacobian (s.jacobian kc Y (fillM B 0)) a).getD c #[]).size = s.la.A.nnz ∧
    view s.la.A ((s.alphaMinusJacobian (s.jacobian kc Y (fillM B 0)) a).getD c #[]) r c'
      = - jacEntrySpec procs m (kc.getD c #[]) (Y.getD c #[]) r c' + if r = c' then a else 0 := by
  rw [alphaMinusJacobian_getD s _ _ _ (by rw [jacobian_size, fillM_size]; exact hc),
    jacobian_getD s _ _ _ _ (by rw [fillM_size]; exact hc), fillM_getD _ _ _ hc, hdiag, hB]
  have hsz : (s.tables.subtractJacobianCell s.flatIds (kc.getD c #[]) (Y.getD c #[])
      (Array.replicate s.la.A.nnz 0)).size = s.la.A.nnz := by
    rw [subtractJacobianCell_size, Array.size_replicate]
  exact ⟨by rw [shiftRow_size, hsz], by
    rw [view_shiftRow _ hinj hrange _ hsz a r c' hr hd,
      view_jacobian procs m s.tables hb hk hv hparam _ _ hflat hinj hrange hcover]⟩

/-- what the builder (`mkCfg` of `Micm/Model/Driver.lean`) produces for one configuration:
    `n` species, forcing/Jacobian tables `t`, storage order `csc`, sparse group length `Ls`
    (the source pairs it with the dense group length `s.L`), LU variant `kind` -/
structure CfgBuilt (s : SolverCfg K) (t : PSTables K) (n : Nat) (csc : Bool) (Ls : Nat)
    (kind : LUKind) : Prop where
  nSpecies : s.nSpecies = n
  tables : s.tables = t
  la : s.la = LinAlg.build kind (Pattern.mk' n csc Ls (buildJacobianSet n t.nonZeroJacobianElements))
  flat : t.jacobianFlatIds s.la.A = .ok s.flatIds
  diag : s.diag = s.la.A.diagRanks

/-- `shifted_jacobian_view` for a built configuration: the configuration does not occur in the
    right-hand side. -/
theorem built_matrix_view (procs : List (Process K)) (m : NameMap) (t : PSTables K)
    (hb : ProcessSet.build procs m = .ok t)
    (hk : (m.map (·.1)).Nodup) (hv : (m.map (·.2)).Nodup)
    (hparam : ∀ p ∈ procs, ∀ r ∈ p.reactants, r.param = true → nmLookup m r.name = none)
    (n : Nat) (hn : ∀ e ∈ m, e.2 < n) (s : SolverCfg K) (csc : Bool) (Ls : Nat) (kind : LUKind)
    (hs : CfgBuilt s t n csc Ls kind) (kc Y B : Mat K) (a : K) (c : Nat) (hc : c < B.size)
    (hB : (B.getD c #[]).size = s.la.A.nnz) (r c' : Nat) (hr : r < n) :
    ((s.alphaMinusJacobian (s.jacobian kc Y (fillM B 0)) a).getD c #[]).size = s.la.A.nnz ∧
    view s.la.A ((s.alphaMinusJacobian (s.jacobian kc Y (fillM B 0)) a).getD c #[]) r c'
      = - jacEntrySpec procs m (kc.getD c #[]) (Y.getD c #[]) r c' + if r = c' then a else 0 := by
  obtain ⟨hg, _, hdiag, hcover⟩ := builder_A procs m t hb n hn kind csc Ls
  obtain ⟨rfl, hla⟩ : s.tables = t ∧ s.la.A = (LinAlg.build kind
      (Pattern.mk' n csc Ls (buildJacobianSet n t.nonZeroJacobianElements))).A := ⟨hs.tables, by rw [hs.la]⟩
  rw [← hla] at hg hdiag hcover
  exact shifted_jacobian_view procs m s hb hk hv hparam hs.flat hs.diag
    (fun _ _ _ _ _ h1 h2 => hg.rank_inj h1 h2) (fun _ _ _ h => hg.rank_lt h) hcover kc Y B a c hc hB r c'
    (by rw [hla, build_A_n]; exact hr) (hdiag r hr)

def relabel (σ : Nat → Nat) (m : NameMap) : NameMap := m.map fun e => (e.1, σ e.2)

theorem nmLookup_relabel (σ : Nat → Nat) (m : NameMap) (name : String) :
    nmLookup (relabel σ m) name = (nmLookup m name).map σ := by
  unfold nmLookup relabel
  rw [List.find?_map]
  simp only [Option.map_map]
  rfl

theorem reactIdsP_relabel (σ : Nat → Nat) (m : NameMap) (l : List SpecRef) :
    reactIdsP (relabel σ m) l = (reactIdsP m l).map σ := by
  unfold reactIdsP
  rw [List.map_filterMap]
  congr 1
  funext r
  rw [nmLookup_relabel]
  split <;> rfl

theorem prodIdsP_relabel (σ : Nat → Nat) (m : NameMap) (l : List (SpecRef × K)) :
    prodIdsP (relabel σ m) l = (prodIdsP m l).map fun p => (σ p.1, p.2) := by
  unfold prodIdsP
  rw [List.map_filterMap]
  congr 1
  funext r
  rw [nmLookup_relabel]
  split
  · rfl
  · cases nmLookup m r.1.name <;> rfl

theorem sum_filter_relabel (σ : Nat → Nat) (hσ : Function.Injective σ) (l : List (Nat × K)) (i : Nat) :
    (((l.map fun p => (σ p.1, p.2)).filter (fun p => p.1 = σ i)).map (·.2)).sum
      = ((l.filter (fun p => p.1 = i)).map (·.2)).sum := by
  rw [List.filter_map, List.map_map]
  congr 2
  apply List.filter_congr
  intro p _
  simp [hσ.eq_iff]

/-- reordering of the state: the sums over reactions consist of the same terms -/
theorem forcing_relabel (σ : Nat → Nat) (hσ : Function.Injective σ) (m : NameMap)
    (procs : List (Process K)) (t t' : PSTables K)
    (h : buildForcing m procs = .ok t ∨ ProcessSet.build procs m = .ok t)
    (h' : buildForcing (relabel σ m) procs = .ok t' ∨ ProcessSet.build procs (relabel σ m) = .ok t')
    (k y y' f f' : Array K) (hy : ∀ j, rd y' (σ j) = rd y j)
    (i : Nat) (hi : i < f.size) (hi' : σ i < f'.size) (hf : rd f' (σ i) = rd f i) :
    rd (t'.addForcingCell k y' f') (σ i) = rd (t.addForcingCell k y f) i := by
  rw [C01_forcing_mass_action' m procs t h k y f i hi,
    C01_forcing_mass_action' (relabel σ m) procs t' h' k y' f' (σ i) hi', hf]
  congr 2
  apply List.map_congr_left
  intro pk _
  rw [reactIdsP_relabel, prodIdsP_relabel, sum_filter_relabel σ hσ,
    List.count_map_of_injective _ σ hσ, List.map_map]
  congr 3
  apply List.map_congr_left
  intro j _
  exact hy j

theorem jacNet_relabel (σ : Nat → Nat) (hσ : Function.Injective σ) (rs : List Nat)
    (pr : List (Nat × K)) (i : Nat) :
    jacNet (rs.map σ) (pr.map fun p => (σ p.1, p.2)) (σ i) = jacNet rs pr i := by
  unfold jacNet
  rw [sum_filter_relabel σ hσ, List.count_map_of_injective _ σ hσ]

theorem dMonomial_relabel (σ : Nat → Nat) (hσ : Function.Injective σ) (y y' : Nat → K)
    (hy : ∀ j, y' (σ j) = y j) (rs : List Nat) (j : Nat) :
    dMonomial y' (rs.map σ) (σ j) = dMonomial y rs j := by
  unfold dMonomial
  rw [List.count_map_of_injective _ σ hσ, ← List.map_erase hσ, List.map_map]
  congr 3
  funext a
  exact hy a

theorem jacEntrySpec_relabel (σ : Nat → Nat) (hσ : Function.Injective σ) (m : NameMap)
    (procs : List (Process K)) (k y y' : Array K) (hy : ∀ j, rd y' (σ j) = rd y j) (i j : Nat) :
    jacEntrySpec procs (relabel σ m) k y' (σ i) (σ j) = jacEntrySpec procs m k y i j := by
  unfold jacEntrySpec
  congr 1
  apply List.map_congr_left
  intro pi _
  have e1 : specReactIds (relabel σ m) pi.1.reactants = (specReactIds m pi.1.reactants).map σ :=
    reactIdsP_relabel σ m _
  have e2 : specProdIds (relabel σ m) pi.1.products
      = (specProdIds m pi.1.products).map fun p => (σ p.1, p.2) := prodIdsP_relabel σ m _
  rw [e1, e2, jacNet_relabel σ hσ, dMonomial_relabel σ hσ (rd y) (rd y') hy]

end Micm
