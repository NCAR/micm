import Micm.Lemmas.LUCell

/-!
C03, symbolic side: `doolittleSymbolic n az` (the mirror of `GetLUMatrices`) returns exactly the
fill closure of the pattern `az`: `SparseLU.Closed`, the minimality conditions and the triangular
shapes that `LUSetup` asks for; likewise `doolittleInPlaceSymbolic` and `IPSetup`.
-/
namespace Micm
open SparseLU (Closed)

def memB (s : List Pair) (r c : Nat) : Bool := setMem (r, c) s

theorem memB_iff (s : List Pair) (r c : Nat) : memB s r c = true ↔ (r, c) ∈ s := by
  simp [memB, setMem]

theorem setMem_iff (s : List Pair) (x : Pair) : setMem x s = true ↔ x ∈ s := by
  simp [setMem]

theorem setMem_congr (s s' : List Pair) (x : Pair) (h : x ∈ s ↔ x ∈ s') : setMem x s = setMem x s' := by
  cases h1 : setMem x s <;> cases h2 : setMem x s' <;> simp_all [setMem]

theorem any_congr_of_mem {α : Type} (l : List α) (p q : α → Bool) (h : ∀ a, a ∈ l → p a = q a) :
    l.any p = l.any q := by
  induction l with
  | nil => rfl
  | cons a l ih =>
    simp only [List.any_cons, h a List.mem_cons_self,
      ih (fun b hb => h b (List.mem_cons_of_mem _ hb))]

theorem ite_or {α : Type} (a b : Bool) (X Y : α) :
    (if a then X else if b then X else Y) = (if (a || b) then X else Y) := by
  cases a <;> cases b <;> rfl

/-- the inner loop the Doolittle symbolic factorisations share -/
def fillFold (n i : Nat) (a : Nat → Bool) (pos : Nat → Pair)
    (fill : List Pair → Nat → Nat → Bool) (S0 : List Pair) : List Pair :=
  (rangeFrom i n).foldl (fun S k =>
    if !a k || k == i then setInsert (pos k) S
    else if (List.range i).any (fun j => fill S j k) then setInsert (pos k) S
    else S) S0

/-- if `fill` does not look at the positions the loop inserts, all conditions can be read on the
    initial set -/
theorem mem_fillFold (n i : Nat) (a : Nat → Bool) (pos : Nat → Pair)
    (fill : List Pair → Nat → Nat → Bool) (S0 : List Pair)
    (hfill : ∀ S j k, j < i → i ≤ k → k < n →
      (∀ x, (∀ k', i ≤ k' → k' < n → x ≠ pos k') → (x ∈ S ↔ x ∈ S0)) → fill S j k = fill S0 j k)
    (x : Pair) :
    x ∈ fillFold n i a pos fill S0 ↔ x ∈ S0 ∨ ∃ k, x = pos k ∧ i ≤ k ∧ k < n ∧
      (a k = false ∨ k = i ∨ ∃ j, j < i ∧ fill S0 j k = true) := by
  have e : fillFold n i a pos fill S0 = (rangeFrom i n).foldl (fun S k =>
      if (!a k || k == i || (List.range i).any fun j => fill S j k)
      then setInsert (pos k) S else S) S0 := by
    unfold fillFold
    congr 1
    funext S k
    rw [ite_or]
  rw [e, foldl_cond_insert_range i n pos
    (fun S k => !a k || k == i || (List.range i).any fun j => fill S j k)]
  · simp only [Bool.or_eq_true, Bool.not_eq_true', beq_iff_eq, List.any_eq_true, List.mem_range,
      or_assoc]
    refine or_congr_right (exists_congr fun k => ?_)
    constructor
    · rintro ⟨h1, h2, h3, h4⟩; exact ⟨h4, h1, h2, h3⟩
    · rintro ⟨h4, h1, h2, h3⟩; exact ⟨h1, h2, h3, h4⟩
  · intro S k h1 h2 hS
    congr 1
    exact any_congr_of_mem _ _ _ fun j hj => hfill S j k (List.mem_range.mp hj) h1 h2 hS

def symU (n : Nat) (az : Nat → Nat → Bool) (L : List Pair) (i : Nat) (U0 : List Pair) : List Pair :=
  fillFold n i (az i) (fun k => (i, k)) (fun U j k => setMem (i, j) L && setMem (j, k) U) U0

def symL (n : Nat) (az : Nat → Nat → Bool) (U : List Pair) (i : Nat) (L0 : List Pair) : List Pair :=
  fillFold n i (fun k => az k i) (fun k => (k, i)) (fun L j k => setMem (k, j) L && setMem (j, i) U) L0

def symStep (n : Nat) (az : Nat → Nat → Bool) (LU : List Pair × List Pair) (i : Nat) :
    List Pair × List Pair :=
  (symL n az (symU n az LU.1 i LU.2) i LU.1, symU n az LU.1 i LU.2)

theorem doolittleSymbolic_eq (n : Nat) (az : Nat → Nat → Bool) :
    doolittleSymbolic n az = (List.range n).foldl (symStep n az) ([], []) := rfl

theorem mem_symU (n : Nat) (az : Nat → Nat → Bool) (L : List Pair) (i : Nat) (U0 : List Pair)
    (r c : Nat) :
    (r, c) ∈ symU n az L i U0 ↔ (r, c) ∈ U0 ∨ (r = i ∧ i ≤ c ∧ c < n ∧
      (az i c = false ∨ c = i ∨ ∃ j, j < i ∧ (i, j) ∈ L ∧ (j, c) ∈ U0)) := by
  rw [symU, mem_fillFold]
  · simp only [Prod.mk.injEq, Bool.and_eq_true, setMem_iff]
    refine or_congr_right ⟨?_, ?_⟩
    · rintro ⟨k, ⟨rfl, rfl⟩, h⟩; exact ⟨rfl, h⟩
    · rintro ⟨rfl, h⟩; exact ⟨c, ⟨rfl, rfl⟩, h⟩
  · -- rows `j < i` of `U` are not written
    intro S j k hj _ _ hS
    rw [setMem_congr S U0 (j, k) (hS _ fun k' _ _ heq => hj.ne (Prod.mk.inj heq).1)]

theorem mem_symL (n : Nat) (az : Nat → Nat → Bool) (U : List Pair) (i : Nat) (L0 : List Pair)
    (r c : Nat) :
    (r, c) ∈ symL n az U i L0 ↔ (r, c) ∈ L0 ∨ (c = i ∧ i ≤ r ∧ r < n ∧
      (az r i = false ∨ r = i ∨ ∃ j, j < i ∧ (r, j) ∈ L0 ∧ (j, i) ∈ U)) := by
  rw [symL, mem_fillFold]
  · simp only [Prod.mk.injEq, Bool.and_eq_true, setMem_iff]
    refine or_congr_right ⟨?_, ?_⟩
    · rintro ⟨k, ⟨rfl, rfl⟩, h⟩; exact ⟨rfl, h⟩
    · rintro ⟨rfl, h⟩; exact ⟨r, ⟨rfl, rfl⟩, h⟩
  · -- columns `j < i` of `L` are not written
    intro S j k hj _ _ hS
    rw [setMem_congr S L0 (k, j) (hS _ fun k' _ _ heq => hj.ne (Prod.mk.inj heq).2)]

/-- after `i` stages the sets are the fill closure restricted to rows / columns `< i` -/
structure SymInv (n : Nat) (az : Nat → Nat → Bool) (i : Nat) (L U : List Pair) : Prop where
  U_iff : ∀ r c, (r, c) ∈ U ↔ r < i ∧ r ≤ c ∧ c < n ∧
    (az r c = false ∨ c = r ∨ ∃ j, j < r ∧ (r, j) ∈ L ∧ (j, c) ∈ U)
  L_iff : ∀ r c, (r, c) ∈ L ↔ c < i ∧ c ≤ r ∧ r < n ∧
    (az r c = false ∨ r = c ∨ ∃ j, j < c ∧ (r, j) ∈ L ∧ (j, c) ∈ U)

/-- the three ways an element gets into the closure; only the fill witnesses move between sets -/
theorem fill_imp {p q : Prop} {P Q : Nat → Prop} (h : ∀ j, P j → Q j) :
    (p ∨ q ∨ ∃ j, P j) → (p ∨ q ∨ ∃ j, Q j) :=
  Or.imp_right (Or.imp_right fun ⟨j, hj⟩ => ⟨j, h j hj⟩)

theorem symInv_step (n : Nat) (az : Nat → Nat → Bool) (i : Nat) (L U : List Pair)
    (h : SymInv n az i L U) :
    SymInv n az (i + 1) (symStep n az (L, U) i).1 (symStep n az (L, U) i).2 := by
  show SymInv n az (i + 1) (symL n az (symU n az L i U) i L) (symU n az L i U)
  have hU' := mem_symU n az L i U
  generalize symU n az L i U = U' at hU'
  have hL' := mem_symL n az U' i L
  generalize symL n az U' i L = L' at hL'
  have hUsub : ∀ r c, (r, c) ∈ U → (r, c) ∈ U' := fun r c hm => (hU' r c).mpr (Or.inl hm)
  have hLsub : ∀ r c, (r, c) ∈ L → (r, c) ∈ L' := fun r c hm => (hL' r c).mpr (Or.inl hm)
  -- the stage only adds row `i` of `U` and column `i` of `L`
  have hUold : ∀ j c, j < i → (j, c) ∈ U' → (j, c) ∈ U := fun j c hj hm =>
    ((hU' j c).mp hm).elim id fun h1 => absurd h1.1 hj.ne
  have hLold : ∀ r j, j < i → (r, j) ∈ L' → (r, j) ∈ L := fun r j hj hm =>
    ((hL' r j).mp hm).elim id fun h1 => absurd h1.1 hj.ne
  constructor
  · intro r c
    rw [hU' r c]
    constructor
    · rintro (hm | ⟨rfl, h1, h2, h3⟩)
      · obtain ⟨g1, g2, g3, g4⟩ := (h.U_iff r c).mp hm
        exact ⟨Nat.lt_succ_of_lt g1, g2, g3,
          fill_imp (fun j ⟨hj, g5, g6⟩ => ⟨hj, hLsub _ _ g5, hUsub _ _ g6⟩) g4⟩
      · exact ⟨Nat.lt_succ_self r, h1, h2,
          fill_imp (fun j ⟨hj, g5, g6⟩ => ⟨hj, hLsub _ _ g5, hUsub _ _ g6⟩) h3⟩
    · rintro ⟨g1, g2, g3, g4⟩
      rcases Nat.lt_succ_iff_lt_or_eq.mp g1 with hlt | rfl
      · exact Or.inl ((h.U_iff r c).mpr ⟨hlt, g2, g3, fill_imp
          (fun j ⟨hj, g5, g6⟩ => ⟨hj, hLold _ _ (hj.trans hlt) g5, hUold _ _ (hj.trans hlt) g6⟩) g4⟩)
      · exact Or.inr ⟨rfl, g2, g3,
          fill_imp (fun j ⟨hj, g5, g6⟩ => ⟨hj, hLold _ _ hj g5, hUold _ _ hj g6⟩) g4⟩
  · intro r c
    rw [hL' r c]
    constructor
    · rintro (hm | ⟨rfl, h1, h2, h3⟩)
      · obtain ⟨g1, g2, g3, g4⟩ := (h.L_iff r c).mp hm
        exact ⟨Nat.lt_succ_of_lt g1, g2, g3,
          fill_imp (fun j ⟨hj, g5, g6⟩ => ⟨hj, hLsub _ _ g5, hUsub _ _ g6⟩) g4⟩
      · exact ⟨Nat.lt_succ_self c, h1, h2,
          fill_imp (fun j ⟨hj, g5, g6⟩ => ⟨hj, hLsub _ _ g5, g6⟩) h3⟩
    · rintro ⟨g1, g2, g3, g4⟩
      rcases Nat.lt_succ_iff_lt_or_eq.mp g1 with hlt | rfl
      · exact Or.inl ((h.L_iff r c).mpr ⟨hlt, g2, g3, fill_imp
          (fun j ⟨hj, g5, g6⟩ => ⟨hj, hLold _ _ (hj.trans hlt) g5, hUold _ _ (hj.trans hlt) g6⟩) g4⟩)
      · exact Or.inr ⟨rfl, g2, g3, fill_imp (fun j ⟨hj, g5, g6⟩ => ⟨hj, hLold _ _ hj g5, g6⟩) g4⟩

/-- `GetLUMatrices` computes exactly the fill closure -/
theorem doolittleSymbolic_inv (n : Nat) (az : Nat → Nat → Bool) :
    SymInv n az n (doolittleSymbolic n az).1 (doolittleSymbolic n az).2 :=
  foldl_range_induct (fun i LU => SymInv n az i LU.1 LU.2) (symStep n az) ([], []) n
    ⟨by intro r c; simp, by intro r c; simp⟩ fun i _ LU h => symInv_step n az i LU.1 LU.2 h

/-- what `LUSetup` asks of the presence predicates, on `Bool` matrices -/
structure FillClosure (n : Nat) (Ab Lb Ub : Nat → Nat → Bool) : Prop where
  closed : Closed n Ab Lb Ub
  diagL : ∀ i, i < n → Lb i i = true
  lowL : ∀ r c, r < n → c < n → Lb r c = true → c ≤ r
  uppU : ∀ r c, r < n → c < n → Ub r c = true → r ≤ c
  minU : ∀ i k, i < k → k < n → Ub i k = true →
    Ab i k = true ∨ ∃ j, j < i ∧ Lb i j = true ∧ Ub j k = true
  minL : ∀ i k, i < k → k < n → Lb k i = true →
    Ab k i = true ∨ ∃ j, j < i ∧ Lb k j = true ∧ Ub j i = true

theorem fillClosure_of_symInv {n : Nat} {az : Nat → Nat → Bool} {L U : List Pair}
    (h : SymInv n az n L U) (Ab Lb Ub : Nat → Nat → Bool)
    (hA : ∀ r c, r < n → c < n → (Ab r c = true ↔ az r c = false))
    (hLb : ∀ r c, r < n → c < n → (Lb r c = true ↔ (r, c) ∈ L))
    (hUb : ∀ r c, r < n → c < n → (Ub r c = true ↔ (r, c) ∈ U)) :
    FillClosure n Ab Lb Ub where
  closed :=
    { diagU := fun i hi => (hUb i i hi hi).mpr ((h.U_iff i i).mpr ⟨hi, le_refl i, hi, Or.inr (Or.inl rfl)⟩)
      supU := fun r c hrc hc ha =>
        have hr := Nat.lt_of_le_of_lt hrc hc
        (hUb r c hr hc).mpr ((h.U_iff r c).mpr ⟨hr, hrc, hc, Or.inl ((hA r c hr hc).mp ha)⟩)
      supL := fun r c hcr hr ha =>
        have hc := hcr.trans hr
        (hLb r c hr hc).mpr ((h.L_iff r c).mpr ⟨hc, hcr.le, hr, Or.inl ((hA r c hr hc).mp ha)⟩)
      fillU := fun i j k hj hik hk h1 h2 =>
        have hi := Nat.lt_of_le_of_lt hik hk
        (hUb i k hi hk).mpr ((h.U_iff i k).mpr ⟨hi, hik, hk, Or.inr (Or.inr ⟨j, hj,
          (hLb i j hi (hj.trans hi)).mp h1, (hUb j k (hj.trans hi) hk).mp h2⟩)⟩)
      fillL := fun i j k hj hik hk h1 h2 =>
        have hi := hik.trans hk
        (hLb k i hk hi).mpr ((h.L_iff k i).mpr ⟨hi, hik.le, hk, Or.inr (Or.inr ⟨j, hj,
          (hLb k j hk (hj.trans hi)).mp h1, (hUb j i (hj.trans hi) hi).mp h2⟩)⟩) }
  diagL := fun i hi => (hLb i i hi hi).mpr ((h.L_iff i i).mpr ⟨hi, le_refl i, hi, Or.inr (Or.inl rfl)⟩)
  lowL := fun r c hr hc hm => ((h.L_iff r c).mp ((hLb r c hr hc).mp hm)).2.1
  uppU := fun r c hr hc hm => ((h.U_iff r c).mp ((hUb r c hr hc).mp hm)).2.1
  minU := by
    intro i k hik hk hm
    have hi := hik.trans hk
    obtain ⟨_, _, _, g⟩ := (h.U_iff i k).mp ((hUb i k hi hk).mp hm)
    rcases g with g | g | ⟨j, hj, g1, g2⟩
    · exact Or.inl ((hA i k hi hk).mpr g)
    · exact absurd g hik.ne'
    · exact Or.inr ⟨j, hj, (hLb i j hi (hj.trans hi)).mpr g1, (hUb j k (hj.trans hi) hk).mpr g2⟩
  minL := by
    intro i k hik hk hm
    have hi := hik.trans hk
    obtain ⟨_, _, _, g⟩ := (h.L_iff k i).mp ((hLb k i hk hi).mp hm)
    rcases g with g | g | ⟨j, hj, g1, g2⟩
    · exact Or.inl ((hA k i hk hi).mpr g)
    · exact absurd g hik.ne'
    · exact Or.inr ⟨j, hj, (hLb k j hk (hj.trans hi)).mpr g1, (hUb j i (hj.trans hi) hi).mpr g2⟩

theorem LUSetup_of_symbolic (n : Nat) (A Lp Up : Pattern) (gL : GoodPattern n Lp)
    (gU : GoodPattern n Up)
    (hL : ∀ r c, r < n → c < n →
      (Lp.zero? r c = false ↔ (r, c) ∈ (doolittleSymbolic n (fun r c => A.zero? r c)).1))
    (hU : ∀ r c, r < n → c < n →
      (Up.zero? r c = false ↔ (r, c) ∈ (doolittleSymbolic n (fun r c => A.zero? r c)).2)) :
    LUSetup n A Lp Up := by
  have fc := fillClosure_of_symInv (doolittleSymbolic_inv n (fun r c => A.zero? r c))
    (pres A) (pres Lp) (pres Up) (fun r c _ _ => pres_true A r c)
    (fun r c hr hc => (pres_true Lp r c).trans (hL r c hr hc))
    (fun r c hr hc => (pres_true Up r c).trans (hU r c hr hc))
  exact
    { gL := gL, gU := gU, closed := fc.closed
      diagL := fun i hi => (pres_true _ _ _).mp (fc.diagL i hi)
      lowL := fun r c hr hc hp => fc.lowL r c hr hc ((pres_true _ _ _).mpr hp)
      uppU := fun r c hr hc hp => fc.uppU r c hr hc ((pres_true _ _ _).mpr hp)
      minU := by
        intro i k hik hk hp
        rcases fc.minU i k hik hk ((pres_true _ _ _).mpr hp) with g | ⟨j, hj, g1, g2⟩
        · exact Or.inl ((pres_true _ _ _).mp g)
        · exact Or.inr ⟨j, hj, (pres_true _ _ _).mp g1, (pres_true _ _ _).mp g2⟩
      minL := by
        intro i k hik hk hp
        rcases fc.minL i k hik hk ((pres_true _ _ _).mpr hp) with g | ⟨j, hj, g1, g2⟩
        · exact Or.inl ((pres_true _ _ _).mp g)
        · exact Or.inr ⟨j, hj, (pres_true _ _ _).mp g1, (pres_true _ _ _).mp g2⟩ }

def symIPU (n : Nat) (az : Nat → Nat → Bool) (i : Nat) (S0 : List Pair) : List Pair :=
  fillFold n i (az i) (fun k => (i, k)) (fun S j k => setMem (i, j) S && setMem (j, k) S) S0

def symIPL (n : Nat) (az : Nat → Nat → Bool) (i : Nat) (S0 : List Pair) : List Pair :=
  fillFold n i (fun k => az k i) (fun k => (k, i)) (fun S j k => setMem (k, j) S && setMem (j, i) S) S0

theorem doolittleInPlaceSymbolic_eq (n : Nat) (az : Nat → Nat → Bool) :
    doolittleInPlaceSymbolic n az
      = (List.range n).foldl (fun S i => symIPL n az i (symIPU n az i S)) [] := rfl

theorem mem_symIPU (n : Nat) (az : Nat → Nat → Bool) (i : Nat) (S0 : List Pair) (r c : Nat) :
    (r, c) ∈ symIPU n az i S0 ↔ (r, c) ∈ S0 ∨ (r = i ∧ i ≤ c ∧ c < n ∧
      (az i c = false ∨ c = i ∨ ∃ j, j < i ∧ (i, j) ∈ S0 ∧ (j, c) ∈ S0)) := by
  rw [symIPU, mem_fillFold]
  · simp only [Prod.mk.injEq, Bool.and_eq_true, setMem_iff]
    refine or_congr_right ⟨?_, ?_⟩
    · rintro ⟨k, ⟨rfl, rfl⟩, h⟩; exact ⟨rfl, h⟩
    · rintro ⟨rfl, h⟩; exact ⟨c, ⟨rfl, rfl⟩, h⟩
  · -- the loop writes `(i, k)`, `k ≥ i`; it reads `(i, j)` and `(j, k)` with `j < i`
    intro S j k hj _ _ hS
    rw [setMem_congr S S0 (i, j) (hS _ fun k' a1 _ heq =>
        Nat.not_le.mpr hj ((Prod.mk.inj heq).2 ▸ a1)),
      setMem_congr S S0 (j, k) (hS _ fun k' _ _ heq => hj.ne (Prod.mk.inj heq).1)]

theorem mem_symIPL (n : Nat) (az : Nat → Nat → Bool) (i : Nat) (S0 : List Pair) (r c : Nat) :
    (r, c) ∈ symIPL n az i S0 ↔ (r, c) ∈ S0 ∨ (c = i ∧ i ≤ r ∧ r < n ∧
      (az r i = false ∨ r = i ∨ ∃ j, j < i ∧ (r, j) ∈ S0 ∧ (j, i) ∈ S0)) := by
  rw [symIPL, mem_fillFold]
  · simp only [Prod.mk.injEq, Bool.and_eq_true, setMem_iff]
    refine or_congr_right ⟨?_, ?_⟩
    · rintro ⟨k, ⟨rfl, rfl⟩, h⟩; exact ⟨rfl, h⟩
    · rintro ⟨rfl, h⟩; exact ⟨r, ⟨rfl, rfl⟩, h⟩
  · intro S j k hj _ _ hS
    rw [setMem_congr S S0 (k, j) (hS _ fun k' _ _ heq => hj.ne (Prod.mk.inj heq).2),
      setMem_congr S S0 (j, i) (hS _ fun k' a1 _ heq =>
        Nat.not_le.mpr hj ((Prod.mk.inj heq).1 ▸ a1))]

/-- after `i` stages: the fill closure restricted to the elements with `min r c < i` -/
def SymIPInv (n : Nat) (az : Nat → Nat → Bool) (i : Nat) (S : List Pair) : Prop :=
  ∀ r c, (r, c) ∈ S ↔ (r < i ∨ c < i) ∧ r < n ∧ c < n ∧
    (az r c = false ∨ r = c ∨ ∃ j, j < r ∧ j < c ∧ (r, j) ∈ S ∧ (j, c) ∈ S)

theorem symIPInv_step (n : Nat) (az : Nat → Nat → Bool) (i : Nat) (S : List Pair)
    (h : SymIPInv n az i S) : SymIPInv n az (i + 1) (symIPL n az i (symIPU n az i S)) := by
  have h1 := mem_symIPU n az i S
  generalize symIPU n az i S = S1 at h1
  have h2 := mem_symIPL n az i S1
  generalize symIPL n az i S1 = S2 at h2
  have sub1 : ∀ r c, (r, c) ∈ S → (r, c) ∈ S1 := fun r c hm => (h1 r c).mpr (Or.inl hm)
  have sub2 : ∀ r c, (r, c) ∈ S1 → (r, c) ∈ S2 := fun r c hm => (h2 r c).mpr (Or.inl hm)
  -- the stage only adds elements with `min r c = i`
  have old : ∀ r c, (r < i ∨ c < i) → (r, c) ∈ S2 → (r, c) ∈ S := by
    intro r c hlt hm
    rcases (h2 r c).mp hm with g | g
    · rcases (h1 r c).mp g with g' | g'
      · exact g'
      · omega
    · omega
  intro r c
  constructor
  · intro hm
    rcases (h2 r c).mp hm with g | ⟨rfl, g1, g2, g3⟩
    · rcases (h1 r c).mp g with g' | ⟨rfl, g1, g2, g3⟩
      · obtain ⟨k1, k2, k3, k4⟩ := (h r c).mp g'
        exact ⟨k1.imp Nat.lt_succ_of_lt Nat.lt_succ_of_lt, k2, k3, fill_imp
          (fun j ⟨j1, j2, j3, j4⟩ => ⟨j1, j2, sub2 _ _ (sub1 _ _ j3), sub2 _ _ (sub1 _ _ j4)⟩) k4⟩
      · exact ⟨Or.inl (Nat.lt_succ_self r), Nat.lt_of_le_of_lt g1 g2, g2,
          g3.imp_right (Or.imp Eq.symm fun ⟨j, j1, j3, j4⟩ =>
            ⟨j, j1, Nat.lt_of_lt_of_le j1 g1, sub2 _ _ (sub1 _ _ j3), sub2 _ _ (sub1 _ _ j4)⟩)⟩
    · exact ⟨Or.inr (Nat.lt_succ_self c), g2, Nat.lt_of_le_of_lt g1 g2, fill_imp
        (fun j ⟨j1, j3, j4⟩ => ⟨Nat.lt_of_lt_of_le j1 g1, j1, sub2 _ _ j3, sub2 _ _ j4⟩) g3⟩
  · rintro ⟨g1, g2, g3, g4⟩
    by_cases hold : r < i ∨ c < i
    · exact sub2 _ _ (sub1 _ _ ((h r c).mpr ⟨hold, g2, g3, fill_imp (fun j ⟨j1, j2, j3, j4⟩ =>
        ⟨j1, j2, old _ _ (hold.imp id j2.trans) j3, old _ _ (hold.imp j1.trans id) j4⟩) g4⟩))
    · have hir : i ≤ r := Nat.not_lt.mp fun hr => hold (Or.inl hr)
      have hic : i ≤ c := Nat.not_lt.mp fun hc => hold (Or.inr hc)
      by_cases hri : r = i
      · subst hri
        exact sub2 _ _ ((h1 r c).mpr (Or.inr ⟨rfl, hic, g3,
          g4.imp_right (Or.imp Eq.symm fun ⟨j, j1, j2, j3, j4⟩ =>
            ⟨j, j1, old _ _ (Or.inr j1) j3, old _ _ (Or.inl j1) j4⟩)⟩))
      · obtain rfl : c = i := by omega
        exact (h2 r c).mpr (Or.inr ⟨rfl, hir, g2, fill_imp (fun j ⟨j1, j2, j3, j4⟩ =>
          ⟨j2, sub1 _ _ (old _ _ (Or.inr j2) j3), sub1 _ _ (old _ _ (Or.inl j2) j4)⟩) g4⟩)

theorem doolittleInPlaceSymbolic_inv (n : Nat) (az : Nat → Nat → Bool) :
    SymIPInv n az n (doolittleInPlaceSymbolic n az) :=
  foldl_range_induct (SymIPInv n az) (fun S i => symIPL n az i (symIPU n az i S)) [] n
    (by intro r c; simp) fun i _ S h => symIPInv_step n az i S h

theorem IPSetup_of_symbolic (n : Nat) (az : Nat → Nat → Bool) (P : Pattern) (g : GoodPattern n P)
    (hP : ∀ r c, r < n → c < n →
      (P.zero? r c = false ↔ (r, c) ∈ doolittleInPlaceSymbolic n az)) : IPSetup n P := by
  have hinv := doolittleInPlaceSymbolic_inv n az
  refine ⟨g, ?_, ?_⟩
  · intro i hi
    exact (hP i i hi hi).mpr ((hinv i i).mpr ⟨Or.inl hi, hi, hi, Or.inr (Or.inl rfl)⟩)
  · intro r c j hr hc hjr hjc h1 h2
    exact (hP r c hr hc).mpr ((hinv r c).mpr ⟨Or.inl hr, hr, hc, Or.inr (Or.inr ⟨j, hjr, hjc,
      (hP r j hr (hjr.trans hr)).mp h1, (hP j c (hjr.trans hr) hc).mp h2⟩)⟩)

theorem doolittleInPlaceSymbolic_support (n : Nat) (az : Nat → Nat → Bool) (r c : Nat)
    (hr : r < n) (hc : c < n) (h : az r c = false) : (r, c) ∈ doolittleInPlaceSymbolic n az :=
  (doolittleInPlaceSymbolic_inv n az r c).mpr ⟨Or.inl hr, hr, hc, Or.inl h⟩

end Micm
