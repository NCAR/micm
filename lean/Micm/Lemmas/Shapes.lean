import Micm.Lemmas.Scratch
import Micm.Lemmas.Jacobian
import Micm.Properties.C01

/-!
Shapes and sizes of what a `State` carries.  `MatShape nCells n M`: `M` has `nCells` rows of `n`
entries (a dense matrix, or the per-cell element arrays of a sparse one); `KShape`: every stage
vector has that shape.  The kernels of the solvers act row by row and keep the number of rows and the length of
each (`Lemmas/SolveInduct.lean`), hence the shape (`MatShape.…`).
-/
namespace Micm

section Shape
variable {K : Type}

def MatShape (nCells n : Nat) (M : Mat K) : Prop :=
  M.size = nCells ∧ ∀ c, c < nCells → (M.getD c #[]).size = n

def KShape (nCells n : Nat) (Ks : Array (Mat K)) : Prop :=
  ∀ j, j < Ks.size → MatShape nCells n (Ks.getD j #[])

variable {nCells n : Nat}

theorem MatShape.lt {M : Mat K} (h : MatShape nCells n M) {c : Nat} (hc : c < nCells) : c < M.size := by
  rw [h.1]; exact hc

theorem MatShape.of_rows {M : Mat K} (hs : M.size = nCells)
    (h : ∀ c (hc : c < M.size), M[c].size = n) : MatShape nCells n M :=
  ⟨hs, fun c hc => by rw [getD_lt _ _ _ (by omega)]; exact h c (by omega)⟩

theorem MatShape.row {M : Mat K} (h : MatShape nCells n M) (c : Nat)
    (hc : c < M.size) : M[c].size = n := by
  have := h.2 c (by rw [← h.1]; exact hc)
  rwa [getD_lt _ _ _ hc] at this

theorem MatShape.replicate (nCells n : Nat) (v : K) :
    MatShape nCells n (Array.replicate nCells (Array.replicate n v)) :=
  MatShape.of_rows Array.size_replicate (fun c hc => by rw [Array.getElem_replicate, Array.size_replicate])

theorem MatShape.of_sizes {X X' : Mat K} (h : MatShape nCells n X) (hs : X'.size = X.size)
    (hc : ∀ c, c < X.size → (X'.getD c #[]).size = (X.getD c #[]).size) : MatShape nCells n X' :=
  ⟨hs.trans h.1, fun c hc' => (hc c (h.lt hc')).trans (h.2 c hc')⟩

theorem KShape.set {Ks : Array (Mat K)} (h : KShape nCells n Ks) (i : Nat) (M : Mat K)
    (hM : MatShape nCells n M) : KShape nCells n (Ks.setIfInBounds i M) := by
  intro j hj
  rw [Array.size_setIfInBounds] at hj
  by_cases hij : i = j
  · subst hij; rw [getD_set_eq _ _ _ _ hj]; exact hM
  · rw [getD_set_ne _ _ _ _ _ hij]; exact h j hj

variable [OfNat K 0] [OfNat K 1] [Add K] [Sub K] [Mul K] [Div K]

theorem axpyM_getD_size (a : K) (x y : Mat K) (c : Nat) (hc : c < y.size) :
    ((axpyM a x y).getD c #[]).size = (y.getD c #[]).size := by
  rw [axpyM_getD a x y c hc, axpyRow_size]

theorem MatShape.axpyM {y : Mat K} (hy : MatShape nCells n y) (a : K) (x : Mat K) :
    MatShape nCells n (axpyM a x y) :=
  hy.of_sizes (axpyM_size a x y) (axpyM_getD_size a x y)

theorem MatShape.axpy_fold {F : Mat K} (hF : MatShape nCells n F) (coef : Nat → K)
    (X : Nat → Mat K) (l : List Nat) :
    MatShape nCells n (l.foldl (fun ks j => Micm.axpyM (coef j) (X j) ks) F) := by
  induction l generalizing F with
  | nil => exact hF
  | cons j l ih => exact ih (hF.axpyM _ _)

theorem MatShape.fillM {M : Mat K} (hM : MatShape nCells n M) (v : K) :
    MatShape nCells n (fillM M v) :=
  hM.of_sizes (fillM_size M v) (fun c _ => (fillM_getD_size M v c).2)

theorem MatShape.linSolve {x : Mat K} (hx : MatShape nCells n x) (s : SolverCfg K)
    (J Lo Up : Mat K) : MatShape nCells n (s.linSolve J Lo Up x) :=
  hx.of_sizes (linSolve_size s J Lo Up x) (fun c _ => linSolve_getD_size s J Lo Up x c)

omit [OfNat K 0] [OfNat K 1] [Add K] [Sub K] [Mul K] [Div K] in
theorem MatShape.mapIdx₂ {X : Mat K} (hX : MatShape nCells n X) (g : Nat → Nat → K → K) :
    MatShape nCells n (X.mapIdx fun c xr => xr.mapIdx fun v x => g c v x) :=
  hX.of_sizes Array.size_mapIdx (fun c hc => by rw [getD_mapIdx _ X c hc #[] #[], Array.size_mapIdx])

theorem factor_shapes (s : SolverCfg K) (nCells : Nat) (J Lo Up : Mat K)
    (hJ : MatShape nCells s.la.A.nnz J)
    (hLo : s.la.kind.inPlace = false → MatShape nCells s.la.Lp.nnz Lo)
    (hUp : s.la.kind.inPlace = false → MatShape nCells s.la.Up.nnz Up) :
    MatShape nCells s.la.A.nnz (s.factor J Lo Up).1 ∧
    (s.la.kind.inPlace = false → MatShape nCells s.la.Lp.nnz (s.factor J Lo Up).2.1) ∧
    (s.la.kind.inPlace = false → MatShape nCells s.la.Up.nnz (s.factor J Lo Up).2.2) := by
  obtain ⟨s0, s1, s2⟩ := factor_size s J Lo Up
  have hcell := fun c (hc : c < nCells) => factor_getD_size s J Lo Up c (hJ.lt hc)
  exact ⟨⟨s0.trans hJ.1, fun c hc => (hcell c hc).1.trans (hJ.2 c hc)⟩,
    fun hk => ⟨by rw [s1, hk]; exact hJ.1, fun c hc => (hcell c hc).2.1.trans ((hLo hk).2 c hc)⟩,
    fun hk => ⟨by rw [s2, hk]; exact hJ.1, fun c hc => (hcell c hc).2.2.trans ((hUp hk).2 c hc)⟩⟩

end Shape

section Field
variable {K : Type} [Field K]

theorem MatShape.getD_size {nCells n : Nat} {M : Mat K} (h : MatShape nCells n M) (c : Nat)
    (hc : c < nCells) : (M.getD c #[]).size = n := h.2 c hc

theorem forcing_getD_size (s : SolverCfg K) (k y f : Mat K) (c : Nat) (hc : c < f.size) :
    ((s.forcing k y f).getD c #[]).size = (f.getD c #[]).size := by
  rw [forcing_getD s k y f c hc, C01_frame_size]

theorem subtractJacobianCell_size (t : PSTables K) (flat : List Nat) (k y J : Array K) :
    (t.subtractJacobianCell flat k y J).size = J.size := jacGo_size k y _ _ _ flat J

theorem jacobian_getD_size (s : SolverCfg K) (kc Y J : Mat K) (c : Nat) (hc : c < J.size) :
    ((s.jacobian kc Y J).getD c #[]).size = (J.getD c #[]).size := by
  rw [jacobian_getD s kc Y J c hc, subtractJacobianCell_size]

theorem alphaMinusJacobian_getD_size (s : SolverCfg K) (J : Mat K) (a : K) (c : Nat) (hc : c < J.size) :
    ((s.alphaMinusJacobian J a).getD c #[]).size = (J.getD c #[]).size := by
  rw [alphaMinusJacobian_getD s J a c hc, shiftRow_size]

theorem MatShape.forcing {nCells n : Nat} {f : Mat K} (hf : MatShape nCells n f) (s : SolverCfg K)
    (k y : Mat K) : MatShape nCells n (s.forcing k y f) :=
  hf.of_sizes (forcing_size s k y f) (forcing_getD_size s k y f)

theorem MatShape.jacobian {nCells w : Nat} {J : Mat K} (h : MatShape nCells w J)
    (s : SolverCfg K) (kc Y : Mat K) : MatShape nCells w (s.jacobian kc Y J) :=
  h.of_sizes (jacobian_size s kc Y J) (jacobian_getD_size s kc Y J)

theorem MatShape.alphaMinusJacobian {nCells w : Nat} {J : Mat K} (h : MatShape nCells w J)
    (s : SolverCfg K) (a : K) : MatShape nCells w (s.alphaMinusJacobian J a) :=
  h.of_sizes (alphaMinusJacobian_size s J a) (alphaMinusJacobian_getD_size s J a)

theorem jac0_sizes (s : SolverCfg K) (kc Y B : Mat K) :
    (jac0 s kc Y B).size = B.size ∧
    ∀ c, c < B.size → ((jac0 s kc Y B).getD c #[]).size = (B.getD c #[]).size :=
  ⟨(jacobian_size s kc Y _).trans (fillM_size B 0), fun c hc =>
    (jacobian_getD_size s kc Y _ c ((fillM_size B 0).symm ▸ hc)).trans (fillM_getD_size B 0 c).2⟩

theorem JacHolds.sizes {s : SolverCfg K} {kc : Mat K} {r : RState K} {B : Mat K} (h : JacHolds s kc r B) :
    r.sc.jac.size = B.size ∧ ∀ c, c < B.size → (r.sc.jac.getD c #[]).size = (B.getD c #[]).size := by
  obtain ⟨z1, z2⟩ := jac0_sizes s kc r.Y B
  unfold JacHolds at h
  by_cases hk : s.la.kind.inPlace = true
  · rw [h, if_pos hk]; exact ⟨z1, z2⟩
  · rw [h, if_neg hk]
    exact ⟨(alphaMinusJacobian_size s _ _).trans z1, fun c hc =>
      (alphaMinusJacobian_getD_size s _ _ c (z1.symm ▸ hc)).trans (z2 c hc)⟩

theorem JacHolds.matShape {s : SolverCfg K} {kc : Mat K} {r : RState K} {B : Mat K} (h : JacHolds s kc r B)
    {nCells w : Nat} (hj : MatShape nCells w r.sc.jac) : MatShape nCells w B :=
  hj.of_sizes h.sizes.1.symm (fun c hc => (h.sizes.2 c (by rwa [← h.sizes.1])).symm)

end Field

end Micm
