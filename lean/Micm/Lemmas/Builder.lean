/-
The builder, for C14 / C20 (core Lean only).  The name map is an association list kept strictly
sorted, as a `std::map`; a successful `getSpeciesMap` returns the map `names'[i] ↦ i` for a
rearrangement `names'` of the unique names (`NmIndexes`).  `setAbsoluteTolerances` is read as a list of
assignments run in order, and `build` as a row of tests whose first failure `buildOutcome` computes.
-/
import Micm.Lemmas.ExceptLemmas
import Micm.Lemmas.Forcing
import Micm.Lemmas.Markowitz
namespace Micm

def nmKeys (m : NameMap) : List String := m.map (·.1)

/-- the `std::map` invariant: keys strictly increasing -/
def NmSorted (m : NameMap) : Prop := m.Pairwise fun a b => a.1 < b.1

theorem nmLookup_nmInsert (m : NameMap) (k : String) (v : Nat) (k' : String) :
    nmLookup (nmInsert m k v) k' = if k' = k then some v else nmLookup m k' := by
  induction m with
  | nil =>
    unfold nmInsert
    rw [nmLookup_cons]
    by_cases h : k = k'
    · simp [h]
    · simp [h, Ne.symm h, nmLookup_nil]
  | cons e l ih =>
    unfold nmInsert
    by_cases h1 : k < e.1
    · rw [if_pos h1, nmLookup_cons]
      by_cases h : k = k'
      · simp [h]
      · simp [h, Ne.symm h]
    · rw [if_neg h1]
      by_cases h2 : k = e.1
      · have h2' : (k == e.1) = true := by simp [h2]
        rw [if_pos h2', nmLookup_cons, nmLookup_cons]
        by_cases h : k = k'
        · simp [h]
        · have : ¬ e.1 = k' := by rw [← h2]; exact h
          simp [h, Ne.symm h, this]
      · have h2' : ¬ (k == e.1) = true := by simp [h2]
        rw [if_neg h2', nmLookup_cons, nmLookup_cons, ih]
        by_cases h : e.1 = k'
        · have : ¬ k' = k := by rw [← h]; exact Ne.symm h2
          simp [h, this]
        · simp [h]

theorem nmLookup_isSome_iff (m : NameMap) (k : String) : (nmLookup m k).isSome = true ↔ k ∈ nmKeys m := by
  induction m with
  | nil => simp [nmLookup_nil, nmKeys]
  | cons e l ih =>
    rw [nmLookup_cons]
    by_cases h : e.1 = k
    · simp [h, nmKeys]
    · simp only [h, if_false, ih, nmKeys, List.map_cons, List.mem_cons]
      constructor
      · exact .inr
      · rintro (h' | h')
        · exact absurd h'.symm h
        · exact h'

theorem nmLookup_eq_none_iff (m : NameMap) (k : String) : nmLookup m k = none ↔ k ∉ nmKeys m := by
  rw [← nmLookup_isSome_iff]
  cases nmLookup m k <;> simp

theorem mem_nmKeys_nmInsert (m : NameMap) (k : String) (v : Nat) (k' : String) :
    k' ∈ nmKeys (nmInsert m k v) ↔ k' = k ∨ k' ∈ nmKeys m := by
  rw [← nmLookup_isSome_iff, ← nmLookup_isSome_iff, nmLookup_nmInsert]
  by_cases h : k' = k <;> simp [h]

theorem mem_nmInsert {m : NameMap} {k : String} {v : Nat} {b : String × Nat} (h : b ∈ nmInsert m k v) :
    b = (k, v) ∨ b ∈ m := by
  induction m with
  | nil => unfold nmInsert at h; simpa using h
  | cons e l ih =>
    unfold nmInsert at h
    split at h
    · rcases List.mem_cons.1 h with h | h
      · exact .inl h
      · exact .inr h
    · split at h
      · rcases List.mem_cons.1 h with h | h
        · exact .inl h
        · exact .inr (List.mem_cons_of_mem _ h)
      · rcases List.mem_cons.1 h with h | h
        · exact .inr (h ▸ List.mem_cons_self)
        · rcases ih h with h | h
          · exact .inl h
          · exact .inr (List.mem_cons_of_mem _ h)

theorem NmSorted.nil : NmSorted [] := List.Pairwise.nil

theorem NmSorted.nmInsert {m : NameMap} (hm : NmSorted m) (k : String) (v : Nat) : NmSorted (nmInsert m k v) := by
  induction m with
  | nil => unfold Micm.nmInsert; exact List.pairwise_singleton _ _
  | cons e l ih =>
    unfold NmSorted at hm ih ⊢
    rw [List.pairwise_cons] at hm
    unfold Micm.nmInsert
    by_cases h1 : k < e.1
    · rw [if_pos h1]
      refine List.Pairwise.cons ?_ (List.pairwise_cons.2 hm)
      intro b hb
      rcases List.mem_cons.1 hb with hb | hb
      · rw [hb]; exact h1
      · exact String.lt_trans h1 (hm.1 b hb)
    · rw [if_neg h1]
      by_cases h2 : k = e.1
      · have h2' : (k == e.1) = true := by simp [h2]
        rw [if_pos h2']
        refine List.Pairwise.cons ?_ hm.2
        intro b hb
        show k < b.1
        rw [h2]; exact hm.1 b hb
      · have h2' : ¬ (k == e.1) = true := by simp [h2]
        rw [if_neg h2']
        refine List.Pairwise.cons ?_ (ih hm.2)
        intro b hb
        rcases mem_nmInsert hb with hb | hb
        · rw [hb]
          show e.1 < k
          have hle : e.1 ≤ k := String.not_lt.1 h1
          apply Decidable.byContradiction
          intro hn
          exact h2 (String.le_antisymm (String.not_lt.1 hn) hle)
        · exact hm.1 b hb

theorem NmSorted.nodup_keys {m : NameMap} (hm : NmSorted m) : (nmKeys m).Nodup := by
  unfold nmKeys List.Nodup
  rw [List.pairwise_map]
  exact List.Pairwise.imp (fun h => String.ne_of_lt h) hm

/-- `species_map[name] = index` for a list of (name, index) pairs, in order -/
def nmInsertAll (m0 : NameMap) (ps : List (String × Nat)) : NameMap :=
  ps.foldl (fun m p => nmInsert m p.1 p.2) m0

theorem nmOfNames_eq (names : List String) : nmOfNames names = nmInsertAll [] names.zipIdx := rfl

theorem nmInsertAll_cons (m0 : NameMap) (p : String × Nat) (ps : List (String × Nat)) :
    nmInsertAll m0 (p :: ps) = nmInsertAll (nmInsert m0 p.1 p.2) ps := rfl

theorem nmLookup_nmInsertAll_of_not_mem (m0 : NameMap) (ps : List (String × Nat)) (k : String)
    (h : k ∉ ps.map (·.1)) : nmLookup (nmInsertAll m0 ps) k = nmLookup m0 k := by
  induction ps generalizing m0 with
  | nil => rfl
  | cons p ps ih =>
    rw [List.map_cons, List.mem_cons, not_or] at h
    rw [nmInsertAll_cons, ih _ h.2, nmLookup_nmInsert, if_neg h.1]

theorem nmLookup_nmInsertAll_of_mem (m0 : NameMap) (ps : List (String × Nat)) (k : String) (v : Nat)
    (hn : (ps.map (·.1)).Nodup) (h : (k, v) ∈ ps) : nmLookup (nmInsertAll m0 ps) k = some v := by
  induction ps generalizing m0 with
  | nil => cases h
  | cons p ps ih =>
    rw [List.map_cons, List.nodup_cons] at hn
    rw [nmInsertAll_cons]
    rcases List.mem_cons.1 h with h | h
    · subst h
      rw [nmLookup_nmInsertAll_of_not_mem _ _ _ hn.1, nmLookup_nmInsert, if_pos rfl]
    · exact ih _ hn.2 h

theorem mem_nmKeys_nmInsertAll (m0 : NameMap) (ps : List (String × Nat)) (k : String) :
    k ∈ nmKeys (nmInsertAll m0 ps) ↔ k ∈ nmKeys m0 ∨ k ∈ ps.map (·.1) := by
  induction ps generalizing m0 with
  | nil => simp [nmInsertAll]
  | cons p ps ih =>
    rw [nmInsertAll_cons, ih, mem_nmKeys_nmInsert, List.map_cons, List.mem_cons]
    constructor
    · rintro ((h | h) | h)
      · exact .inr (.inl h)
      · exact .inl h
      · exact .inr (.inr h)
    · rintro (h | h | h)
      · exact .inl (.inr h)
      · exact .inl (.inl h)
      · exact .inr h

theorem NmSorted.nmInsertAll {m0 : NameMap} (hm : NmSorted m0) (ps : List (String × Nat)) :
    NmSorted (nmInsertAll m0 ps) := by
  induction ps generalizing m0 with
  | nil => exact hm
  | cons p ps ih => rw [nmInsertAll_cons]; exact ih (hm.nmInsert _ _)

theorem map_fst_zipIdx (names : List String) : names.zipIdx.map (·.1) = names := by
  simp [List.zipIdx_map_fst]

theorem getElem_mem_zipIdx (names : List String) (i : Nat) (h : i < names.length) :
    (names[i], i) ∈ names.zipIdx := by
  rw [List.mem_zipIdx_iff_getElem?]
  simp [h]

/-- `m` is exactly the map `names[i] ↦ i` (as a strictly sorted association list) -/
structure NmIndexes (m : NameMap) (names : List String) : Prop where
  sorted : NmSorted m
  keys : ∀ k, k ∈ nmKeys m ↔ k ∈ names
  lookup : ∀ i (h : i < names.length), nmLookup m names[i] = some i

theorem NmIndexes.of_insertAll {m0 : NameMap} (h0 : NmSorted m0) (names : List String)
    (hk : ∀ k ∈ nmKeys m0, k ∈ names) (hn : names.Nodup) : NmIndexes (nmInsertAll m0 names.zipIdx) names where
  sorted := h0.nmInsertAll _
  keys k := by
    rw [mem_nmKeys_nmInsertAll, map_fst_zipIdx]
    exact ⟨fun h => h.elim (hk k) id, .inr⟩
  lookup i h := nmLookup_nmInsertAll_of_mem _ _ _ _ (by rw [map_fst_zipIdx]; exact hn) (getElem_mem_zipIdx names i h)

theorem NmIndexes.nmOfNames {names : List String} (hn : names.Nodup) : NmIndexes (nmOfNames names) names :=
  NmIndexes.of_insertAll NmSorted.nil names (fun _ h => by cases h) hn

section NmIndexesFacts
variable {m : NameMap} {names : List String}

theorem NmIndexes.keys_perm (h : NmIndexes m names) (hn : names.Nodup) : (nmKeys m).Perm names :=
  (List.perm_ext_iff_of_nodup h.sorted.nodup_keys hn).2 h.keys

theorem NmIndexes.length_eq (h : NmIndexes m names) (hn : names.Nodup) : m.length = names.length := by
  have := (h.keys_perm hn).length_eq
  simpa [nmKeys] using this

theorem NmIndexes.lookup_eq_some_iff (h : NmIndexes m names) (_hn : names.Nodup) (k : String) (i : Nat) :
    nmLookup m k = some i ↔ names[i]? = some k := by
  constructor
  · intro hl
    have hk : k ∈ names := (h.keys k).1 ((nmLookup_isSome_iff m k).1 (by simp [hl]))
    obtain ⟨j, hj, rfl⟩ := List.getElem_of_mem hk
    have := h.lookup j hj
    rw [hl] at this
    cases this
    simp [hj]
  · intro hi
    obtain ⟨hlt, rfl⟩ := List.getElem?_eq_some_iff.1 hi
    exact h.lookup i hlt

theorem NmIndexes.mem_iff (h : NmIndexes m names) (hn : names.Nodup) (e : String × Nat) :
    e ∈ m ↔ names[e.2]? = some e.1 := by
  rw [← h.lookup_eq_some_iff hn]
  exact ⟨nmLookup_of_mem h.sorted.nodup_keys, nmLookup_eq_some_mem⟩

theorem NmIndexes.lookup_lt (h : NmIndexes m names) (hn : names.Nodup) {k : String} {i : Nat}
    (hl : nmLookup m k = some i) : i < names.length :=
  (List.getElem?_eq_some_iff.1 ((h.lookup_eq_some_iff hn k i).1 hl)).1

theorem NmIndexes.lookup_inj (h : NmIndexes m names) (hn : names.Nodup) {k k' : String} {i : Nat}
    (hl : nmLookup m k = some i) (hl' : nmLookup m k' = some i) : k = k' := by
  have a := (h.lookup_eq_some_iff hn k i).1 hl
  have b := (h.lookup_eq_some_iff hn k' i).1 hl'
  rw [a] at b
  exact Option.some.inj b

theorem NmIndexes.lookup_of_mem (h : NmIndexes m names) {k : String} (hk : k ∈ names) :
    ∃ i, i < names.length ∧ nmLookup m k = some i := by
  obtain ⟨j, hj, rfl⟩ := List.getElem_of_mem hk
  exact ⟨j, hj, h.lookup j hj⟩

/-- the inverse search used for `variable_names_` -/
theorem NmIndexes.find_value (h : NmIndexes m names) (hn : names.Nodup) (i : Nat) (hi : i < names.length) :
    m.find? (·.2 == i) = some (names[i], i) := by
  have hmem : (names[i], i) ∈ m := (h.mem_iff hn _).2 (by simp [hi])
  cases hf : m.find? (·.2 == i) with
  | none =>
    have := List.find?_eq_none.1 hf _ hmem
    simp at this
  | some e =>
    have he : e ∈ m := List.mem_of_find?_eq_some hf
    have h2 : e.2 = i := by simpa using List.find?_some hf
    have := (h.mem_iff hn e).1 he
    rw [h2] at this
    have h1 : names[i] = e.1 := by simpa [hi] using this
    rw [h1, ← h2]

theorem NmIndexes.variableNames (h : NmIndexes m names) (hn : names.Nodup) :
    ((List.range names.length).map fun i => ((m.find? (·.2 == i)).map (·.1)).getD "") = names := by
  apply List.ext_getElem
  · simp
  · intro i h1 h2
    simp only [List.length_map, List.length_range] at h1
    simp [h.find_value hn i h1]

end NmIndexesFacts

section Sys
variable {α : Type}

theorem SystemDecl.stateSize_eq (s : SystemDecl α) : s.stateSize = s.uniqueNames.length := by
  unfold SystemDecl.stateSize SystemDecl.uniqueNames phaseUnique
  simp [List.length_flatMap, Function.comp_def]

def reorderNames (names : List String) (perm : Array Nat) : List String :=
  (List.range names.length).map fun i => names.getD (perm.getD i 0) ""

def jacPattern (n : Nat) (t : PSTables α) : IMat :=
  t.nonZeroJacobianElements.foldl (fun p e => p.set e.1 e.2 1) (Array.replicate n (Array.replicate n 0))

theorem getSpeciesMap_false (sys : SystemDecl α) (procs : List (Process α)) :
    getSpeciesMap sys procs false = .ok (nmOfNames sys.uniqueNames) := rfl

theorem getSpeciesMap_true (sys : SystemDecl α) (procs : List (Process α)) :
    getSpeciesMap sys procs true =
      (ProcessSet.build procs (nmOfNames sys.uniqueNames)).mapError PSErr.toErr >>= fun t =>
      markowitz sys.stateSize (jacPattern sys.stateSize t) >>= fun perm =>
      .ok (nmInsertAll (nmOfNames sys.uniqueNames) (reorderNames sys.uniqueNames perm).zipIdx) := rfl

theorem map_getD_range (l : List String) (d : String) :
    (List.range l.length).map (fun i => l.getD i d) = l := by
  apply List.ext_getElem
  · simp
  · intro i h1 h2
    simp [h2]

theorem map_getD_range_array (a : Array Nat) :
    (List.range a.size).map (fun i => a.getD i 0) = a.toList := by
  apply List.ext_getElem
  · simp
  · intro i h1 h2
    simp only [List.length_map, List.length_range] at h1
    simp [Array.getD, h1]

theorem reorderNames_eq (names : List String) (perm : Array Nat) (hs : perm.size = names.length) :
    reorderNames names perm = perm.toList.map fun j => names.getD j "" := by
  unfold reorderNames
  rw [← map_getD_range_array, List.map_map, hs]
  rfl

theorem reorderNames_perm (names : List String) (perm : Array Nat) (hs : perm.size = names.length)
    (hp : perm.toList.Perm (List.range names.length)) : (reorderNames names perm).Perm names := by
  rw [reorderNames_eq names perm hs]
  have := hp.map fun j => names.getD j ""
  rw [map_getD_range] at this
  exact this

theorem mem_nmKeys_nmOfNames (names : List String) (k : String) : k ∈ nmKeys (nmOfNames names) ↔ k ∈ names := by
  rw [nmOfNames_eq, mem_nmKeys_nmInsertAll, map_fst_zipIdx]
  simp [nmKeys]

/-- Success means at least one species: on an empty system `markowitz` does not return (`.hang`).
    The result is the first map overwritten along a rearrangement of the unique names. -/
theorem getSpeciesMap_true_ok {sys : SystemDecl α} {procs : List (Process α)} {m : NameMap}
    (h : getSpeciesMap sys procs true = .ok m) :
    ∃ t perm, ProcessSet.build procs (nmOfNames sys.uniqueNames) = .ok t ∧
      markowitz sys.stateSize (jacPattern sys.stateSize t) = .ok perm ∧
      perm.size = sys.uniqueNames.length ∧ perm.toList.Perm (List.range sys.uniqueNames.length) ∧
      (reorderNames sys.uniqueNames perm).Perm sys.uniqueNames ∧
      m = nmInsertAll (nmOfNames sys.uniqueNames) (reorderNames sys.uniqueNames perm).zipIdx := by
  rw [getSpeciesMap_true] at h
  obtain ⟨t, ht, h⟩ := Except.mapError_bind_eq_ok h
  obtain ⟨perm, hm, h⟩ := Except.bind_eq_ok_iff.1 h
  have h0 : sys.stateSize ≠ 0 := fun h0 => by rw [h0] at hm; cases hm
  obtain ⟨perm', hm', hs, hp⟩ := markowitz_perm sys.stateSize (jacPattern sys.stateSize t) (by omega)
  obtain rfl : perm' = perm := Except.ok.inj (hm'.symm.trans hm)
  rw [sys.stateSize_eq] at hs hp
  exact ⟨t, perm', ht, hm, hs, hp, reorderNames_perm _ perm' hs hp, (Except.ok.inj h).symm⟩

theorem getSpeciesMap_ok_indexes {sys : SystemDecl α} {procs : List (Process α)} {reorder : Bool} {m : NameMap}
    (h : getSpeciesMap sys procs reorder = .ok m) (hn : sys.uniqueNames.Nodup) :
    ∃ names', names'.Perm sys.uniqueNames ∧ NmIndexes m names' ∧
      (reorder = false → names' = sys.uniqueNames) ∧
      (reorder = true → ∃ t perm, ProcessSet.build procs (nmOfNames sys.uniqueNames) = .ok t ∧
        markowitz sys.stateSize (jacPattern sys.stateSize t) = .ok perm ∧
        perm.size = sys.uniqueNames.length ∧ perm.toList.Perm (List.range sys.uniqueNames.length) ∧
        names' = reorderNames sys.uniqueNames perm) := by
  cases reorder with
  | false =>
    cases h
    exact ⟨_, List.Perm.refl _, NmIndexes.nmOfNames hn, (fun _ => rfl), (fun h => by cases h)⟩
  | true =>
    obtain ⟨t, perm, ht, hm, hs, hp, hperm, rfl⟩ := getSpeciesMap_true_ok h
    refine ⟨_, hperm, ?_, (fun h => by cases h), (fun _ => ⟨t, perm, ht, hm, hs, hp, rfl⟩)⟩
    exact NmIndexes.of_insertAll (NmIndexes.nmOfNames hn).sorted _
      (fun k hk => hperm.mem_iff.2 ((mem_nmKeys_nmOfNames _ k).1 hk)) (hperm.nodup_iff.2 hn)

theorem getSpeciesMap_ok_keys {sys : SystemDecl α} {procs : List (Process α)} {reorder : Bool} {m : NameMap}
    (h : getSpeciesMap sys procs reorder = .ok m) : ∀ k, k ∈ nmKeys m ↔ k ∈ sys.uniqueNames := by
  intro k
  cases reorder with
  | false =>
    cases h
    exact mem_nmKeys_nmOfNames _ k
  | true =>
    obtain ⟨-, perm, -, -, -, -, hperm, rfl⟩ := getSpeciesMap_true_ok h
    rw [mem_nmKeys_nmInsertAll, map_fst_zipIdx, mem_nmKeys_nmOfNames, hperm.mem_iff, or_self]

end Sys

section Tol
variable {α : Type}

def specAssigns (key : String → String) (sp : List (SpeciesDecl α)) : List (String × α) :=
  sp.filterMap fun s => s.atol.map fun v => (key s.name, v)

/-- the tolerance assignments in execution order -/
def tolAssigns (sys : SystemDecl α) : List (String × α) :=
  specAssigns id sys.gas ++ sys.phases.flatMap fun ph => specAssigns (fun n => ph.1 ++ "." ++ n) ph.2

def applyTol [OfNat α 0] (m : NameMap) : Array α → List (String × α) → Except Err (Array α)
  | tol, [] => .ok tol
  | tol, kv :: l => match nmLookup m kv.1 with
    | some i => applyTol m (wr tol i kv.2) l
    | none => .error .outOfRange

theorem specAssigns_keys_sublist (key : String → String) (sp : List (SpeciesDecl α))
    (h : ∀ s ∈ sp, s.atol.isSome = true → s.param = false) :
    ((specAssigns key sp).map (·.1)).Sublist ((phaseUnique sp).map key) := by
  induction sp with
  | nil => exact List.Sublist.slnil
  | cons s sp ih =>
    have ih := ih fun s' hs' => h s' (List.mem_cons_of_mem _ hs')
    unfold specAssigns phaseUnique at ih ⊢
    rw [List.filterMap_cons, List.filter_cons]
    cases ha : s.atol with
    | none =>
      simp only [Option.map_none]
      cases hp : s.param with
      | true => simpa using ih
      | false => simpa using List.Sublist.cons (key s.name) ih
    | some v =>
      have hp : s.param = false := h s List.mem_cons_self (by simp [ha])
      simpa [hp] using List.Sublist.cons_cons (key s.name) ih

def TolOnNonParam (sys : SystemDecl α) : Prop :=
  (∀ s ∈ sys.gas, s.atol.isSome = true → s.param = false) ∧
  ∀ ph ∈ sys.phases, ∀ s ∈ ph.2, s.atol.isSome = true → s.param = false

theorem tolAssigns_keys_sublist (sys : SystemDecl α) (h : TolOnNonParam sys) :
    ((tolAssigns sys).map (·.1)).Sublist sys.uniqueNames := by
  unfold tolAssigns SystemDecl.uniqueNames
  rw [List.map_append]
  apply List.Sublist.append
  · have := specAssigns_keys_sublist id sys.gas h.1
    simpa using this
  · have h2 := h.2
    generalize sys.phases = phs at h2
    induction phs with
    | nil => exact List.Sublist.slnil
    | cons ph phs ih =>
      rw [List.flatMap_cons, List.flatMap_cons, List.map_append]
      apply List.Sublist.append
      · exact specAssigns_keys_sublist _ ph.2 (h2 ph List.mem_cons_self)
      · exact ih fun ph' hph' => h2 ph' (List.mem_cons_of_mem _ hph')

variable [OfNat α 0]

theorem applyTol_append (m : NameMap) (tol : Array α) (l1 l2 : List (String × α)) :
    applyTol m tol (l1 ++ l2) = (applyTol m tol l1 >>= fun t => applyTol m t l2) := by
  induction l1 generalizing tol with
  | nil => rfl
  | cons kv l ih =>
    simp only [List.cons_append, applyTol]
    cases nmLookup m kv.1 with
    | none => rfl
    | some i => exact ih _

theorem foldlM_species (m : NameMap) (key : String → String) (sp : List (SpeciesDecl α)) (tol : Array α) :
    sp.foldlM (fun tol s =>
      match s.atol with
      | none => pure tol
      | some v => match nmLookup m (key s.name) with
        | some i => pure (wr tol i v)
        | none => throw Err.outOfRange) tol = applyTol m tol (specAssigns key sp) := by
  induction sp generalizing tol with
  | nil => rfl
  | cons s sp ih =>
    rw [List.foldlM_cons]
    unfold specAssigns
    rw [List.filterMap_cons]
    cases ha : s.atol with
    | none => simp only [Option.map_none]; exact ih tol
    | some v =>
      simp only [Option.map_some, applyTol]
      cases nmLookup m (key s.name) with
      | none => rfl
      | some i => exact ih _

theorem setAbsoluteTolerances_eq (dflt : α) (sys : SystemDecl α) (m : NameMap) :
    setAbsoluteTolerances dflt sys m = applyTol m (Array.replicate m.length dflt) (tolAssigns sys) := by
  unfold setAbsoluteTolerances tolAssigns
  rw [applyTol_append]
  simp only []
  -- `erw`: the `match`es in the model's loop body and in `foldlM_species` are compiled to separate auxiliary
  -- matchers, which agree only after unfolding
  erw [foldlM_species m id]
  congr 1
  funext tol
  induction sys.phases generalizing tol with
  | nil => rfl
  | cons ph phs ih =>
    rw [List.foldlM_cons, List.flatMap_cons, applyTol_append]
    erw [foldlM_species m (fun n => ph.1 ++ "." ++ n)]
    congr 1
    funext t
    exact ih t

theorem applyTol_size {m : NameMap} {tol r : Array α} {l : List (String × α)}
    (h : applyTol m tol l = .ok r) : r.size = tol.size := by
  induction l generalizing tol with
  | nil => cases h; rfl
  | cons kv l ih =>
    unfold applyTol at h
    cases hl : nmLookup m kv.1 with
    | none => rw [hl] at h; cases h
    | some i => rw [hl] at h; rw [ih h, wr_size]

theorem applyTol_error {m : NameMap} {tol : Array α} {l : List (String × α)} {e : Err}
    (h : applyTol m tol l = .error e) : e = .outOfRange := by
  induction l generalizing tol with
  | nil => cases h
  | cons kv l ih =>
    unfold applyTol at h
    cases hl : nmLookup m kv.1 with
    | none => rw [hl] at h; cases h; rfl
    | some i => rw [hl] at h; exact ih h

theorem applyTol_isOk_iff (m : NameMap) (tol : Array α) (l : List (String × α)) :
    (∃ r, applyTol m tol l = .ok r) ↔ ∀ kv ∈ l, kv.1 ∈ nmKeys m := by
  induction l generalizing tol with
  | nil => exact ⟨(fun _ _ h => by cases h), (fun _ => ⟨tol, rfl⟩)⟩
  | cons kv l ih =>
    unfold applyTol
    cases hl : nmLookup m kv.1 with
    | none =>
      have : kv.1 ∉ nmKeys m := (nmLookup_eq_none_iff m _).1 hl
      constructor
      · rintro ⟨r, h⟩; cases h
      · intro h; exact absurd (h kv List.mem_cons_self) this
    | some i =>
      have : kv.1 ∈ nmKeys m := (nmLookup_isSome_iff m _).1 (by simp [hl])
      simp only []
      rw [ih]
      constructor
      · intro h kv' hkv'
        rcases List.mem_cons.1 hkv' with h' | h'
        · rw [h']; exact this
        · exact h kv' h'
      · intro h kv' hkv'
        exact h kv' (List.mem_cons_of_mem _ hkv')

theorem applyTol_rd_of_not_mem {m : NameMap} {tol r : Array α} {l : List (String × α)} {i : Nat}
    (h : applyTol m tol l = .ok r) (hi : ∀ kv ∈ l, nmLookup m kv.1 ≠ some i) : rd r i = rd tol i := by
  induction l generalizing tol with
  | nil => cases h; rfl
  | cons kv l ih =>
    unfold applyTol at h
    cases hl : nmLookup m kv.1 with
    | none => rw [hl] at h; cases h
    | some j =>
      rw [hl] at h
      have hj : j ≠ i := fun hji => hi kv List.mem_cons_self (by rw [hl, hji])
      rw [ih h fun kv' hkv' => hi kv' (List.mem_cons_of_mem _ hkv'), rd_wr_ne _ _ _ _ hj]

theorem applyTol_rd_last {m : NameMap} {tol r : Array α} {l1 l2 : List (String × α)} {k : String} {v : α} {i : Nat}
    (h : applyTol m tol (l1 ++ (k, v) :: l2) = .ok r) (hk : nmLookup m k = some i) (hi : i < tol.size)
    (h2 : ∀ kv ∈ l2, nmLookup m kv.1 ≠ some i) : rd r i = v := by
  rw [applyTol_append] at h
  cases h1 : applyTol m tol l1 with
  | error e => rw [h1] at h; cases h
  | ok t1 =>
    rw [h1] at h
    have h' : applyTol m t1 ((k, v) :: l2) = .ok r := h
    unfold applyTol at h'
    simp only [hk] at h'
    rw [applyTol_rd_of_not_mem h' h2, rd_wr_same]
    rw [applyTol_size h1]; exact hi

end Tol

section Build
variable {α : Type}

/-- `build` with its tests in a row; the monadic steps are left as they are, for
    `Except.bind_eq_ok_iff` and `Except.ok_bind` -/
theorem build_eq [OfNat α 0] (dflt : α) (labelsOf : List (Process α) → List String) (b : BuildInput α) :
    build dflt labelsOf b =
      match b.system with
      | none => .error (.sys catBuilder 2)
      | some sys =>
        if (b.reactions.getD []).isEmpty then .error (.sys catBuilder 3)
        else if sys.stateSize = 0 then .error (.sys catBuilder 4)
        else getSpeciesMap sys (b.reactions.getD []) b.reorder >>= fun m =>
          if (!b.ignoreUnused && sys.uniqueNames.any fun s => !(speciesUsed (b.reactions.getD [])).contains s)
          then .error (.sys catBuilder 1)
          else (ProcessSet.build (b.reactions.getD []) m).mapError PSErr.toErr >>= fun t =>
            setAbsoluteTolerances dflt sys m >>= fun atol =>
            .ok { speciesMap := m,
                  variableNames := (List.range sys.stateSize).map fun i => ((m.find? (·.2 == i)).map (·.1)).getD "",
                  nSpecies := sys.stateSize, labels := labelsOf (b.reactions.getD []),
                  tables := t, nonZero := t.nonZeroJacobianElements, atol := atol } := by
  unfold build
  cases b.system with
  | none => rfl
  | some sys =>
    refine ite_congr rfl (fun _ => rfl) fun _ => ite_congr rfl (fun _ => rfl) fun _ => bind_congr fun m => ?_
    cases b.ignoreUnused with
    | true => rfl
    | false => exact (if_pos rfl).trans (ite_congr rfl (fun _ => rfl) fun _ => rfl)

/-- in the order of the source: processes in order, within a process reactants before products -/
def unknownIn (names : List String) (procs : List (Process α)) : List PSErr :=
  procs.flatMap fun p =>
    (p.reactants.filterMap fun r =>
      if !r.param && !names.contains r.name then some (PSErr.reactantDoesNotExist r.name) else none) ++
    (p.products.filterMap fun q =>
      if !q.1.param && !names.contains q.1.name then some (PSErr.productDoesNotExist q.1.name) else none)

theorem unknownNames_eq_unknownIn {m : NameMap} {names : List String} (hk : ∀ k, k ∈ nmKeys m ↔ k ∈ names)
    (procs : List (Process α)) : unknownNames m procs = unknownIn names procs := by
  have key : ∀ k, (nmLookup m k).isNone = !names.contains k := by
    intro k
    by_cases h : k ∈ names
    · have := (nmLookup_isSome_iff m k).2 ((hk k).2 h)
      cases hl : nmLookup m k <;> simp_all
    · have := (nmLookup_eq_none_iff m k).2 (fun h' => h ((hk k).1 h'))
      simp [this, h]
  unfold unknownNames unknownIn unknownReactants unknownProducts
  congr 1
  funext p
  congr 1
  · congr 1
    funext r
    rw [key]
    cases r.param <;> cases names.contains r.name <;> rfl
  · congr 1
    funext r
    rw [key]
    cases r.1.param <;> cases names.contains r.1.name <;> rfl

theorem PSErr.toErr_cases (e : PSErr) : e.toErr = .sys catProcessSet 1 ∨ e.toErr = .sys catProcessSet 2 := by
  cases e
  · exact .inl rfl
  · exact .inr rfl

/-- the outcome of `build` (`none` = success), in the order in which the source performs the checks -/
def buildOutcome (b : BuildInput α) : Option Err :=
  match b.system with
  | none => some (.sys catBuilder 2)
  | some sys =>
    if (b.reactions.getD []).isEmpty then some (.sys catBuilder 3)
    else if sys.stateSize = 0 then some (.sys catBuilder 4)
    else match (if b.reorder then (unknownIn sys.uniqueNames (b.reactions.getD [])).head? else none) with
      | some e => some e.toErr
      | none =>
        if (!b.ignoreUnused && sys.uniqueNames.any fun s => !(speciesUsed (b.reactions.getD [])).contains s)
        then some (.sys catBuilder 1)
        else match (unknownIn sys.uniqueNames (b.reactions.getD [])).head? with
          | some e => some e.toErr
          | none =>
            if (tolAssigns sys).all (fun kv => sys.uniqueNames.contains kv.1) then none else some .outOfRange

theorem buildOutcome_leaf (b : BuildInput α) :
    (∃ c, c ∈ [1, 2, 3, 4] ∧ buildOutcome b = some (.sys catBuilder c)) ∨
    (∃ e : PSErr, buildOutcome b = some e.toErr) ∨ buildOutcome b = some .outOfRange ∨
    buildOutcome b = none := by
  unfold buildOutcome
  cases b.system with
  | none => exact .inl ⟨2, by decide, rfl⟩
  | some sys =>
    simp only []
    by_cases h1 : (b.reactions.getD []).isEmpty = true
    · rw [if_pos h1]; exact .inl ⟨3, by decide, rfl⟩
    by_cases h2 : sys.stateSize = 0
    · rw [if_neg h1, if_pos h2]; exact .inl ⟨4, by decide, rfl⟩
    rw [if_neg h1, if_neg h2]
    cases (if b.reorder = true then (unknownIn sys.uniqueNames (b.reactions.getD [])).head? else none) with
    | some e => exact .inr (.inl ⟨e, rfl⟩)
    | none =>
      simp only []
      cases (!b.ignoreUnused && sys.uniqueNames.any fun s => !(speciesUsed (b.reactions.getD [])).contains s) with
      | true => exact .inl ⟨1, by decide, rfl⟩
      | false =>
        cases (unknownIn sys.uniqueNames (b.reactions.getD [])).head? with
        | some e => exact .inr (.inl ⟨e, rfl⟩)
        | none =>
          cases ((tolAssigns sys).all fun kv => sys.uniqueNames.contains kv.1) with
          | true => exact .inr (.inr (.inr rfl))
          | false => exact .inr (.inr (.inl rfl))

theorem SystemDecl.stateSize_ne_zero {sys : SystemDecl α} (h0 : sys.uniqueNames ≠ []) : sys.stateSize ≠ 0 := by
  rw [sys.stateSize_eq]
  exact fun h => h0 (List.eq_nil_of_length_eq_zero h)

theorem buildOutcome_of_sys {b : BuildInput α} {sys : SystemDecl α} (hs : b.system = some sys)
    (hr : b.reactions.getD [] ≠ []) (h0 : sys.uniqueNames ≠ []) :
    buildOutcome b =
      match (if b.reorder then (unknownIn sys.uniqueNames (b.reactions.getD [])).head? else none) with
      | some e => some e.toErr
      | none =>
        if (!b.ignoreUnused && sys.uniqueNames.any fun s => !(speciesUsed (b.reactions.getD [])).contains s)
        then some (.sys catBuilder 1)
        else match (unknownIn sys.uniqueNames (b.reactions.getD [])).head? with
          | some e => some e.toErr
          | none =>
            if (tolAssigns sys).all (fun kv => sys.uniqueNames.contains kv.1) then none else some .outOfRange := by
  unfold buildOutcome
  rw [hs]
  simp only []
  rw [if_neg (by simpa using hr), if_neg (SystemDecl.stateSize_ne_zero h0)]

theorem unusedCheck_eq_false_iff (ignore : Bool) (names used : List String) :
    (!ignore && names.any fun s => !used.contains s) = false ↔ ignore = true ∨ ∀ s ∈ names, s ∈ used := by
  cases ignore <;> simp

theorem tolCheck_eq_true_iff (names : List String) (l : List (String × α)) :
    (l.all fun kv => names.contains kv.1) = true ↔ ∀ kv ∈ l, kv.1 ∈ names := by
  simp

theorem psBuild_outcome {m : NameMap} {names : List String} (hk : ∀ k, k ∈ nmKeys m ↔ k ∈ names)
    (procs : List (Process α)) :
    match (unknownIn names procs).head? with
    | some e => ProcessSet.build procs m = .error e
    | none => ∃ t, ProcessSet.build procs m = .ok t := by
  rw [← unknownNames_eq_unknownIn hk]
  cases h : (unknownNames m procs).head? with
  | some e =>
    exact (ProcessSet.build_error_iff m procs e).2 ((buildForcing_error_iff m procs e).2 h)
  | none =>
    have : unknownNames m procs = [] := List.head?_eq_none_iff.1 h
    exact (ProcessSet.build_isOk_iff m procs).2 ((buildForcing_isOk_iff m procs).2 this)

theorem getSpeciesMap_outcome (sys : SystemDecl α) (procs : List (Process α)) (reorder : Bool)
    (h0 : sys.stateSize ≠ 0) :
    match (if reorder then (unknownIn sys.uniqueNames procs).head? else none) with
    | some e => getSpeciesMap sys procs reorder = .error e.toErr
    | none => ∃ m, getSpeciesMap sys procs reorder = .ok m := by
  cases reorder with
  | false => exact ⟨_, getSpeciesMap_false sys procs⟩
  | true =>
    simp only [if_true]
    have := psBuild_outcome (mem_nmKeys_nmOfNames sys.uniqueNames) procs
    rw [getSpeciesMap_true]
    cases hh : (unknownIn sys.uniqueNames procs).head? with
    | some e =>
      rw [hh] at this
      simp only [] at this ⊢
      rw [this]
      rfl
    | none =>
      rw [hh] at this
      obtain ⟨t, ht⟩ := this
      obtain ⟨perm, hm, -, -⟩ := markowitz_perm sys.stateSize (jacPattern sys.stateSize t) (by omega)
      rw [ht, Except.mapError, Except.ok_bind, hm]
      exact ⟨_, rfl⟩

theorem setAbsoluteTolerances_outcome [OfNat α 0] (dflt : α) (sys : SystemDecl α) {m : NameMap}
    (hk : ∀ k, k ∈ nmKeys m ↔ k ∈ sys.uniqueNames) :
    ((tolAssigns sys).all (fun kv => sys.uniqueNames.contains kv.1) = true →
      ∃ a, setAbsoluteTolerances dflt sys m = .ok a) ∧
    ((tolAssigns sys).all (fun kv => sys.uniqueNames.contains kv.1) = false →
      setAbsoluteTolerances dflt sys m = .error .outOfRange) := by
  rw [setAbsoluteTolerances_eq]
  have hiff := applyTol_isOk_iff m (Array.replicate m.length dflt) (tolAssigns sys)
  refine ⟨fun h => hiff.2 fun kv hkv => (hk _).2 ((tolCheck_eq_true_iff _ _).1 h kv hkv), fun h => ?_⟩
  cases hr : applyTol m (Array.replicate m.length dflt) (tolAssigns sys) with
  | error e => rw [applyTol_error hr]
  | ok r =>
    rw [(tolCheck_eq_true_iff _ _).2 fun kv hkv => (hk _).1 (hiff.1 ⟨r, hr⟩ kv hkv)] at h
    cases h

theorem build_outcome [OfNat α 0] (dflt : α) (labelsOf : List (Process α) → List String) (b : BuildInput α) :
    match buildOutcome b with
    | some e => build dflt labelsOf b = .error e
    | none => ∃ r, build dflt labelsOf b = .ok r := by
  rw [build_eq]
  unfold buildOutcome
  cases b.system with
  | none => rfl
  | some sys =>
    simp only []
    by_cases h1 : (b.reactions.getD []).isEmpty = true
    · rw [if_pos h1, if_pos h1]
    by_cases h2 : sys.stateSize = 0
    · rw [if_neg h1, if_neg h1, if_pos h2, if_pos h2]
    rw [if_neg h1, if_neg h1, if_neg h2, if_neg h2]
    have hg := getSpeciesMap_outcome sys (b.reactions.getD []) b.reorder h2
    cases hu : (if b.reorder = true then (unknownIn sys.uniqueNames (b.reactions.getD [])).head? else none) with
    | some e =>
      rw [hu] at hg
      simp only [] at hg ⊢
      rw [hg, Except.error_bind]
    | none =>
      rw [hu] at hg
      obtain ⟨m, hm⟩ := hg
      have hk := getSpeciesMap_ok_keys hm
      rw [hm, Except.ok_bind]
      simp only []
      cases (!b.ignoreUnused && sys.uniqueNames.any fun s => !(speciesUsed (b.reactions.getD [])).contains s) with
      | true => rfl
      | false =>
        rw [if_neg Bool.false_ne_true, if_neg Bool.false_ne_true]
        have hp := psBuild_outcome hk (b.reactions.getD [])
        cases hu2 : (unknownIn sys.uniqueNames (b.reactions.getD [])).head? with
        | some e =>
          rw [hu2] at hp
          simp only [] at hp ⊢
          rw [hp]
          rfl
        | none =>
          rw [hu2] at hp
          obtain ⟨t, ht⟩ := hp
          rw [ht]
          simp only []
          have hs := setAbsoluteTolerances_outcome dflt sys hk
          cases hc : ((tolAssigns sys).all fun kv => sys.uniqueNames.contains kv.1) with
          | true =>
            obtain ⟨a, ha⟩ := hs.1 hc
            rw [ha]
            exact ⟨_, rfl⟩
          | false => rw [hs.2 hc]; rfl

theorem build_ok_fields [OfNat α 0] {dflt : α} {labelsOf : List (Process α) → List String} {inp : BuildInput α}
    {b : Built α} {sys : SystemDecl α} (h : build dflt labelsOf inp = .ok b) (hsys : inp.system = some sys) :
    (inp.reactions.getD []).isEmpty = false ∧ sys.stateSize ≠ 0 ∧
      getSpeciesMap sys (inp.reactions.getD []) inp.reorder = .ok b.speciesMap ∧
      ProcessSet.build (inp.reactions.getD []) b.speciesMap = .ok b.tables ∧
      setAbsoluteTolerances dflt sys b.speciesMap = .ok b.atol ∧
      b.variableNames = ((List.range sys.stateSize).map fun i => ((b.speciesMap.find? (·.2 == i)).map (·.1)).getD "") ∧
      b.nSpecies = sys.stateSize ∧ b.nonZero = b.tables.nonZeroJacobianElements ∧
      b.labels = labelsOf (inp.reactions.getD []) := by
  rw [build_eq, hsys] at h
  simp only [] at h
  by_cases h1 : (inp.reactions.getD []).isEmpty = true
  · rw [if_pos h1] at h; cases h
  by_cases h2 : sys.stateSize = 0
  · rw [if_neg h1, if_pos h2] at h; cases h
  rw [if_neg h1, if_neg h2] at h
  obtain ⟨m, hg, h⟩ := Except.bind_eq_ok_iff.1 h
  split at h
  · cases h
  obtain ⟨t, hp, h⟩ := Except.mapError_bind_eq_ok h
  obtain ⟨atol, ha, h⟩ := Except.bind_eq_ok_iff.1 h
  cases h
  exact ⟨by simpa using h1, h2, hg, hp, ha, rfl, rfl, rfl, rfl⟩

end Build

end Micm
