/-
Lemmas for C13 (lane theorem, forcing): one group of the flat forcing kernel of
`Micm/Model/FlatKernels.lean` (`forcingVecGo`, with its `L`-lane rate buffer), seen through one lane,
is the per-cell kernel `forcingGo`, and it writes only its own lanes; the row-major kernel
`forcingRowGo` is the same program with one lane of stride 1.  Method: `Micm/Lemmas/LaneView.lean`.
-/
import Micm.Model.FlatKernels
import Micm.Lemmas.LaneView
namespace Micm

section Kernels
variable {α : Type} [OfNat α 0] [Add α] [Sub α] [Mul α]

omit [Add α] [Sub α] in
theorem foldl_rate_congr {Y y : Array α} {q : Nat → Nat} {n : Nat} (hY : Reads n q Y y)
    (rs : List Nat) (hr : ∀ i ∈ rs, i < n) (k : α) :
    rs.foldl (fun acc i => acc * rd Y (q i)) k = rs.foldl (fun acc i => acc * rd y i) k := by
  induction rs generalizing k with
  | nil => rfl
  | cons i rs ih =>
    simp only [List.foldl_cons]
    rw [hY i (hr i List.mem_cons_self), ih (fun j hj => hr j (List.mem_cons_of_mem _ hj))]

omit [OfNat α 0] [Add α] [Sub α] [Mul α] in
theorem zip_take_fst_lt {n np : Nat} {pids : List Nat} {ylds : List α} (hp : ∀ i ∈ pids, i < n) :
    ∀ b ∈ (pids.take np).zip (ylds.take np), b.1 < n := by
  intro b hb
  exact hp _ (List.mem_of_mem_take (List.of_mem_zip (a := b.1) (b := b.2) hb).1)

omit [Add α] [Sub α] [Mul α] in
theorem rd_lanes_buffer (φ : Nat → α → α) (L m : Nat) (hm : m < L) (A : Array α) (hA : A.size = L) :
    rd ((List.range L).foldl (fun A l => wr A l (φ l (rd A l))) A) m = φ m (rd A m) := by
  rw [foldl_rmw_rd φ (List.range L) A List.nodup_range m, if_pos ⟨List.mem_range.mpr hm, hA ▸ hm⟩]

omit [Add α] [Sub α] in
/-- lane `m` of the rate buffer after the `rate[l] *= Y[…]` loops is the scalar rate product -/
theorem rate_fold (L : Nat) (Y : Array α) (offY : Nat) (rs : List Nat) (rate0 : Array α) (m : Nat)
    (hm : m < L) (hsz : rate0.size = L) :
    rd (rs.foldl (fun rate i => (List.range L).foldl
        (fun rate l => wr rate l (rd rate l * rd Y (offY + i * L + l))) rate) rate0) m
      = rs.foldl (fun acc i => acc * rd Y (offY + i * L + m)) (rd rate0 m) := by
  induction rs generalizing rate0 with
  | nil => rfl
  | cons i rs ih =>
    simp only [List.foldl_cons]
    rw [ih _ ((foldl_size_of_step _ (fun _ _ => wr_size _ _ _) _ rate0).trans hsz)]
    congr 1
    exact rd_lanes_buffer (fun l x => x * rd Y (offY + i * L + l)) L m hm rate0 hsz

theorem forcingVecRxn_view (L m : Nat) (hm : m < L) (Y y : Array α) (offY n : Nat)
    (hY : Reads n (fun j => offY + j * L + m) Y y)
    (rs : List Nat) (ps : List (Nat × α)) (hr : ∀ i ∈ rs, i < n) (hp : ∀ b ∈ ps, b.1 < n)
    (rate0 : Array α) (hsz : rate0.size = L) (F f : Array α)
    (h : View n (fun j => offY + j * L + m) F f) :
    View n (fun j => offY + j * L + m) (forcingVecRxn L Y offY rs ps rate0 F)
      (ps.foldl (fun f p => wr f p.1 (rd f p.1 + p.2 * rs.foldl (fun acc i => acc * rd y i) (rd rate0 m)))
        (rs.foldl (fun f i => wr f i (rd f i - rs.foldl (fun acc i => acc * rd y i) (rd rate0 m))) f)) := by
  unfold forcingVecRxn
  simp only
  rw [← foldl_rate_congr hY rs hr, ← rate_fold L Y offY rs rate0 m hm hsz]
  refine View.foldl _ _ ps (fun p hp' X x hX => ?_) (View.foldl _ _ rs (fun i hi X x hX => ?_) h)
  · refine View.lanes_step L L m offY hm (Nat.le_refl L) p.1 (hp p hp')
      (fun F l => rd F (offY + p.1 * L + l) + p.2 * rd _ l) (fun f => rd f p.1 + p.2 * rd _ m) ?_ hX
    intro F f hF
    rw [hF.val p.1 (hp p hp')]
  · refine View.lanes_step L L m offY hm (Nat.le_refl L) i (hr i hi)
      (fun F l => rd F (offY + i * L + l) - rd _ l) (fun f => rd f i - rd _ m) ?_ hX
    intro F f hF
    rw [hF.val i (hr i hi)]

theorem forcingVecRxn_keeps (S : Nat → Prop) (L : Nat) (Y : Array α) (offY : Nat) (rs : List Nat)
    (ps : List (Nat × α)) (rate0 F : Array α) (hr : ∀ i ∈ rs, S i) (hp : ∀ b ∈ ps, S b.1) :
    Keeps S L L offY F (forcingVecRxn L Y offY rs ps rate0 F) := by
  unfold forcingVecRxn
  simp only
  exact (Keeps.foldl _ rs (fun i hi X => Keeps.lanes S L L offY i (hr i hi) _ X) F).trans
    (Keeps.foldl _ ps (fun p hp' X => Keeps.lanes S L L offY p.1 (hp p hp') _ X) _)

theorem forcingVecGo_view (L m : Nat) (hm : m < L) (Y K y : Array α) (offK offY n : Nat)
    (hY : Reads n (fun j => offY + j * L + m) Y y)
    (nrs nps rids pids : List Nat) (ylds : List α) (iRxn len : Nat)
    (hlen : min nrs.length nps.length ≤ len)
    (hr : ∀ i ∈ rids, i < n) (hp : ∀ i ∈ pids, i < n) (F f : Array α)
    (h : View n (fun j => offY + j * L + m) F f) :
    View n (fun j => offY + j * L + m) (forcingVecGo L Y K offK offY nrs nps rids pids ylds iRxn F)
      (forcingGo y nrs nps rids pids ylds
        ((List.range' iRxn len).map fun q => rd K (offK + q * L + m)) f) := by
  induction nrs generalizing nps rids pids ylds iRxn len F f with
  | nil => simp only [forcingVecGo, forcingGo]; exact h
  | cons nr nrs ih =>
    cases nps with
    | nil => simp only [forcingVecGo, forcingGo]; exact h
    | cons np nps =>
      cases len with
      | zero => simp at hlen
      | succ len =>
        rw [List.range'_succ, List.map_cons]
        simp only [forcingVecGo, forcingGo]
        apply ih
        · simp only [List.length_cons] at hlen; omega
        · exact fun i hi => hr i (List.mem_of_mem_drop hi)
        · exact fun i hi => hp i (List.mem_of_mem_drop hi)
        · have hv := forcingVecRxn_view L m hm Y y offY n hY (rids.take nr)
            ((pids.take np).zip (ylds.take np)) (fun i hi => hr i (List.mem_of_mem_take hi))
            (zip_take_fst_lt hp)
            ((List.range L).map fun l => rd K (offK + iRxn * L + l)).toArray (by simp) F f h
          rw [rd_map_range _ _ _ hm] at hv
          exact hv

theorem forcingVecGo_keeps (S : Nat → Prop) (L : Nat) (Y K : Array α) (offK offY : Nat)
    (nrs nps rids pids : List Nat) (ylds : List α) (iRxn : Nat) (F : Array α) (hr : ∀ i ∈ rids, S i)
    (hp : ∀ i ∈ pids, S i) :
    Keeps S L L offY F (forcingVecGo L Y K offK offY nrs nps rids pids ylds iRxn F) := by
  induction nrs generalizing nps rids pids ylds iRxn F with
  | nil => simp only [forcingVecGo]; exact Keeps.refl ..
  | cons nr nrs ih =>
    cases nps with
    | nil => simp only [forcingVecGo]; exact Keeps.refl ..
    | cons np nps =>
      simp only [forcingVecGo]
      exact (forcingVecRxn_keeps S L Y offY _ _ _ F (fun i hi => hr i (List.mem_of_mem_take hi))
          (fun b hb => hp _ (List.mem_of_mem_take (List.of_mem_zip (a := b.1) (b := b.2) hb).1))).trans
        (ih _ _ _ _ _ _ (fun i hi => hr i (List.mem_of_mem_drop hi)) (fun i hi => hp i (List.mem_of_mem_drop hi)))

theorem forcingRowGo_eq_vec (Y K : Array α) (offK offY : Nat) (nrs nps rids pids : List Nat)
    (ylds : List α) (iRxn : Nat) (F : Array α) :
    forcingRowGo Y K offK offY nrs nps rids pids ylds iRxn F
      = forcingVecGo 1 Y K offK offY nrs nps rids pids ylds iRxn F := by
  induction nrs generalizing nps rids pids ylds iRxn F with
  | nil => simp only [forcingRowGo, forcingVecGo]
  | cons nr nrs ih =>
    cases nps with
    | nil => simp only [forcingRowGo, forcingVecGo]
    | cons np nps =>
      simp only [forcingRowGo, forcingVecGo, forcingVecRxn]
      -- the one-lane rate buffer holds the scalar rate
      have hrate := rate_fold 1 Y offY (rids.take nr)
        ((List.range 1).map fun l => rd K (offK + iRxn * 1 + l)).toArray 0 Nat.zero_lt_one (by simp)
      rw [rd_map_range _ _ _ Nat.zero_lt_one] at hrate
      simp only [List.range_one, List.foldl_cons, List.foldl_nil, Nat.mul_one, Nat.add_zero] at hrate ⊢
      rw [hrate]
      exact ih ..

omit [Add α] [Sub α] [Mul α] in
theorem sparseRow_toList (L n : Nat) (K : Array α) (c : Nat) :
    (sparseRow L n K c).toList = (List.range' 0 n).map fun q => rd K (slot L n c q) := by
  simp [sparseRow, List.range_eq_range']

end Kernels

end Micm
