import Micm.Lemmas.LUCellSymbolic
import Micm.Lemmas.LUCellMozart
import Micm.Lemmas.LUCellSymbolicMozart
import Micm.Lemmas.SparseIndex

/-!
Bridge between the abstract hypotheses of the C03/C04 cell theorems (`GoodPattern`, `LUSetup`,
`IPSetup`) and the concrete patterns built by `Pattern.mk'` / `LinAlg.build`, using the sparse
addressing facts of `Micm/Lemmas/SparseIndex.lean` (`Pattern.Good`, `good_mk`, `mem_key_mk`).
-/
open Finset
namespace Micm

theorem zero?_false_iff_rank (p : Pattern) (r c : Nat) :
    p.zero? r c = false ↔ ∃ k, p.rank r c = .ok k := by
  unfold Pattern.zero?
  split
  · next k hk => simp [hk]
  · next e he => simp [he]

theorem GoodPattern_of_Good {p : Pattern} (h : p.Good) (n : Nat) : GoodPattern n p where
  rk_lt := by
    intro r c _ _ hp
    obtain ⟨k, hk⟩ := (zero?_false_iff_rank p r c).mp hp
    rw [Pattern.rank_ok_rk _ _ _ _ hk]
    exact h.rank_lt hk
  rk_inj := by
    intro r c r' c' _ _ _ _ hp hp' heq
    obtain ⟨k, hk⟩ := (zero?_false_iff_rank p r c).mp hp
    obtain ⟨k', hk'⟩ := (zero?_false_iff_rank p r' c').mp hp'
    rw [Pattern.rank_ok_rk _ _ _ _ hk, Pattern.rank_ok_rk _ _ _ _ hk'] at heq
    subst heq
    exact h.rank_inj hk hk'

theorem Pattern.Good.zero?_false_iff {p : Pattern} (h : p.Good) (r c : Nat) :
    p.zero? r c = false ↔ p.key r c ∈ p.elems := by
  rw [zero?_false_iff_rank]
  constructor
  · rintro ⟨k, hk⟩
    exact List.mem_of_getElem? ((h.rank_ok r c k).mp hk)
  · intro hm
    obtain ⟨k, hk⟩ := List.mem_iff_getElem?.mp hm
    exact ⟨k, (h.rank_ok r c k).mpr hk⟩

theorem zero?_mk_iff {n : Nat} {set : List Pair} (hw : WF n set) (csc : Bool) (L : Nat) (r c : Nat) :
    (Pattern.mk' n csc L set).zero? r c = false ↔ (r, c) ∈ set :=
  ((good_mk hw csc L).zero?_false_iff r c).trans (mem_key_mk n csc L set r c)

theorem sorted_fillFold (n i : Nat) (a : Nat → Bool) (pos : Nat → Pair)
    (fill : List Pair → Nat → Nat → Bool) (S0 : List Pair) (h : PairSorted S0) :
    PairSorted (fillFold n i a pos fill S0) := by
  refine foldl_inv PairSorted _ _ (fun k _ S hS => ?_) h
  split
  · exact sorted_setInsert _ _ hS
  · split
    · exact sorted_setInsert _ _ hS
    · exact hS

theorem wf_doolittleSymbolic (n : Nat) (az : Nat → Nat → Bool) :
    WF n (doolittleSymbolic n az).1 ∧ WF n (doolittleSymbolic n az).2 := by
  have hinv := doolittleSymbolic_inv n az
  have hs : PairSorted (doolittleSymbolic n az).1 ∧ PairSorted (doolittleSymbolic n az).2 := by
    rw [doolittleSymbolic_eq]
    have : ∀ (l : List Nat) (LU : List Pair × List Pair), PairSorted LU.1 ∧ PairSorted LU.2 →
        PairSorted (l.foldl (symStep n az) LU).1 ∧ PairSorted (l.foldl (symStep n az) LU).2 := by
      intro l
      induction l with
      | nil => intro LU h; exact h
      | cons i l ih =>
        intro LU h
        apply ih
        exact ⟨sorted_fillFold _ _ _ _ _ _ h.1, sorted_fillFold _ _ _ _ _ _ h.2⟩
    exact this _ _ ⟨List.Pairwise.nil, List.Pairwise.nil⟩
  refine ⟨⟨hs.1, ?_⟩, ⟨hs.2, ?_⟩⟩
  · intro e he
    obtain ⟨g1, g2, g3, _⟩ := (hinv.L_iff e.1 e.2).mp he
    omega
  · intro e he
    obtain ⟨g1, g2, g3, _⟩ := (hinv.U_iff e.1 e.2).mp he
    omega

theorem wf_doolittleInPlaceSymbolic (n : Nat) (az : Nat → Nat → Bool) :
    WF n (doolittleInPlaceSymbolic n az) := by
  refine ⟨?_, ?_⟩
  · rw [doolittleInPlaceSymbolic_eq]
    refine foldl_inv PairSorted _ _ (fun i _ S hS => ?_) List.Pairwise.nil
    exact sorted_fillFold _ _ _ _ _ _ (sorted_fillFold _ _ _ _ _ _ hS)
  · intro e he
    obtain ⟨_, g2, g3, _⟩ := (doolittleInPlaceSymbolic_inv n az e.1 e.2).mp he
    exact ⟨g2, g3⟩

/-- any storage order of `jac`, `L` and `U`: the order of a pattern only enters through `Pattern.mk'`, and
    `good_mk`, `zero?_mk_iff` hold for every `csc` flag -/
theorem LUSetup_buildMixed (jac : Pattern) (cscL cscU : Bool) :
    LUSetup jac.n jac (LinAlg.buildMixed .doolittle jac cscL cscU).Lp
      (LinAlg.buildMixed .doolittle jac cscL cscU).Up := by
  have hwf := wf_doolittleSymbolic jac.n (fun r c => jac.zero? r c)
  exact LUSetup_of_symbolic jac.n _ _ _
    (GoodPattern_of_Good (good_mk hwf.1 cscL jac.L) jac.n)
    (GoodPattern_of_Good (good_mk hwf.2 cscU jac.L) jac.n)
    (fun r c _ _ => zero?_mk_iff hwf.1 cscL jac.L r c)
    (fun r c _ _ => zero?_mk_iff hwf.2 cscU jac.L r c)

/-- `LinAlg.build .doolittle` is the case where `L` and `U` use the Jacobian's order -/
theorem LUSetup_build (jac : Pattern) :
    LUSetup jac.n (LinAlg.build .doolittle jac).A (LinAlg.build .doolittle jac).Lp
      (LinAlg.build .doolittle jac).Up :=
  LUSetup_buildMixed jac jac.csc jac.csc

theorem IPSetup_build (jac : Pattern) :
    IPSetup jac.n (LinAlg.build .doolittleInPlace jac).A := by
  have hwf := wf_doolittleInPlaceSymbolic jac.n (fun r c => jac.zero? r c)
  exact IPSetup_of_symbolic jac.n _ _ (GoodPattern_of_Good (good_mk hwf jac.csc jac.L) jac.n)
    (fun r c _ _ => zero?_mk_iff hwf jac.csc jac.L r c)

theorem build_doolittle_tables (jac : Pattern) :
    (LinAlg.build .doolittle jac).A = jac ∧
    (LinAlg.build .doolittle jac).dRows
      = doolittleRows jac (LinAlg.build .doolittle jac).Lp (LinAlg.build .doolittle jac).Up ∧
    ((LinAlg.build .doolittle jac).fw, (LinAlg.build .doolittle jac).bw)
      = solverRows (LinAlg.build .doolittle jac).Lp (LinAlg.build .doolittle jac).Up :=
  ⟨rfl, rfl, rfl⟩

theorem build_doolittleInPlace_tables (jac : Pattern) :
    (LinAlg.build .doolittleInPlace jac).diRows
      = doolittleInPlaceRows (LinAlg.build .doolittleInPlace jac).A ∧
    (LinAlg.build .doolittleInPlace jac).A.n = jac.n ∧
    ((LinAlg.build .doolittleInPlace jac).fw, (LinAlg.build .doolittleInPlace jac).bw)
      = solverRows (LinAlg.build .doolittleInPlace jac).A (LinAlg.build .doolittleInPlace jac).A :=
  ⟨rfl, rfl, rfl⟩

/-- so loading `A` into the in-place pattern loses nothing -/
theorem build_inplace_support {n : Nat} {set : List Pair} (hw : WF n set) (csc : Bool) (L : Nat)
    (r c : Nat) (hr : r < n) (hc : c < n) (h : (r, c) ∈ set) :
    (LinAlg.build .doolittleInPlace (Pattern.mk' n csc L set)).A.zero? r c = false := by
  have hwf := wf_doolittleInPlaceSymbolic n (fun r c => (Pattern.mk' n csc L set).zero? r c)
  exact (zero?_mk_iff hwf csc L r c).mpr
    (doolittleInPlaceSymbolic_support n _ r c hr hc ((zero?_mk_iff hw csc L r c).mpr h))

theorem sorted_insert_if {β : Type} (ks : List β) (c : List Pair → β → Bool) (p : β → Pair)
    (S0 : List Pair) (h0 : PairSorted S0) :
    PairSorted (ks.foldl (fun S j => if c S j then setInsert (p j) S else S) S0) := by
  refine foldl_inv PairSorted _ _ (fun k _ S hS => ?_) h0
  split
  · exact sorted_setInsert _ _ hS
  · exact hS

theorem sorted_mipStage (n : Nat) (S : List Pair) (i : Nat) (h : PairSorted S) :
    PairSorted (mipStage n S i) := by
  refine foldl_inv PairSorted _ _ (fun k _ S hS => ?_) h
  split
  · exact sorted_insert_if _ (fun S j => setMem (j, i) S) (fun j => (j, k)) _ hS
  · exact hS

theorem wf_mozartInPlaceSymbolic (n : Nat) (az : Nat → Nat → Bool) :
    WF n (mozartInPlaceSymbolic n az) := by
  refine ⟨?_, ?_⟩
  · rw [mozartInPlaceSymbolic_eq]
    refine foldl_inv PairSorted _ _ (fun i _ S hS => sorted_mipStage n S i hS) ?_
    unfold mipInit
    refine foldl_inv PairSorted _ _ (fun i _ S hS => ?_) List.Pairwise.nil
    exact sorted_insert_if _ (fun _ j => !az i j) (fun j => (i, j)) _ hS
  · intro e he
    exact mozartInPlaceSymbolic_range n az e.1 e.2 he

theorem sorted_msK (n i : Nat) (LU : List Pair × List Pair) (k : Nat)
    (h : PairSorted LU.1 ∧ PairSorted LU.2) :
    PairSorted (msK n i LU k).1 ∧ PairSorted (msK n i LU k).2 := by
  unfold msK
  split
  · exact h
  · exact ⟨sorted_insert_if _ (fun S j => setMem (j, i) S) (fun j => (j, k)) _ h.1,
      sorted_insert_if _ (fun _ j => setMem (j, i) LU.1) (fun j => (j, k)) _ h.2⟩

theorem wf_mozartSymbolic (n : Nat) (az : Nat → Nat → Bool) :
    WF n (mozartSymbolic n az).1 ∧ WF n (mozartSymbolic n az).2 := by
  have hp := mozartSymbolic_props n az
  have hs : PairSorted (mozartSymbolic n az).1 ∧ PairSorted (mozartSymbolic n az).2 := by
    rw [mozartSymbolic_eq]
    refine foldl_inv (fun S : List Pair × List Pair => PairSorted S.1 ∧ PairSorted S.2) _ _
      (fun i _ S hS => ?_) ⟨?_, ?_⟩
    · unfold msStage
      exact foldl_inv (fun S : List Pair × List Pair => PairSorted S.1 ∧ PairSorted S.2) _ _
        (fun k _ S hS => sorted_msK n i S k hS)
        ⟨sorted_insert_if _ (fun _ j => !az j i) (fun j => (j, i)) _ hS.1, hS.2⟩
    · refine foldl_inv PairSorted _ _ (fun i _ S hS => ?_) List.Pairwise.nil
      exact sorted_insert_if _ (fun _ j => !az i j) (fun j => (i, j)) _
        (sorted_setInsert _ _ hS)
    · refine foldl_inv PairSorted _ _ (fun i _ S hS => ?_) List.Pairwise.nil
      exact sorted_insert_if _ (fun _ j => !az i j) (fun j => (i, j)) _ hS
  refine ⟨⟨hs.1, ?_⟩, ⟨hs.2, ?_⟩⟩
  · intro e he
    have := hp.L_shape e.1 e.2 he
    omega
  · intro e he
    have := hp.U_shape e.1 e.2 he
    omega

theorem MozSetup_buildMixed (jac : Pattern) (cscL cscU : Bool)
    (hdiag : ∀ i, i < jac.n → jac.zero? i i = false) :
    MozSetup jac.n jac (LinAlg.buildMixed .mozart jac cscL cscU).Lp
      (LinAlg.buildMixed .mozart jac cscL cscU).Up := by
  have hwf := wf_mozartSymbolic jac.n (fun r c => jac.zero? r c)
  exact MozSetup_of_symbolic jac.n jac _ _
    (GoodPattern_of_Good (good_mk hwf.1 cscL jac.L) jac.n)
    (GoodPattern_of_Good (good_mk hwf.2 cscU jac.L) jac.n) hdiag
    (fun r c _ _ => zero?_mk_iff hwf.1 cscL jac.L r c)
    (fun r c _ _ => zero?_mk_iff hwf.2 cscU jac.L r c)

theorem MozSetup_build (jac : Pattern) (hdiag : ∀ i, i < jac.n → jac.zero? i i = false) :
    MozSetup jac.n (LinAlg.build .mozart jac).A (LinAlg.build .mozart jac).Lp
      (LinAlg.build .mozart jac).Up :=
  MozSetup_buildMixed jac jac.csc jac.csc hdiag

theorem IPSetup_build_mozart (jac : Pattern) (hdiag : ∀ i, i < jac.n → jac.zero? i i = false) :
    IPSetup jac.n (LinAlg.build .mozartInPlace jac).A := by
  have hwf := wf_mozartInPlaceSymbolic jac.n (fun r c => jac.zero? r c)
  exact IPSetup_of_symbolic_mozart jac.n _ _
    (GoodPattern_of_Good (good_mk hwf jac.csc jac.L) jac.n) hdiag
    (fun r c _ _ => zero?_mk_iff hwf jac.csc jac.L r c)

theorem build_mozart_tables (jac : Pattern) :
    (LinAlg.build .mozart jac).A = jac ∧
    (LinAlg.build .mozart jac).mInit
      = mozartInit jac (LinAlg.build .mozart jac).Lp (LinAlg.build .mozart jac).Up ∧
    (LinAlg.build .mozart jac).mRows
      = mozartRows jac (LinAlg.build .mozart jac).Lp (LinAlg.build .mozart jac).Up ∧
    ((LinAlg.build .mozart jac).fw, (LinAlg.build .mozart jac).bw)
      = solverRows (LinAlg.build .mozart jac).Lp (LinAlg.build .mozart jac).Up :=
  ⟨rfl, rfl, rfl, rfl⟩

theorem build_mozartInPlace_tables (jac : Pattern) :
    (LinAlg.build .mozartInPlace jac).miRows
      = mozartInPlaceRows (LinAlg.build .mozartInPlace jac).A ∧
    (LinAlg.build .mozartInPlace jac).A.n = jac.n ∧
    ((LinAlg.build .mozartInPlace jac).fw, (LinAlg.build .mozartInPlace jac).bw)
      = solverRows (LinAlg.build .mozartInPlace jac).A (LinAlg.build .mozartInPlace jac).A :=
  ⟨rfl, rfl, rfl⟩

/-!
For the tables `LinAlg.build` produces no hypothesis on the patterns is left: `jac` is any `Pattern` (for the
Mozart variants: with a full diagonal); the only numerical hypothesis is "no zero pivot". -/

section endToEnd
variable {K : Type} [Field K]

theorem C03_build_doolittle (jac : Pattern) (a l0 u0 : Array K)
    (hLs : l0.size = (LinAlg.build .doolittle jac).Lp.nnz)
    (hUs : u0.size = (LinAlg.build .doolittle jac).Up.nnz) :
    ∀ r c, r < jac.n → c < jac.n →
      view (LinAlg.build .doolittle jac).Lp
          (doolittleCell (LinAlg.build .doolittle jac).dRows a (l0, u0)).1 r c
        = (DenseLU.lu (view jac a) jac.n).L r c ∧
      view (LinAlg.build .doolittle jac).Up
          (doolittleCell (LinAlg.build .doolittle jac).dRows a (l0, u0)).2 r c
        = (DenseLU.lu (view jac a) jac.n).U r c :=
  doolittleCell_view (LUSetup_build jac) rfl a l0 u0 hLs hUs

theorem C03_build_mozart (jac : Pattern) (hdiag : ∀ i, i < jac.n → jac.zero? i i = false)
    (a l0 u0 : Array K)
    (hLs : l0.size = (LinAlg.build .mozart jac).Lp.nnz)
    (hUs : u0.size = (LinAlg.build .mozart jac).Up.nnz) :
    ∀ r c, r < jac.n → c < jac.n →
      view (LinAlg.build .mozart jac).Lp
          (mozartCell (LinAlg.build .mozart jac).mInit (LinAlg.build .mozart jac).mRows a (l0, u0)).1 r c
        = (DenseLU.lu (view jac a) jac.n).L r c ∧
      view (LinAlg.build .mozart jac).Up
          (mozartCell (LinAlg.build .mozart jac).mInit (LinAlg.build .mozart jac).mRows a (l0, u0)).2 r c
        = (DenseLU.lu (view jac a) jac.n).U r c :=
  mozartCell_view (MozSetup_build jac hdiag) rfl a l0 u0 hLs hUs

theorem C03_build_doolittleInPlace (jac : Pattern) (m0 : Array K)
    (hMs : m0.size = (LinAlg.build .doolittleInPlace jac).A.nnz) :
    ∀ r c, r < jac.n → c < jac.n →
      view (LinAlg.build .doolittleInPlace jac).A
          (doolittleInPlaceCell (LinAlg.build .doolittleInPlace jac).diRows m0) r c
        = if c < r then (DenseLU.lu (view (LinAlg.build .doolittleInPlace jac).A m0) jac.n).L r c
          else (DenseLU.lu (view (LinAlg.build .doolittleInPlace jac).A m0) jac.n).U r c :=
  doolittleInPlaceCell_view (IPSetup_build jac) rfl m0 hMs

theorem C03_build_mozartInPlace (jac : Pattern)
    (hdiag : ∀ i, i < jac.n → jac.zero? i i = false) (m0 : Array K)
    (hMs : m0.size = (LinAlg.build .mozartInPlace jac).A.nnz) :
    ∀ r c, r < jac.n → c < jac.n →
      view (LinAlg.build .mozartInPlace jac).A
          (mozartInPlaceCell (LinAlg.build .mozartInPlace jac).miRows m0) r c
        = if c < r then (DenseLU.lu (view (LinAlg.build .mozartInPlace jac).A m0) jac.n).L r c
          else (DenseLU.lu (view (LinAlg.build .mozartInPlace jac).A m0) jac.n).U r c :=
  mozartInPlaceCell_view (IPSetup_build_mozart jac hdiag) rfl m0 hMs

/-- C04: `Factor; Solve` solves `A x = b` -/
theorem C04_build_doolittle (jac : Pattern) (a l0 u0 b : Array K)
    (hLs : l0.size = (LinAlg.build .doolittle jac).Lp.nnz)
    (hUs : u0.size = (LinAlg.build .doolittle jac).Up.nnz) (hb : b.size = jac.n)
    (hpiv : ∀ i, i < jac.n → view (LinAlg.build .doolittle jac).Up
      (doolittleCell (LinAlg.build .doolittle jac).dRows a (l0, u0)).2 i i ≠ 0) :
    ∀ i, i < jac.n →
      ∑ j ∈ range jac.n, view jac a i j *
        rd (solveCell (LinAlg.build .doolittle jac).fw (LinAlg.build .doolittle jac).bw
          (doolittleCell (LinAlg.build .doolittle jac).dRows a (l0, u0)).1
          (doolittleCell (LinAlg.build .doolittle jac).dRows a (l0, u0)).2 b) j = rd b i :=
  solve_of_views _ _ _ _ b jac.n (view jac a) rfl hb
    (C03_build_doolittle jac a l0 u0 hLs hUs) hpiv

theorem C04_build_mozart (jac : Pattern) (hdiag : ∀ i, i < jac.n → jac.zero? i i = false)
    (a l0 u0 b : Array K)
    (hLs : l0.size = (LinAlg.build .mozart jac).Lp.nnz)
    (hUs : u0.size = (LinAlg.build .mozart jac).Up.nnz) (hb : b.size = jac.n)
    (hpiv : ∀ i, i < jac.n → view (LinAlg.build .mozart jac).Up
      (mozartCell (LinAlg.build .mozart jac).mInit (LinAlg.build .mozart jac).mRows a (l0, u0)).2 i i ≠ 0) :
    ∀ i, i < jac.n →
      ∑ j ∈ range jac.n, view jac a i j *
        rd (solveCell (LinAlg.build .mozart jac).fw (LinAlg.build .mozart jac).bw
          (mozartCell (LinAlg.build .mozart jac).mInit (LinAlg.build .mozart jac).mRows a (l0, u0)).1
          (mozartCell (LinAlg.build .mozart jac).mInit (LinAlg.build .mozart jac).mRows a (l0, u0)).2 b) j
        = rd b i :=
  solve_of_views _ _ _ _ b jac.n (view jac a) rfl hb
    (C03_build_mozart jac hdiag a l0 u0 hLs hUs) hpiv

theorem C04_build_doolittleInPlace (jac : Pattern) (m0 b : Array K)
    (hMs : m0.size = (LinAlg.build .doolittleInPlace jac).A.nnz) (hb : b.size = jac.n)
    (hpiv : ∀ i, i < jac.n → view (LinAlg.build .doolittleInPlace jac).A
      (doolittleInPlaceCell (LinAlg.build .doolittleInPlace jac).diRows m0) i i ≠ 0) :
    ∀ i, i < jac.n →
      ∑ j ∈ range jac.n, view (LinAlg.build .doolittleInPlace jac).A m0 i j *
        rd (solveInPlaceCell (LinAlg.build .doolittleInPlace jac).fw
          (LinAlg.build .doolittleInPlace jac).bw
          (doolittleInPlaceCell (LinAlg.build .doolittleInPlace jac).diRows m0) b) j = rd b i :=
  solve_of_view_inplace _ _ b jac.n _ rfl hb
    (C03_build_doolittleInPlace jac m0 hMs) hpiv

theorem C04_build_mozartInPlace (jac : Pattern)
    (hdiag : ∀ i, i < jac.n → jac.zero? i i = false) (m0 b : Array K)
    (hMs : m0.size = (LinAlg.build .mozartInPlace jac).A.nnz) (hb : b.size = jac.n)
    (hpiv : ∀ i, i < jac.n → view (LinAlg.build .mozartInPlace jac).A
      (mozartInPlaceCell (LinAlg.build .mozartInPlace jac).miRows m0) i i ≠ 0) :
    ∀ i, i < jac.n →
      ∑ j ∈ range jac.n, view (LinAlg.build .mozartInPlace jac).A m0 i j *
        rd (solveInPlaceCell (LinAlg.build .mozartInPlace jac).fw
          (LinAlg.build .mozartInPlace jac).bw
          (mozartInPlaceCell (LinAlg.build .mozartInPlace jac).miRows m0) b) j = rd b i :=
  solve_of_view_inplace _ _ b jac.n _ rfl hb
    (C03_build_mozartInPlace jac hdiag m0 hMs) hpiv

end endToEnd

end Micm

#print axioms Micm.C03_build_doolittle
#print axioms Micm.C03_build_mozart
#print axioms Micm.C03_build_doolittleInPlace
#print axioms Micm.C03_build_mozartInPlace
#print axioms Micm.C04_build_doolittle
#print axioms Micm.C04_build_mozart
#print axioms Micm.C04_build_doolittleInPlace
#print axioms Micm.C04_build_mozartInPlace
