import Micm.Lemmas.RosLoop
import Micm.Lemmas.Special

/-!
Two runs in lockstep.  A relation `R` between the states of two runs of the Rosenbrock loop (two
configurations `s₁`, `s₂` and tolerance vectors `atol₁`, `atol₂`; everything else shared) that
forces equal statuses and is kept by one iteration is kept by the whole loop (`rosLoop_sim`); one
iteration keeps it if the prologue and one attempt do (`rosStep_sim`); and the prologue of two
states with the same control data takes the same branch (`rosPrologue_congr`).  `beLoop_sim` is the loop
statement for backward Euler.  A side condition `G` on the pair of states (no vanishing pivot, say) is asked
of the iterates only.  Inside one attempt, the stage loops of the two runs keep a relation on the
stage vectors that `Axpy`, the forcing and `Factor; Solve` keep (`stagesGo_rel`): equality for two
scratches, equality of the logical matrices for two configurations, `x'[σ v] = x[v]` for a
relabelling of the species.
-/
namespace Micm

section Ros
variable {α : Type} [OfNat α 0] [OfNat α 1] [Add α] [Sub α] [Mul α] [Div α]
variable (o : Ops α) (cs : Consts α) (s s₁ s₂ : SolverCfg α) (p : RosParams α) (kc : Mat α)
    (atol atol₁ atol₂ : Array α) (rtol T hm : α)

theorem rosSolve_stats (Y : Mat α) (sc : Scratch α) (fuel : Nat) :
    (rosSolve o cs s p kc atol rtol T Y sc fuel).stats =
      (rosLoop o cs s p kc atol rtol T (hmaxEff o p T) fuel (rosInit (initialH o cs p T) Y sc)).stats := rfl

theorem rosSolve_Y (Y : Mat α) (sc : Scratch α) (fuel : Nat) :
    (rosSolve o cs s p kc atol rtol T Y sc fuel).Y =
      (rosLoop o cs s p kc atol rtol T (hmaxEff o p T) fuel (rosInit (initialH o cs p T) Y sc)).Y := rfl

theorem rosSolve_trace (Y : Mat α) (sc : Scratch α) (fuel : Nat) :
    (rosSolve o cs s p kc atol rtol T Y sc fuel).trace =
      (rosLoop o cs s p kc atol rtol T (hmaxEff o p T) fuel
        (rosInit (initialH o cs p T) Y sc)).trace.reverse := rfl

theorem rosLoop_sim (R G : RState α → RState α → Prop)
    (hstatus : ∀ r₁ r₂, R r₁ r₂ → r₁.status = r₂.status)
    (hstep : ∀ r₁ r₂, r₁.status = .running → R r₁ r₂ → G r₁ r₂ →
      R (rosStep o cs s₁ p kc atol₁ rtol T hm r₁) (rosStep o cs s₂ p kc atol₂ rtol T hm r₂))
    (hout : ∀ r₁ r₂, R r₁ r₂ → R { r₁ with status := .outOfFuel } { r₂ with status := .outOfFuel })
    (fuel : Nat) (r₁ r₂ : RState α) (h : R r₁ r₂)
    (hg : ∀ j, j < fuel → G ((rosStep o cs s₁ p kc atol₁ rtol T hm)^[j] r₁)
      ((rosStep o cs s₂ p kc atol₂ rtol T hm)^[j] r₂)) :
    R (rosLoop o cs s₁ p kc atol₁ rtol T hm fuel r₁) (rosLoop o cs s₂ p kc atol₂ rtol T hm fuel r₂) := by
  induction fuel generalizing r₁ r₂ with
  | zero =>
    rw [rosLoop_zero, rosLoop_zero, ← hstatus r₁ r₂ h]
    split
    · exact hout r₁ r₂ h
    · exact h
  | succ fuel ih =>
    rw [rosLoop_succ, rosLoop_succ, ← hstatus r₁ r₂ h]
    split
    · exact ih _ _ (hstep r₁ r₂ ‹_› h (hg 0 (Nat.zero_lt_succ _)))
        (fun j hj => hg (j + 1) (Nat.succ_lt_succ hj))
    · exact h

theorem rosStep_sim (R : RState α → RState α → Prop)
    (hstatus : ∀ r₁ r₂, R r₁ r₂ → r₁.status = r₂.status) (r₁ r₂ : RState α)
    (hpro : R (rosPrologue o cs s₁ p kc T r₁) (rosPrologue o cs s₂ p kc T r₂))
    (hatt : (rosPrologue o cs s₁ p kc T r₁).status = .running →
      (rosPrologue o cs s₁ p kc T r₁).inStep = true →
      R (rosAttempt o cs s₁ p kc atol₁ rtol hm (rosPrologue o cs s₁ p kc T r₁))
        (rosAttempt o cs s₂ p kc atol₂ rtol hm (rosPrologue o cs s₂ p kc T r₂))) :
    R (rosStep o cs s₁ p kc atol₁ rtol T hm r₁) (rosStep o cs s₂ p kc atol₂ rtol T hm r₂) := by
  rw [rosStep_eq, rosStep_eq, ← hstatus _ _ hpro]
  split
  · exact hatt ‹_› (rosPrologue_running_inStep o cs s₁ p kc T r₁ ‹_›)
  · exact hpro

omit [OfNat α 1] [Div α] in
theorem rosPrologue_congr (r₁ r₂ : RState α) (hin : r₁.inStep = r₂.inStep) (hctl : r₁.ctl = r₂.ctl)
    (hn : r₁.stats.numberOfSteps = r₂.stats.numberOfSteps) :
    (rosPrologue o cs s₁ p kc T r₁ = r₁ ∧ rosPrologue o cs s₂ p kc T r₂ = r₂) ∨
    (r₁.inStep = false ∧ ∃ st, st ≠ .running ∧ rosPrologue o cs s₁ p kc T r₁ = { r₁ with status := st } ∧
      rosPrologue o cs s₂ p kc T r₂ = { r₂ with status := st }) ∨
    (r₁.inStep = false ∧ rosPrologue o cs s₁ p kc T r₁ = startStep o s₁ kc T r₁ ∧
      rosPrologue o cs s₂ p kc T r₂ = startStep o s₂ kc T r₂) := by
  -- name the two results, so that the case analysis rewrites two equations and not the statement
  generalize e₁ : rosPrologue o cs s₁ p kc T r₁ = q₁
  generalize e₂ : rosPrologue o cs s₂ p kc T r₂ = q₂
  unfold rosPrologue at e₁ e₂
  obtain ⟨Y₁, ctl, st₁, status₁, inStep, la₁, sc₁, tr₁⟩ := r₁
  obtain ⟨Y₂, _, st₂, status₂, _, la₂, sc₂, tr₂⟩ := r₂
  cases hin
  cases hctl
  simp only [] at e₁ e₂ hn ⊢
  rw [← hn] at e₂
  by_cases c0 : inStep = true
  · rw [if_pos c0] at e₁ e₂; exact Or.inl ⟨e₁.symm, e₂.symm⟩
  have c0' : inStep = false := Bool.eq_false_iff.mpr c0
  rw [if_neg c0] at e₁ e₂
  refine Or.inr ?_
  by_cases c1 : (!(o.le (ctl.t - T + p.roundOff) 0)) = true
  · rw [if_pos c1] at e₁ e₂; exact Or.inl ⟨c0', _, by decide, e₁.symm, e₂.symm⟩
  rw [if_neg c1] at e₁ e₂
  by_cases c2 : st₁.numberOfSteps > p.maxSteps
  · rw [if_pos c2] at e₁ e₂; exact Or.inl ⟨c0', _, by decide, e₁.symm, e₂.symm⟩
  rw [if_neg c2] at e₁ e₂
  by_cases c3 : (o.eq (ctl.t + cs.tenth * ctl.h) ctl.t || o.le ctl.h p.roundOff) = true
  · rw [if_pos c3] at e₁ e₂; exact Or.inl ⟨c0', _, by decide, e₁.symm, e₂.symm⟩
  · rw [if_neg c3] at e₁ e₂; exact Or.inr ⟨c0', e₁.symm, e₂.symm⟩

end Ros

section Stages
variable {α : Type} [OfNat α 0] [OfNat α 1] [Add α] [Sub α] [Mul α] [Div α]
variable (s₁ s₂ : SolverCfg α) (p : RosParams α) (kc : Mat α)

omit [OfNat α 0] [OfNat α 1] [Add α] [Sub α] [Mul α] [Div α] in
theorem rel_getD_set {R : Mat α → Mat α → Prop} {Ks Ks' : Array (Mat α)} (i j : Nat)
    (hr : i < Ks.size ↔ i < Ks'.size) {M M' : Mat α} (hM : i = j → i < Ks.size → R M M')
    (hold : ¬ (i = j ∧ i < Ks.size) → R (Ks.getD j #[]) (Ks'.getD j #[])) :
    R ((Ks.setIfInBounds i M).getD j #[]) ((Ks'.setIfInBounds i M').getD j #[]) := by
  rw [getD_setIfInBounds, getD_setIfInBounds]
  by_cases h : i = j ∧ i < Ks.size
  · rw [if_pos h, if_pos ⟨h.1, hr.mp h.2⟩]; exact hM h.1 h.2
  · rw [if_neg h, if_neg (fun h' => h ⟨h'.1, hr.mpr h'.2⟩)]; exact hold h

/-- the stage vectors of two runs of `m` stages on entry to stage `stage`: a slot below `m` exists in
    both or in neither, every slot both have is related by `Sh` (the shape: all a slot not yet
    written is read for), those below `stage` by `Rm` -/
structure KRel (Rm Sh : Mat α → Mat α → Prop) (m stage : Nat) (Ks Ks' : Array (Mat α)) : Prop where
  range : ∀ j, j < m → (j < Ks.size ↔ j < Ks'.size)
  shape : ∀ j, j < Ks.size → j < Ks'.size → Sh (Ks.getD j #[]) (Ks'.getD j #[])
  lt : ∀ j, j < stage → Rm (Ks.getD j #[]) (Ks'.getD j #[])

omit [OfNat α 1] [Sub α] [Div α] in
theorem axpy_fold_rel {Rm Ra : Mat α → Mat α → Prop}
    (haxpy : ∀ (a : α) {X X' Y Y' : Mat α}, Rm X X' → Ra Y Y' → Ra (axpyM a X Y) (axpyM a X' Y'))
    (coef : Nat → α) (X X' : Nat → Mat α) (l : List Nat) (hX : ∀ j ∈ l, Rm (X j) (X' j))
    {F F' : Mat α} (hF : Ra F F') :
    Ra (l.foldl (fun ks j => axpyM (coef j) (X j) ks) F) (l.foldl (fun ks j => axpyM (coef j) (X' j) ks) F') := by
  induction l generalizing F F' with
  | nil => exact hF
  | cons j l ih =>
    exact ih (fun i hi => hX i (List.mem_cons_of_mem _ hi)) (haxpy (coef j) (hX j List.mem_cons_self) hF)

omit [OfNat α 1] [Div α] in
theorem stagePre_snd (s : SolverCfg α) (Y : Mat α) (stage : Nat) (K : Array (Mat α)) (ynew : Mat α) (st : Stats) :
    (stagePre s p kc Y stage K ynew st).2 =
      if stage ≠ 0 ∧ p.newF.getD stage false = true
      then (stageY p Y K stage, { st with functionCalls := st.functionCalls + 1 }) else (ynew, st) := by
  unfold stagePre
  by_cases h0 : stage = 0
  · rw [if_pos h0, if_neg (fun h => h.1 h0)]
  · rw [if_neg h0]
    by_cases h1 : p.newF.getD stage false = true
    · rw [if_pos h1, if_pos ⟨h0, h1⟩]; rfl
    · rw [if_neg h1, if_neg (fun h => h1 h.2)]

theorem stagesGo_stats_indep (Y J Lo Up Y' J' Lo' Up' : Mat α) (h h' : α) (n stage : Nat)
    (K K' : Array (Mat α)) (ynew ynew' : Mat α) (st : Stats) :
    (stagesGo s₁ p kc Y J Lo Up h n stage K ynew st).2.2 =
      (stagesGo s₂ p kc Y' J' Lo' Up' h' n stage K' ynew' st).2.2 := by
  induction n generalizing stage K K' ynew ynew' st with
  | zero => rfl
  | succ n ih =>
    have e : (stagePre s₁ p kc Y stage K ynew st).2.2 = (stagePre s₂ p kc Y' stage K' ynew' st).2.2 := by
      rw [stagePre_snd, stagePre_snd]; split <;> rfl
    rw [stagesGo_succ, stagesGo_succ, e]
    exact ih _ _ _ _ _ _

section Rel
/- `Rm` relates the stage vectors that have been computed, `Sh` those that only lend their shape,
   `Ry` the solution `Y` and the intermediate solutions, `Ro` what is left in the `ynew` buffer. -/
variable {Rm Sh Ry Ro : Mat α → Mat α → Prop}
    (hsh : ∀ {X X' : Mat α}, Rm X X' → Sh X X') (hRo : ∀ {X X' : Mat α}, Ry X X' → Ro X X')
    (hfill : ∀ {X X' : Mat α}, Sh X X' → Rm (fillM X 0) (fillM X' 0))
    (haxpy : ∀ (a : α) {X X' Y Y' : Mat α}, Rm X X' → Rm Y Y' → Rm (axpyM a X Y) (axpyM a X' Y'))
    (haxpyY : ∀ (a : α) {X X' Y Y' : Mat α}, Rm X X' → Ry Y Y' → Ry (axpyM a X Y) (axpyM a X' Y'))
    (hF : ∀ {Y Y' f f' : Mat α}, Ry Y Y' → Rm f f' → Rm (s₁.forcing kc Y f) (s₂.forcing kc Y' f'))
include hsh

include hRo hfill haxpyY hF in
/-- `hdef`: a slot that does not exist reads as `#[]`, so either `Rm` relates `#[]` to itself or slot
    `stage` exists. -/
theorem stagePre_rel {Y Y' : Mat α} (hY : Ry Y Y') (stage : Nat) (hm : stage < p.stages) {Ks Ks' : Array (Mat α)}
    (hK : KRel Rm Sh p.stages stage Ks Ks')
    (hcur : (stage = 0 ∨ p.newF.getD stage false = false) → Rm (Ks.getD stage #[]) (Ks'.getD stage #[]))
    (hdef : Rm #[] #[] ∨ stage < Ks.size) {ynew ynew' : Mat α} (hyn : Ro ynew ynew') (st st' : Stats) :
    KRel Rm Sh p.stages (stage + 1) (stagePre s₁ p kc Y stage Ks ynew st).1
      (stagePre s₂ p kc Y' stage Ks' ynew' st').1 ∧
    Ro (stagePre s₁ p kc Y stage Ks ynew st).2.1 (stagePre s₂ p kc Y' stage Ks' ynew' st').2.1 := by
  have hsz := stagePre_size s₁ p kc Y stage Ks ynew st
  have hsz' := stagePre_size s₂ p kc Y' stage Ks' ynew' st'
  have hy : Ry (stageY p Y Ks stage) (stageY p Y' Ks' stage) :=
    axpy_fold_rel haxpyY _ (fun j => Ks.getD j #[]) (fun j => Ks'.getD j #[]) _
      (fun j hj => hK.lt j (List.mem_range.mp hj)) hY
  -- slot `stage`, when it exists: left as it is, or the forcing at `stageY` into the zeroed buffer
  have hst : ∀ hs : stage < Ks.size, Rm ((stagePre s₁ p kc Y stage Ks ynew st).1.getD stage #[])
      ((stagePre s₂ p kc Y' stage Ks' ynew' st').1.getD stage #[]) := fun hs => by
    have hs' := (hK.range stage hm).mp hs
    rw [stagePre_getD_stage _ _ _ _ _ _ _ _ hs, stagePre_getD_stage _ _ _ _ _ _ _ _ hs']
    by_cases h0 : stage = 0
    · rw [if_pos h0, if_pos h0]; exact hcur (Or.inl h0)
    · rw [if_neg h0, if_neg h0]
      by_cases h1 : p.newF.getD stage false = true
      · rw [if_pos h1, if_pos h1]; exact hF hy (hfill (hK.shape stage hs hs'))
      · rw [if_neg h1, if_neg h1]; exact hcur (Or.inr (Bool.eq_false_iff.mpr h1))
  refine ⟨⟨fun j hj => by rw [hsz, hsz']; exact hK.range j hj, fun j hj hj' => ?_, fun j hj => ?_⟩, ?_⟩
  · rw [hsz] at hj; rw [hsz'] at hj'
    by_cases hjs : stage = j
    · subst hjs; exact hsh (hst hj)
    · rw [stagePre_getD_ne _ _ _ _ _ _ _ _ _ hjs, stagePre_getD_ne _ _ _ _ _ _ _ _ _ hjs]
      exact hK.shape j hj hj'
  · by_cases hjs : stage = j
    · subst hjs
      by_cases hs : stage < Ks.size
      · exact hst hs
      · have hs' : ¬ stage < Ks'.size := fun h => hs ((hK.range stage hm).mpr h)
        rw [getD_of_size_le _ _ _ (by omega), getD_of_size_le _ _ _ (by omega)]
        exact hdef.resolve_right hs
    · rw [stagePre_getD_ne _ _ _ _ _ _ _ _ _ hjs, stagePre_getD_ne _ _ _ _ _ _ _ _ _ hjs]
      exact hK.lt j (by omega)
  · rw [stagePre_snd, stagePre_snd]
    split
    · exact hRo hy
    · exact hyn

omit [OfNat α 0] [OfNat α 1] [Add α] [Sub α] [Mul α] [Div α] in
theorem stageCopy_rel (stage : Nat) {Ks Ks' : Array (Mat α)} (hK : KRel Rm Sh p.stages (stage + 1) Ks Ks') :
    KRel Rm Sh p.stages (stage + 1) (stageCopy p stage Ks) (stageCopy p stage Ks') ∧
    (stage + 1 < p.stages → p.newF.getD (stage + 1) false = false → Rm #[] #[] ∨ stage + 1 < Ks.size →
      Rm ((stageCopy p stage Ks).getD (stage + 1) #[]) ((stageCopy p stage Ks').getD (stage + 1) #[])) := by
  have hcur := hK.lt stage (Nat.lt_succ_self _)
  unfold stageCopy
  by_cases hc : (decide (stage + 1 < p.stages) && !(p.newF.getD (stage + 1) false)) = true
  · have hm : stage + 1 < p.stages := by simpa using (Bool.and_eq_true_iff.mp hc).1
    have hr := hK.range _ hm
    rw [if_pos hc, if_pos hc]
    refine ⟨⟨fun j hj => by rw [Array.size_setIfInBounds, Array.size_setIfInBounds]; exact hK.range j hj,
      fun j hj hj' => ?_, fun j hj => ?_⟩, fun _ _ hdef => ?_⟩
    · rw [Array.size_setIfInBounds] at hj hj'
      exact rel_getD_set _ j hr (fun _ _ => hsh hcur) (fun _ => hK.shape j hj hj')
    · exact rel_getD_set _ j hr (fun _ _ => hcur) (fun _ => hK.lt j hj)
    · refine rel_getD_set _ _ hr (fun _ _ => hcur) (fun h => ?_)
      have hs : ¬ stage + 1 < Ks.size := fun hs => h ⟨rfl, hs⟩
      have hs' : ¬ stage + 1 < Ks'.size := fun h => hs (hr.mpr h)
      rw [getD_of_size_le _ _ _ (by omega), getD_of_size_le _ _ _ (by omega)]
      exact hdef.resolve_right hs
  · rw [if_neg hc, if_neg hc]
    refine ⟨hK, fun h1 h2 _ => absurd ?_ hc⟩
    rw [h2]; simpa using h1

include hRo hfill haxpy haxpyY hF in
/-- `hdef` as in `stagePre_rel`: either `Rm` covers the `#[]` read from a missing slot, or all slots exist. -/
theorem stagesGo_rel (J Lo Up J' Lo' Up' : Mat α)
    (hsolve : ∀ {x x' : Mat α}, Rm x x' → Rm (s₁.linSolve J Lo Up x) (s₂.linSolve J' Lo' Up' x'))
    {Y Y' : Mat α} (hY : Ry Y Y') (h : α) (fuel stage : Nat) {Ks Ks' : Array (Mat α)}
    (hK : KRel Rm Sh p.stages stage Ks Ks')
    (hcur : 1 ≤ fuel → (stage = 0 ∨ p.newF.getD stage false = false) →
      Rm (Ks.getD stage #[]) (Ks'.getD stage #[]))
    (hdef : Rm #[] #[] ∨ stage + fuel ≤ Ks.size) (hst : stage + fuel ≤ p.stages)
    {ynew ynew' : Mat α} (hyn : Ro ynew ynew') (st st' : Stats) :
    KRel Rm Sh p.stages (stage + fuel) (stagesGo s₁ p kc Y J Lo Up h fuel stage Ks ynew st).1
      (stagesGo s₂ p kc Y' J' Lo' Up' h fuel stage Ks' ynew' st').1 ∧
    Ro (stagesGo s₁ p kc Y J Lo Up h fuel stage Ks ynew st).2.1
      (stagesGo s₂ p kc Y' J' Lo' Up' h fuel stage Ks' ynew' st').2.1 := by
  induction fuel generalizing stage Ks Ks' ynew ynew' st st' with
  | zero => exact ⟨hK, hyn⟩
  | succ fuel ih =>
    rw [stagesGo_succ, stagesGo_succ]
    obtain ⟨hpre, hpy⟩ := stagePre_rel (Rm := Rm) (Sh := Sh) (Ry := Ry) (Ro := Ro) s₁ s₂ p kc hsh hRo hfill haxpyY hF hY
      stage (by omega) hK (hcur (Nat.le_add_left 1 fuel)) (hdef.imp_right fun h => by omega) hyn st st'
    have hpsz := stagePre_size s₁ p kc Y stage Ks ynew st
    generalize stagePre s₁ p kc Y stage Ks ynew st = pre at hpre hpy hpsz
    generalize stagePre s₂ p kc Y' stage Ks' ynew' st' = pre' at hpre hpy
    obtain ⟨hcp, hnext⟩ := stageCopy_rel (Rm := Rm) (Sh := Sh) p hsh stage hpre
    have hcsz := stageCopy_size p stage pre.1
    generalize stageCopy p stage pre.1 = cp at hcp hnext hcsz
    generalize stageCopy p stage pre'.1 = cp' at hcp hnext
    have hsol := hsolve (show Rm (stageRhs p h stage cp) (stageRhs p h stage cp') from
      axpy_fold_rel haxpy _ (fun j => cp.getD j #[]) (fun j => cp'.getD j #[]) _
        (fun j hj => hcp.lt j (Nat.lt_succ_of_lt (List.mem_range.mp hj))) (hcp.lt stage (Nat.lt_succ_self _)))
    have hr := hcp.range stage (by omega)
    rw [show stage + (fuel + 1) = stage + 1 + fuel by omega]
    refine ih (stage + 1) ⟨fun j hj => ?_, fun j hj hj' => ?_, fun j hj => ?_⟩ (fun hf hc => ?_) ?_ (by omega) hpy _ _
    · rw [Array.size_setIfInBounds, Array.size_setIfInBounds]; exact hcp.range j hj
    · rw [Array.size_setIfInBounds] at hj hj'
      exact rel_getD_set _ j hr (fun _ _ => hsh hsol) (fun _ => hcp.shape j hj hj')
    · exact rel_getD_set _ j hr (fun _ _ => hsol) (fun _ => hcp.lt j hj)
    · refine rel_getD_set _ _ hr (fun e _ => absurd e (Nat.ne_of_lt (Nat.lt_succ_self _))) (fun _ => ?_)
      exact hnext (by omega) (hc.resolve_left (Nat.succ_ne_zero _)) (hdef.imp_right fun h => by omega)
    · rw [Array.size_setIfInBounds, hcsz, hpsz]
      exact hdef.imp_right fun h => by omega

end Rel

end Stages

section BE
variable {α : Type} [OfNat α 0] [OfNat α 1] [OfNat α 2] [Add α] [Sub α] [Mul α] [Div α]
variable (o : Ops α) (s₁ s₂ : SolverCfg α) (p : BEParams α) (kc : Mat α) (atol₁ atol₂ : Array α) (rtol T : α)

theorem beLoop_sim (R G : BEState α → BEState α → Prop)
    (hdone : ∀ r₁ r₂, R r₁ r₂ → r₁.done = r₂.done)
    (hstep : ∀ r₁ r₂, r₁.done = false → R r₁ r₂ → G r₁ r₂ →
      R (beStep o s₁ p kc atol₁ rtol T r₁) (beStep o s₂ p kc atol₂ rtol T r₂))
    (hout : ∀ r₁ r₂, R r₁ r₂ → R { r₁ with status := .outOfFuel } { r₂ with status := .outOfFuel })
    (fuel : Nat) (r₁ r₂ : BEState α) (h : R r₁ r₂)
    (hg : ∀ j, j < fuel → G ((beStep o s₁ p kc atol₁ rtol T)^[j] r₁) ((beStep o s₂ p kc atol₂ rtol T)^[j] r₂)) :
    R (beLoop o s₁ p kc atol₁ rtol T fuel r₁) (beLoop o s₂ p kc atol₂ rtol T fuel r₂) := by
  have hd := hdone r₁ r₂ h
  induction fuel generalizing r₁ r₂ with
  | zero =>
    rw [beLoop, beLoop]
    by_cases h1 : r₁.done = true
    · rw [if_pos h1, if_pos (hd ▸ h1)]; exact h
    · rw [if_neg h1, if_neg (hd ▸ h1)]; exact hout r₁ r₂ h
  | succ fuel ih =>
    rw [beLoop, beLoop]
    by_cases h1 : r₁.done = true
    · rw [if_pos h1, if_pos (hd ▸ h1)]; exact h
    · rw [if_neg h1, if_neg (hd ▸ h1)]
      have hs := hstep r₁ r₂ (Bool.eq_false_iff.mpr h1) h (hg 0 (Nat.zero_lt_succ _))
      exact ih _ _ hs (fun j hj => hg (j + 1) (Nat.succ_lt_succ hj)) (hdone _ _ hs)

end BE

end Micm
