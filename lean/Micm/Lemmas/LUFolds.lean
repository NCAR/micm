import Micm.Model.LU
import Micm.Lemmas.PairSet
import Micm.Lemmas.ArrayFold

/-!
Generic facts about the folds all LU kernels and symbolic factorisations are written as: a fold
over the stages `0 … n-1`, and inside a stage folds over index ranges whose steps write (or insert)
at positions that later steps of the same fold do not read.
-/
namespace Micm

theorem foldl_range_induct {σ : Type} (P : Nat → σ → Prop) (step : σ → Nat → σ) (s0 : σ) (n : Nat)
    (h0 : P 0 s0) (hs : ∀ i, i < n → ∀ s, P i s → P (i + 1) (step s i)) :
    P n ((List.range n).foldl step s0) := by
  induction n with
  | zero => exact h0
  | succ n ih =>
    rw [List.range_succ, List.foldl_append]
    exact hs n (Nat.lt_succ_self n) _ (ih fun i hi s => hs i (Nat.lt_succ_of_lt hi) s)

theorem foldl_rows_induct {σ β : Type} (P : Nat → σ → Prop) (row : Nat → β) (step : σ → β → σ)
    (s0 : σ) (n : Nat) (h0 : P 0 s0) (hs : ∀ i, i < n → ∀ s, P i s → P (i + 1) (step s (row i))) :
    P n (((List.range n).map row).foldl step s0) := by
  rw [List.foldl_map]
  exact foldl_range_induct P _ s0 n h0 hs

/-- A fold over the entries `f k`, `k = a … b-1`, of a state read through `get` (one array seen
    through a pattern, or a pair of arrays).  Step `k` gives the locations `slot k j`, `Q k j`, the
    values `newv k j`; it may read its own block and everything outside all blocks, which is
    still as in `S0`, and it changes nothing else.  Only locations in `dom` are spoken of. -/
theorem phase_blocks {σ ι β α : Type} (get : σ → ι → α) (ok : σ → Prop) (dom : ι → Prop)
    (a b : Nat) (f : Nat → Option β) (step : σ → β → σ) (S0 : σ) (hok : ok S0)
    (slot : Nat → Nat → ι) (Q : Nat → Nat → Prop) (newv : Nat → Nat → α)
    (hdom : ∀ k j, a ≤ k → k < b → Q k j → dom (slot k j))
    (hdisj : ∀ k k' j j', a ≤ k → k < b → a ≤ k' → k' < b → Q k j → Q k' j' →
      slot k j = slot k' j' → k = k')
    (hstep : ∀ S k e, a ≤ k → k < b → f k = some e → ok S →
      (∀ x, dom x → (∀ k' j', a ≤ k' → k' < b → Q k' j' → x ≠ slot k' j') → get S x = get S0 x) →
      (∀ j, Q k j → get S (slot k j) = get S0 (slot k j)) →
      ok (step S e) ∧ (∀ j, Q k j → get (step S e) (slot k j) = newv k j) ∧
      (∀ x, dom x → (∀ j, Q k j → x ≠ slot k j) → get (step S e) x = get S x)) :
    ok (((rangeFrom a b).filterMap f).foldl step S0) ∧
    (∀ x, dom x → (∀ k j, a ≤ k → k < b → Q k j → x ≠ slot k j) →
      get (((rangeFrom a b).filterMap f).foldl step S0) x = get S0 x) ∧
    (∀ k e j, a ≤ k → k < b → f k = some e → Q k j →
      get (((rangeFrom a b).filterMap f).foldl step S0) (slot k j) = newv k j) := by
  -- the same for every prefix `a … a+m-1` of the steps
  suffices h : ∀ m, a + m ≤ max a b →
      ok (((List.range' a m).filterMap f).foldl step S0) ∧
      (∀ x, dom x → (∀ k j, a ≤ k → k < a + m → Q k j → x ≠ slot k j) →
        get (((List.range' a m).filterMap f).foldl step S0) x = get S0 x) ∧
      (∀ k e j, a ≤ k → k < a + m → f k = some e → Q k j →
        get (((List.range' a m).filterMap f).foldl step S0) (slot k j) = newv k j) by
    obtain ⟨h1, h2, h3⟩ := h (b - a) (by omega)
    exact ⟨h1, fun x hx hne => h2 x hx fun k j a1 a2 => hne k j a1 (by omega),
      fun k e j a1 a2 => h3 k e j a1 (by omega)⟩
  intro m hm
  induction m with
  | zero =>
    exact ⟨hok, fun _ _ _ => rfl, fun k e j h1 h2 => absurd h2 (Nat.not_lt.mpr h1)⟩
  | succ m ih =>
    obtain ⟨g1, g2, g3⟩ := ih (Nat.le_of_succ_le hm)
    have hb : a + m < b := by omega
    have ha := Nat.le_add_right a m
    have inb : ∀ k, k < a + (m + 1) → k < b := fun k h => Nat.lt_of_le_of_lt (Nat.le_of_lt_succ h) hb
    have old : ∀ k, k < a + (m + 1) → k ≠ a + m → k < a + m := fun k h hk =>
      Nat.lt_of_le_of_ne (Nat.le_of_lt_succ h) hk
    rw [List.range'_concat, List.filterMap_append, List.foldl_append, Nat.one_mul]
    generalize ((List.range' a m).filterMap f).foldl step S0 = M at g1 g2 g3
    cases hfk : f (a + m) with
    | none =>
      simp only [List.filterMap_cons, hfk, List.filterMap_nil, List.foldl_nil]
      refine ⟨g1, fun x hx hne => g2 x hx fun k j h1 h2 hq => hne k j h1 (Nat.lt_succ_of_lt h2) hq,
        fun k e j h1 h2 he hq => g3 k e j h1 (old k h2 ?_) he hq⟩
      intro h; subst h; rw [hfk] at he; cases he
    | some e =>
      simp only [List.filterMap_cons, hfk, List.filterMap_nil, List.foldl_cons, List.foldl_nil]
      obtain ⟨s1, s2, s3⟩ := hstep M (a + m) e ha hb hfk g1
        (fun x hx hne => g2 x hx fun k j h1 h2 hq => hne k j h1 (inb k (Nat.lt_succ_of_lt h2)) hq)
        (fun j hq => g2 _ (hdom _ j ha hb hq) fun k j' h1 h2 hq' heq =>
          Nat.lt_irrefl k (hdisj _ _ _ _ ha hb h1 (inb k (Nat.lt_succ_of_lt h2)) hq hq' heq ▸ h2))
      refine ⟨s1, fun x hx hne => ?_, fun k e' j h1 h2 he' hq => ?_⟩
      · rw [s3 x hx fun j hq => hne (a + m) j ha (Nat.lt_succ_self _) hq]
        exact g2 x hx fun k j h1 h2 hq => hne k j h1 (Nat.lt_succ_of_lt h2) hq
      · by_cases hk : k = a + m
        · subst hk
          exact s2 j hq
        · rw [s3 _ (hdom k j h1 (inb k h2) hq) fun j' hq' heq =>
            hk (hdisj _ _ _ _ h1 (inb k h2) ha hb hq hq' heq)]
          exact g3 k e' j h1 (old k h2 hk) he' hq

/-- abstract state `σ` with a membership predicate; step `k` adds exactly the elements `new k`,
    all inside `blk k`, and its behaviour only depends on the part of the state outside all
    blocks -/
theorem foldl_block {σ ι β : Type} (mem : σ → ι → Prop) (ks : List β) (blk new : β → ι → Prop)
    (step : σ → β → σ) (S0 : σ) (hnew : ∀ k x, new k x → blk k x)
    (hstep : ∀ S k, k ∈ ks → (∀ x, (∀ k', k' ∈ ks → ¬ blk k' x) → (mem S x ↔ mem S0 x)) →
      ∀ x, mem (step S k) x ↔ mem S x ∨ new k x) (x : ι) :
    mem (ks.foldl step S0) x ↔ mem S0 x ∨ ∃ k, k ∈ ks ∧ new k x := by
  -- a suffix `l` of the steps, started in a state that still agrees with `S0` outside the blocks
  suffices h : ∀ (l : List β) (S : σ), (∀ k, k ∈ l → k ∈ ks) →
      (∀ x, (∀ k', k' ∈ ks → ¬ blk k' x) → (mem S x ↔ mem S0 x)) →
      (mem (l.foldl step S) x ↔ mem S x ∨ ∃ k, k ∈ l ∧ new k x) from
    h ks S0 (fun _ h => h) (fun _ _ => Iff.rfl)
  intro l
  induction l with
  | nil => intro S _ _; simp
  | cons k l ih =>
    intro S hl hS
    have hk := hl k List.mem_cons_self
    have hs := hstep S k hk hS
    rw [List.foldl_cons, ih (step S k) (fun k' h => hl k' (List.mem_cons_of_mem _ h))
      (fun y hy => by
        rw [hs y]
        exact ⟨fun h => h.elim (hS y hy).mp fun h => absurd (hnew k y h) (hy k hk),
          fun h => Or.inl ((hS y hy).mpr h)⟩), hs x]
    constructor
    · rintro ((h | h) | ⟨k', h1, h2⟩)
      · exact Or.inl h
      · exact Or.inr ⟨k, List.mem_cons_self, h⟩
      · exact Or.inr ⟨k', List.mem_cons_of_mem _ h1, h2⟩
    · rintro (h | ⟨k', h1, h2⟩)
      · exact Or.inl (Or.inl h)
      · rcases List.mem_cons.mp h1 with h | h
        · subst h; exact Or.inl (Or.inr h2)
        · exact Or.inr ⟨k', h, h2⟩

theorem mem_rangeFrom {a b x : Nat} : x ∈ rangeFrom a b ↔ a ≤ x ∧ x < b := by
  unfold rangeFrom
  rw [List.mem_range'_1]
  omega

theorem foldl_cond_insert (ks : List Nat) (pos : Nat → Pair) (cond : List Pair → Nat → Bool)
    (S0 : List Pair)
    (hcond : ∀ S k, k ∈ ks → (∀ x, (∀ k', k' ∈ ks → x ≠ pos k') → (x ∈ S ↔ x ∈ S0)) →
      cond S k = cond S0 k) (x : Pair) :
    x ∈ ks.foldl (fun S k => if cond S k then setInsert (pos k) S else S) S0 ↔
      x ∈ S0 ∨ ∃ k, k ∈ ks ∧ cond S0 k = true ∧ x = pos k := by
  refine foldl_block (fun (S : List Pair) x => x ∈ S) ks (fun k x => x = pos k)
    (fun k x => cond S0 k = true ∧ x = pos k) _ S0 (fun _ _ h => h.2) ?_ x
  intro S k hk hS x
  simp only [hcond S k hk hS]
  cases hc : cond S0 k
  · simp
  · simp [mem_setInsert, or_comm]

theorem foldl_cond_insert_range (a b : Nat) (pos : Nat → Pair) (cond : List Pair → Nat → Bool)
    (S0 : List Pair)
    (hcond : ∀ S k, a ≤ k → k < b →
      (∀ x, (∀ k', a ≤ k' → k' < b → x ≠ pos k') → (x ∈ S ↔ x ∈ S0)) → cond S k = cond S0 k)
    (x : Pair) :
    x ∈ (rangeFrom a b).foldl (fun S k => if cond S k then setInsert (pos k) S else S) S0 ↔
      x ∈ S0 ∨ ∃ k, a ≤ k ∧ k < b ∧ cond S0 k = true ∧ x = pos k := by
  rw [foldl_cond_insert (rangeFrom a b) pos cond S0 fun S k hk hS =>
    hcond S k (mem_rangeFrom.mp hk).1 (mem_rangeFrom.mp hk).2 fun x hx =>
      hS x fun k' hk' => hx k' (mem_rangeFrom.mp hk').1
        (mem_rangeFrom.mp hk').2]
  simp only [mem_rangeFrom, and_assoc]

end Micm
