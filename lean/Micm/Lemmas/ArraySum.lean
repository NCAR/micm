/-
What the accumulating folds of the forcing and Jacobian kernels leave in an array over a commutative
ring: `f[g b] += c b` for `b` in a list adds, at an in-range index `i`, the sum of the `c b` with
`g b = i`; the rate fold `k * y[r₁] * y[r₂] * …` is `k` times the product.
-/
import Micm.Lemmas.ArrayFold
import Mathlib.Tactic.Ring
import Mathlib.Algebra.BigOperators.Group.List.Basic

namespace Micm
variable {K : Type} [CommRing K]

theorem foldl_mul_eq {β : Type} (f : β → K) (l : List β) (k : K) :
    l.foldl (fun acc i => acc * f i) k = k * (l.map f).prod := by
  induction l generalizing k with
  | nil => simp
  | cons a l ih => simp [List.foldl_cons, ih, mul_assoc]

theorem rd_foldl_wr_add {β : Type} (g : β → Nat) (c : β → K) (l : List β) (f : Array K) (i : Nat)
    (hi : i < f.size) :
    rd (l.foldl (fun f b => wr f (g b) (rd f (g b) + c b)) f) i
      = rd f i + ((l.filter fun b => g b = i).map c).sum := by
  induction l generalizing f with
  | nil => simp
  | cons a l ih =>
    rw [List.foldl_cons, ih _ (by simpa using hi), List.filter_cons, rd_wr]
    by_cases h : g a = i
    · simp [h, hi, add_assoc]
    · simp [h]

theorem sum_map_mul_left {β : Type} (r : K) (f : β → K) (l : List β) :
    (l.map fun b => r * f b).sum = r * (l.map f).sum := by
  induction l with
  | nil => simp
  | cons a l ih => simp [ih, mul_add]

theorem sum_map_mul_right {β : Type} (f : β → K) (r : K) (l : List β) :
    (l.map fun b => f b * r).sum = (l.map f).sum * r := by
  simp only [mul_comm _ r, sum_map_mul_left]

theorem rd_foldl_wr_add_const (ids : List Nat) (d : K) (f : Array K) (i : Nat) (hi : i < f.size) :
    rd (ids.foldl (fun f j => wr f j (rd f j + d)) f) i = rd f i + (ids.count i : K) * d := by
  rw [rd_foldl_wr_add (fun j => j) (fun _ => d) ids f i hi, List.map_const', List.sum_replicate,
    nsmul_eq_mul, List.count_eq_length_filter]
  rfl

theorem rd_foldl_wr_add_smul (l : List (Nat × K)) (d : K) (f : Array K) (i : Nat) (hi : i < f.size) :
    rd (l.foldl (fun f p => wr f p.1 (rd f p.1 + p.2 * d)) f) i
      = rd f i + ((l.filter fun p => p.1 = i).map (·.2)).sum * d := by
  rw [rd_foldl_wr_add (fun p : Nat × K => p.1) (fun p => p.2 * d) l f i hi, sum_map_mul_right]

/-- net stoichiometric coefficient of species `i` in a reaction with resolved reactants `rs` and
    products `pr` (the forcing is `f_i = Σ_r jacNet_r(i) · k_r · Π_{l ∈ rs_r} y_l`, cf. C01) -/
def jacNet (rs : List Nat) (pr : List (Nat × K)) (i : Nat) : K :=
  ((pr.filter (fun p => p.1 = i)).map (·.2)).sum - (rs.count i : K)

end Micm
