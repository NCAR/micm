/-
A decidable dataflow check for the separate-`L`/`U` LU kernels (`doolittleCell`, `mozartCell`):
replay the kernel on the *sets of slots written so far*; if every read hits a written slot and at
the end every slot `< nL` / `< nU` is written, the result does not depend on the prior contents
of the `L`/`U` arrays (`LUOverwrites`), for ANY carrier (no arithmetic laws used).
The check is run by `decide` on concrete solver configurations.
-/
import Micm.Lemmas.Scratch
namespace Micm
set_option linter.unusedSectionVars false

section AgreeOn
variable {α : Type} [OfNat α 0] {n : Nat} {P Q : Nat → Prop} {a a' : Array α}

/-- Two arrays of size `n` whose total reads agree on the slots satisfying `P` (the slots written so
    far).  Carrying the size makes every write lemma free of side conditions. -/
structure AgreeOn (n : Nat) (P : Nat → Prop) (a a' : Array α) : Prop where
  size : a.size = n
  size' : a'.size = n
  read : ∀ i, P i → rd a i = rd a' i

theorem AgreeOn.mono (h : AgreeOn n P a a') (hs : ∀ i, Q i → P i) : AgreeOn n Q a a' :=
  ⟨h.size, h.size', fun i hi => h.read i (hs i hi)⟩

theorem AgreeOn.write (h : AgreeOn n P a a') (t : Nat) (v : α) :
    AgreeOn n (fun i => i = t ∨ P i) (wr a t v) (wr a' t v) := by
  refine ⟨by rw [wr_size, h.size], by rw [wr_size, h.size'], ?_⟩
  intro i hi
  rw [rd_wr, rd_wr, h.size, h.size']
  by_cases hc : t = i ∧ t < n
  · rw [if_pos hc, if_pos hc]
  · rw [if_neg hc, if_neg hc]
    rcases hi with rfl | hi
    · -- the write was out of range: both reads are the default
      have hlt : ¬ i < n := fun hlt => hc ⟨rfl, hlt⟩
      simp [rd, Array.getD, h.size, h.size', hlt]
    · exact h.read i hi

theorem AgreeOn.write_cons {W : List Nat} (h : AgreeOn n (· ∈ W) a a') (t : Nat) (v : α) :
    AgreeOn n (· ∈ t :: W) (wr a t v) (wr a' t v) :=
  (h.write t v).mono (fun _ => List.mem_cons.1)

theorem AgreeOn.write_same (h : AgreeOn n P a a') (t : Nat) (v : α) : AgreeOn n P (wr a t v) (wr a' t v) :=
  (h.write t v).mono (fun _ => Or.inr)

/-- A fold of writes whose values agree whenever the arrays agree on `P`.  The list comes first so
    that `β` is known when the value functions are elaborated: a `p.1` on a binder of unknown type is
    postponed, and unifying the postponed term with the goal unfolds `wr` down to `Array.set` before
    it fails. -/
theorem AgreeOn.foldl_write {β : Type} (l : List β) (t : β → Nat) (val val' : Array α → β → α)
    (hval : ∀ a a' b, b ∈ l → AgreeOn n P a a' → val a b = val' a' b) :
    ∀ {a a' : Array α}, AgreeOn n P a a' →
      AgreeOn n P (l.foldl (fun a b => wr a (t b) (val a b)) a)
                (l.foldl (fun a b => wr a (t b) (val' a b)) a') := by
  induction l with
  | nil => intro a a' h; exact h
  | cons b l ih =>
    intro a a' h
    rw [List.foldl_cons, List.foldl_cons, hval a a' b (List.mem_cons_self ..) h]
    exact ih (fun a a' b' hb' => hval a a' b' (List.mem_cons_of_mem _ hb')) (h.write_same (t b) _)

theorem AgreeOn.foldl_flatMap {β : Type} (S : β → List Nat) (f : Array α → β → Array α)
    (step : ∀ {P : Nat → Prop} {a a' : Array α} (b : β), AgreeOn n P a a' →
      AgreeOn n (fun i => P i ∨ i ∈ S b) (f a b) (f a' b)) (l : List β) :
    ∀ {P : Nat → Prop} {a a' : Array α}, AgreeOn n P a a' →
      AgreeOn n (fun i => P i ∨ i ∈ l.flatMap S) (l.foldl f a) (l.foldl f a') := by
  induction l with
  | nil => intro P a a' h; exact h.mono (fun i hi => by simpa using hi)
  | cons b l ih =>
    intro P a a' h
    refine (ih (step b h)).mono ?_
    intro i hi
    rw [List.flatMap_cons, List.mem_append] at hi
    rcases hi with hi | hi | hi
    · exact Or.inl (Or.inl hi)
    · exact Or.inl (Or.inr hi)
    · exact Or.inr hi

theorem AgreeOn.foldl_const {β : Type} (t : β → Nat) (v : β → α) (l : List β) (h : AgreeOn n P a a') :
    AgreeOn n (fun i => P i ∨ i ∈ l.map t)
      (l.foldl (fun a b => wr a (t b) (v b)) a) (l.foldl (fun a b => wr a (t b) (v b)) a') := by
  refine (AgreeOn.foldl_flatMap (fun b => [t b]) _ (fun b h => (h.write (t b) (v b)).mono ?_) l h).mono ?_
  · intro i hi
    rcases hi with hi | hi
    · exact Or.inr hi
    · exact Or.inl (List.mem_singleton.1 hi)
  · intro i hi
    rcases hi with hi | hi
    · exact Or.inl hi
    · obtain ⟨b, hb, rfl⟩ := List.mem_map.1 hi
      exact Or.inr (List.mem_flatMap.2 ⟨b, hb, List.mem_singleton.2 rfl⟩)

theorem AgreeOn.eq_of_all (h : AgreeOn n P a a') (hall : ∀ i, i < n → P i) : a = a' := by
  apply Array.ext (h.size.trans h.size'.symm)
  intro i hi hi'
  have := h.read i (hall i (h.size ▸ hi))
  simpa [rd, Array.getD, hi, hi'] using this

end AgreeOn

section OptFold
variable {β γ σ : Type}

theorem foldl_bind_none (g : γ → β → Option γ) (l : List β) :
    l.foldl (fun (acc : Option γ) e => acc.bind fun w => g w e) none = none := by
  induction l with
  | nil => rfl
  | cons x l ih => simpa using ih

/-- Soundness of a replayed check: if every step that passes the check `chk` carries the relation
    `R` from the old checker state to the new one, a passing replay of the whole fold carries it from
    the first to the last. -/
theorem foldl_check_sound (R : γ → σ → σ → Prop) (chk : γ → β → Option γ) (f f' : σ → β → σ)
    (step : ∀ w w1 b x x', R w x x' → chk w b = some w1 → R w1 (f x b) (f' x' b)) (l : List β) :
    ∀ w w' x x', R w x x' →
      l.foldl (fun (acc : Option γ) b => acc.bind fun w => chk w b) (some w) = some w' →
      R w' (l.foldl f x) (l.foldl f' x') := by
  induction l with
  | nil =>
    intro w w' x x' h hc
    cases hc; exact h
  | cons b l ih =>
    intro w w' x x' h hc
    rw [List.foldl_cons, Option.bind_some] at hc
    cases hg : chk w b with
    | none => rw [hg, foldl_bind_none] at hc; cases hc
    | some w1 => rw [hg] at hc; exact ih w1 w' _ _ (step w w1 b x x' h hg) hc

end OptFold

/-- replay of one `DRow` on the written sets; `none` = some read hits an unwritten slot -/
def dCheckRow (W : List Nat × List Nat) (r : DRow) : Option (List Nat × List Nat) :=
  let WL := W.1
  let WU? := r.u.foldl (fun (acc : Option (List Nat)) e =>
    acc.bind fun WU =>
      let WU := e.t :: WU
      if e.pairs.all (fun p => WL.contains p.1 && WU.contains p.2) then some WU else none) (some W.2)
  WU?.bind fun WU =>
    let WL? := r.l.foldl (fun (acc : Option (List Nat)) e =>
      acc.bind fun WLc =>
        let WLc := e.t :: WLc
        if e.pairs.all (fun p => WLc.contains p.1 && WU.contains p.2) && WU.contains r.uii
        then some WLc else none) (some (r.lii :: WL))
    WL?.map fun WL' => (WL', WU)

def dCheck (rows : List DRow) (nL nU : Nat) : Bool :=
  match rows.foldl (fun (acc : Option (List Nat × List Nat)) r => acc.bind fun W => dCheckRow W r)
      (some ([], [])) with
  | none => false
  | some W => (List.range nL).all (fun i => W.1.contains i) && (List.range nU).all (fun i => W.2.contains i)

section Doolittle
variable {α : Type} [OfNat α 0] [OfNat α 1] [Sub α] [Mul α] [Div α] {nL nU : Nat}

/-! `doolittleCell` cut into its row step `dRowStep`, and that into the per-entry steps `dUStep`, `dLStep` of
the `U` and the `L` phase, so that each can be matched with the checker step that replays it. -/

def dUStep (A L U : Array α) (e : DEntry) : Array α :=
  let U := wr U e.t (match e.a with | some a => rd A a | none => 0)
  e.pairs.foldl (fun U p => wr U e.t (rd U e.t - rd L p.1 * rd U p.2)) U

def dLStep (A U : Array α) (uii : Nat) (L : Array α) (e : DEntry) : Array α :=
  let L := wr L e.t (match e.a with | some a => rd A a | none => 0)
  let L := e.pairs.foldl (fun L p => wr L e.t (rd L e.t - rd L p.1 * rd U p.2)) L
  wr L e.t (rd L e.t / rd U uii)

def dRowStep (A : Array α) (LU : Array α × Array α) (r : DRow) : Array α × Array α :=
  let U := r.u.foldl (dUStep A LU.1) LU.2
  (r.l.foldl (dLStep A U r.uii) (wr LU.1 r.lii 1), U)

theorem doolittleCell_eq_foldl (rows : List DRow) (A : Array α) (LU : Array α × Array α) :
    doolittleCell rows A LU = rows.foldl (dRowStep A) LU := rfl

def dCheckU (WL : List Nat) (WU : List Nat) (e : DEntry) : Option (List Nat) :=
  if e.pairs.all (fun p => WL.contains p.1 && (e.t :: WU).contains p.2) then some (e.t :: WU) else none

def dCheckL (WU : List Nat) (uii : Nat) (WLc : List Nat) (e : DEntry) : Option (List Nat) :=
  if e.pairs.all (fun p => (e.t :: WLc).contains p.1 && WU.contains p.2) && WU.contains uii
  then some (e.t :: WLc) else none

theorem dCheckRow_eq (W : List Nat × List Nat) (r : DRow) :
    dCheckRow W r =
      (r.u.foldl (fun (acc : Option (List Nat)) e => acc.bind fun WU => dCheckU W.1 WU e) (some W.2)).bind
        fun WU =>
          (r.l.foldl (fun (acc : Option (List Nat)) e => acc.bind fun WLc => dCheckL WU r.uii WLc e)
            (some (r.lii :: W.1))).map fun WL' => (WL', WU) := rfl

theorem dUStep_agree (A : Array α) {WL : List Nat} {L L' : Array α} (hL : AgreeOn nL (· ∈ WL) L L')
    (WU W1 : List Nat) (e : DEntry) (U U' : Array α) (h : AgreeOn nU (· ∈ WU) U U')
    (hc : dCheckU WL WU e = some W1) :
    AgreeOn nU (· ∈ W1) (dUStep A L U e) (dUStep A L' U' e) := by
  unfold dCheckU at hc
  split at hc
  · rename_i hp
    cases hc
    rw [List.all_eq_true] at hp
    simp only [Bool.and_eq_true, List.contains_iff_mem] at hp
    exact AgreeOn.foldl_write e.pairs (fun _ => e.t) (fun U p => rd U e.t - rd L p.1 * rd U p.2)
      (fun U p => rd U e.t - rd L' p.1 * rd U p.2) (by
        intro a a' p hpm hag
        rw [hag.read e.t (List.mem_cons_self ..), hL.read p.1 (hp p hpm).1, hag.read p.2 (hp p hpm).2])
      (h.write_cons e.t (match e.a with | some a => rd A a | none => 0))
  · cases hc

theorem dLStep_agree (A : Array α) {WU : List Nat} {U U' : Array α} (hU : AgreeOn nU (· ∈ WU) U U')
    (uii : Nat) (WL W1 : List Nat) (e : DEntry) (L L' : Array α) (h : AgreeOn nL (· ∈ WL) L L')
    (hc : dCheckL WU uii WL e = some W1) :
    AgreeOn nL (· ∈ W1) (dLStep A U uii L e) (dLStep A U' uii L' e) := by
  unfold dCheckL at hc
  split at hc
  · rename_i hp
    cases hc
    simp only [Bool.and_eq_true, List.contains_iff_mem, List.all_eq_true] at hp
    have h2 := AgreeOn.foldl_write e.pairs (fun _ => e.t) (fun L p => rd L e.t - rd L p.1 * rd U p.2)
      (fun L p => rd L e.t - rd L p.1 * rd U' p.2) (by
        intro a a' p hpm hag
        rw [hag.read e.t (List.mem_cons_self ..), hag.read p.1 (hp.1 p hpm).1, hU.read p.2 (hp.1 p hpm).2])
      (h.write_cons e.t (match e.a with | some a => rd A a | none => 0))
    unfold dLStep
    simp only []
    rw [h2.read e.t (List.mem_cons_self ..), hU.read uii hp.2]
    exact h2.write_same e.t _
  · cases hc

theorem dRowStep_agree (A : Array α) (W W1 : List Nat × List Nat) (r : DRow)
    (LU LU' : Array α × Array α)
    (h : AgreeOn nL (· ∈ W.1) LU.1 LU'.1 ∧ AgreeOn nU (· ∈ W.2) LU.2 LU'.2)
    (hc : dCheckRow W r = some W1) :
    AgreeOn nL (· ∈ W1.1) (dRowStep A LU r).1 (dRowStep A LU' r).1 ∧
    AgreeOn nU (· ∈ W1.2) (dRowStep A LU r).2 (dRowStep A LU' r).2 := by
  rw [dCheckRow_eq] at hc
  obtain ⟨WU, hu, hc⟩ := Option.bind_eq_some_iff.1 hc
  obtain ⟨WL', hl, rfl⟩ := Option.map_eq_some_iff.1 hc
  have hU := foldl_check_sound (fun W U U' => AgreeOn nU (· ∈ W) U U') (dCheckU W.1)
    (dUStep A LU.1) (dUStep A LU'.1) (dUStep_agree A h.1) r.u W.2 WU LU.2 LU'.2 h.2 hu
  exact ⟨foldl_check_sound (fun W L L' => AgreeOn nL (· ∈ W) L L') (dCheckL WU r.uii)
    (dLStep A _ r.uii) (dLStep A _ r.uii) (dLStep_agree A hU r.uii) r.l (r.lii :: W.1) WL'
    (wr LU.1 r.lii 1) (wr LU'.1 r.lii 1) (h.1.write_cons r.lii 1) hl, hU⟩

theorem dCheck_sound (rows : List DRow) (nL nU : Nat) (hc : dCheck rows nL nU = true)
    (A L U L' U' : Array α) (hL : L.size = nL) (hL' : L'.size = nL) (hU : U.size = nU) (hU' : U'.size = nU) :
    doolittleCell rows A (L, U) = doolittleCell rows A (L', U') := by
  unfold dCheck at hc
  split at hc
  · cases hc
  · rename_i W hW
    simp only [Bool.and_eq_true, List.all_eq_true, List.mem_range, List.contains_iff_mem] at hc
    obtain ⟨h1, h2⟩ := foldl_check_sound
      (fun W LU LU' => AgreeOn nL (· ∈ W.1) LU.1 LU'.1 ∧ AgreeOn nU (· ∈ W.2) LU.2 LU'.2)
      dCheckRow (dRowStep A) (dRowStep A) (dRowStep_agree A) rows ([], []) W (L, U) (L', U')
      ⟨⟨hL, hL', nofun⟩, ⟨hU, hU', nofun⟩⟩ hW
    rw [doolittleCell_eq_foldl, doolittleCell_eq_foldl]
    exact Prod.ext (h1.eq_of_all hc.1) (h2.eq_of_all hc.2)

end Doolittle

/-! The initialisation phase of `mozartCell` writes `A`'s entries, the unit diagonal and explicit zeros
into `L`/`U` without reading them; if these writes cover every slot, the two arrays are equal after
that phase whatever they held before, and the elimination phase is then the same function applied
to the same arguments. -/

section Mozart
variable {α : Type} [OfNat α 0] [OfNat α 1] [Sub α] [Mul α] [Div α] {n : Nat}

def mInitL (ini : List MInit) : List Nat :=
  ini.flatMap (fun r => r.lii :: r.ljiAji.map (·.1)) ++ ini.flatMap (·.fillL)
def mInitU (ini : List MInit) : List Nat :=
  ini.flatMap (fun r => r.ujiAji.map (·.1)) ++ ini.flatMap (·.fillU)

def mCheck (ini : List MInit) (nL nU : Nat) : Bool :=
  (List.range nL).all (fun i => (mInitL ini).contains i) && (List.range nU).all (fun i => (mInitU ini).contains i)

def mozartInitL (A : Array α) (ini : List MInit) (L : Array α) : Array α :=
  ini.foldl (fun L r => r.fillL.foldl (fun L i => wr L i 0) L)
    (ini.foldl (fun L r => r.ljiAji.foldl (fun L p => wr L p.1 (rd A p.2)) (wr L r.lii 1)) L)

def mozartInitU (A : Array α) (ini : List MInit) (U : Array α) : Array α :=
  ini.foldl (fun U r => r.fillU.foldl (fun U i => wr U i 0) U)
    (ini.foldl (fun U r => r.ujiAji.foldl (fun U p => wr U p.1 (rd A p.2)) U) U)

/-- `mozartCell` is its elimination phase (the kernel with an empty initialisation table) after
    the initialisation of `L` and of `U`, which do not interact -/
theorem mozartCell_init (ini : List MInit) (rows : List MRow) (A : Array α) (LU : Array α × Array α) :
    mozartCell ini rows A LU =
      mozartCell [] rows A (mozartInitL A ini LU.1, mozartInitU A ini LU.2) := by
  unfold mozartCell mozartInitL mozartInitU
  simp only [List.foldl_nil]
  rw [foldl_prod (fun L (r : MInit) => r.ljiAji.foldl (fun L p => wr L p.1 (rd A p.2)) (wr L r.lii 1))
    (fun U (r : MInit) => r.ujiAji.foldl (fun U p => wr U p.1 (rd A p.2)) U)]

theorem mFill_agree (f : MInit → List Nat) (ini : List MInit) {P : Nat → Prop} {a a' : Array α}
    (h : AgreeOn n P a a') :
    AgreeOn n (fun i => P i ∨ i ∈ ini.flatMap f)
      (ini.foldl (fun U r => (f r).foldl (fun U i => wr U i 0) U) a)
      (ini.foldl (fun U r => (f r).foldl (fun U i => wr U i 0) U) a') :=
  AgreeOn.foldl_flatMap f _ (fun r h =>
    (h.foldl_const (fun i : Nat => i) (fun _ => (0 : α)) (f r)).mono (fun i hi => by simpa using hi)) ini h

theorem mozartInitL_agree (A : Array α) (ini : List MInit) {L L' : Array α}
    (hL : L.size = n) (hL' : L'.size = n) :
    AgreeOn n (· ∈ mInitL ini) (mozartInitL A ini L) (mozartInitL A ini L') := by
  have h0 : AgreeOn n (fun _ => False) L L' := ⟨hL, hL', nofun⟩
  have h1 := AgreeOn.foldl_flatMap (fun r : MInit => r.lii :: r.ljiAji.map (·.1))
    (fun L r => r.ljiAji.foldl (fun L p => wr L p.1 (rd A p.2)) (wr L r.lii 1))
    (fun r h => ((h.write r.lii 1).foldl_const (fun p : Nat × Nat => p.1) (fun p => rd A p.2)
      r.ljiAji).mono (fun i hi => by
        rcases hi with hi | hi
        · exact Or.inl (Or.inr hi)
        · rcases List.mem_cons.1 hi with hi | hi
          · exact Or.inl (Or.inl hi)
          · exact Or.inr hi)) ini h0
  exact (mFill_agree (·.fillL) ini h1).mono (fun i hi => by
    rcases List.mem_append.1 hi with hi | hi
    · exact Or.inl (Or.inr hi)
    · exact Or.inr hi)

theorem mozartInitU_agree (A : Array α) (ini : List MInit) {U U' : Array α}
    (hU : U.size = n) (hU' : U'.size = n) :
    AgreeOn n (· ∈ mInitU ini) (mozartInitU A ini U) (mozartInitU A ini U') := by
  have h0 : AgreeOn n (fun _ => False) U U' := ⟨hU, hU', nofun⟩
  have h1 := AgreeOn.foldl_flatMap (fun r : MInit => r.ujiAji.map (·.1))
    (fun U r => r.ujiAji.foldl (fun U p => wr U p.1 (rd A p.2)) U)
    (fun r h => h.foldl_const (fun p : Nat × Nat => p.1) (fun p => rd A p.2) r.ujiAji) ini h0
  exact (mFill_agree (·.fillU) ini h1).mono (fun i hi => by
    rcases List.mem_append.1 hi with hi | hi
    · exact Or.inl (Or.inr hi)
    · exact Or.inr hi)

theorem mCheck_sound (ini : List MInit) (rows : List MRow) (nL nU : Nat) (hc : mCheck ini nL nU = true)
    (A L U L' U' : Array α) (hL : L.size = nL) (hL' : L'.size = nL) (hU : U.size = nU) (hU' : U'.size = nU) :
    mozartCell ini rows A (L, U) = mozartCell ini rows A (L', U') := by
  unfold mCheck at hc
  simp only [Bool.and_eq_true, List.all_eq_true, List.mem_range, List.contains_iff_mem] at hc
  rw [mozartCell_init ini rows A (L, U), mozartCell_init ini rows A (L', U'),
    (mozartInitL_agree A ini hL hL').eq_of_all hc.1, (mozartInitU_agree A ini hU hU').eq_of_all hc.2]

end Mozart

section Discharge
variable {α : Type} [OfNat α 0] [OfNat α 1] [Add α] [Sub α] [Mul α] [Div α]

def luCheck (la : LinAlg) (nL nU : Nat) : Bool :=
  match la.kind with
  | .doolittle => dCheck la.dRows nL nU
  | .mozart => mCheck la.mInit nL nU
  | _ => false

theorem luCheck_sound (s : SolverCfg α) (nL nU : Nat) (h : luCheck s.la nL nU = true) :
    LUOverwrites s nL nU := by
  intro A L U L' U' h1 h2 h3 h4
  unfold luCheck at h
  unfold luCellSep
  cases hk : s.la.kind <;> simp only [hk] at h ⊢
  · exact dCheck_sound _ nL nU h A L U L' U' h1 h2 h3 h4
  · exact mCheck_sound _ _ nL nU h A L U L' U' h1 h2 h3 h4
  · cases h
  · cases h

theorem LUInv_of_check (s : SolverCfg α) (sc : Scratch α) (nL nU : Nat)
    (h : luCheck s.la nL nU = true) (hsz : sc.lower.size = sc.upper.size)
    (hL : ∀ c, c < sc.lower.size → (sc.lower.getD c #[]).size = nL)
    (hU : ∀ c, c < sc.upper.size → (sc.upper.getD c #[]).size = nU) : LUInv s sc := by
  intro _ c
  by_cases hc : c < sc.lower.size
  · rw [hL c hc, hU c (hsz ▸ hc)]
    exact luCheck_sound s nL nU h
  · have hc' : ¬ c < sc.upper.size := hsz ▸ hc
    have e1 : (sc.lower.getD c #[]).size = 0 := by simp [Array.getD, hc]
    have e2 : (sc.upper.getD c #[]).size = 0 := by simp [Array.getD, hc']
    rw [e1, e2]
    exact LUOverwrites_zero s

end Discharge

end Micm
