/-
C14 — species are addressed by name consistently.

"The name-to-index map of a built solver is a bijection onto 0..N-1 that agrees with the list of
variable names, with state reordering on or off; per-species absolute tolerances refer to the same
species; tolerance properties are honoured for species of every phase."

About the model definitions `markowitzRow`/`markowitz`, `nmInsert`/`nmOfNames`/`nmLookup`,
`SystemDecl.uniqueNames`/`stateSize`, `getSpeciesMap`, `setAbsoluteTolerances`, `build` of
`Micm/Model/Builder.lean`.

Vocabulary (defined in `Micm/Lemmas/Builder.lean`):
 * `nmKeys m`: the keys of the association list `m`, in list order; `NmSorted m`: keys strictly
   increasing (the `std::map` invariant; implies distinct keys).
 * `jacPattern n t`: the `n × n` 0/1 matrix that `GetSpeciesMap` hands to the reordering.
 * `reorderNames names perm = [names[perm[0]], names[perm[1]], …]`.
 * `tolAssigns sys : List (String × α)`: the (key, value) assignments `tolerances[map.at(key)] = value`
   that `SetAbsoluteTolerances` performs, in execution order: gas species in declaration order
   (key = species name), then the phases in iteration order, species in declaration order
   (key = "<phase>.<name>"); every species with an "absolute tolerance" property contributes,
   parameterized or not.
 * `TolOnNonParam sys`: every species carrying a tolerance is non-parameterized.
-/
import Micm.Lemmas.Builder

namespace Micm

/-- `DiagonalMarkowitzReorder`: for every `order ≥ 1` and every pattern the call returns, and the result is a permutation of
    `0 … order-1` (only exchanges of two in-range entries are applied to `Array.range order`). -/
theorem C14_markowitz_perm (order : Nat) (pat : IMat) (h : 1 ≤ order) :
    ∃ perm, markowitz order pat = .ok perm ∧ perm.size = order ∧ perm.toList.Perm (List.range order) :=
  markowitz_perm order pat h

/-- `order = 0`: the loop bound `order - 1` wraps around; the call does not return.  (This is why
    the builder must reject an empty system before `GetSpeciesMap`, see `C20_build_no_species`.) -/
theorem C14_markowitz_zero (pat : IMat) : markowitz 0 pat = .error .hang := rfl

/-- one `row` iteration leaves the permutation vector alone or exchanges entries `row` and `j` for
    some `row < j < order` -/
theorem C14_markowitzRow_swap (order : Nat) (perm : Array Nat) (pat : IMat) (row : Nat) :
    (markowitzRow order (perm, pat) row).1 = perm ∨
    ∃ j, row < j ∧ j < order ∧
      (markowitzRow order (perm, pat) row).1
        = (perm.setIfInBounds row (perm.getD j 0)).setIfInBounds j (perm.getD row 0) :=
  markowitzRow_fst order perm pat row

/-- `std::map`: `m[k] = v` then `m.find(k')` (any association list) -/
theorem C14_nmLookup_nmInsert (m : NameMap) (k : String) (v : Nat) (k' : String) :
    nmLookup (nmInsert m k v) k' = if k' = k then some v else nmLookup m k' :=
  nmLookup_nmInsert m k v k'

/-- insertion keeps the keys strictly increasing, and the key set grows by exactly `k` -/
theorem C14_nmInsert_sorted (m : NameMap) (hm : NmSorted m) (k : String) (v : Nat) :
    NmSorted (nmInsert m k v) ∧ (nmKeys (nmInsert m k v)).Nodup ∧
    ∀ k', k' ∈ nmKeys (nmInsert m k v) ↔ k' = k ∨ k' ∈ nmKeys m :=
  ⟨hm.nmInsert k v, (hm.nmInsert k v).nodup_keys, mem_nmKeys_nmInsert m k v⟩

/-- the first map of `GetSpeciesMap`: for distinct names `names[i] ↦ i`, nothing else -/
theorem C14_nmOfNames (names : List String) (hn : names.Nodup) :
    (∀ i (h : i < names.length), nmLookup (nmOfNames names) names[i] = some i) ∧
    (∀ k, k ∈ nmKeys (nmOfNames names) ↔ k ∈ names) ∧
    (∀ k i, nmLookup (nmOfNames names) k = some i ↔ names[i]? = some k) ∧
    NmSorted (nmOfNames names) ∧ (nmOfNames names).length = names.length :=
  have h := NmIndexes.nmOfNames hn
  ⟨h.lookup, h.keys, h.lookup_eq_some_iff hn, h.sorted, h.length_eq hn⟩

/-- the key set does not need distinct names -/
theorem C14_nmOfNames_keys (names : List String) (k : String) : k ∈ nmKeys (nmOfNames names) ↔ k ∈ names :=
  mem_nmKeys_nmOfNames names k

section
variable {α : Type}

/-- `System::StateSize()` is the number of `System::UniqueNames()` -/
theorem C14_stateSize (sys : SystemDecl α) : sys.stateSize = sys.uniqueNames.length := sys.stateSize_eq

/-- If `GetSpeciesMap` returns `m` and the unique names are distinct, then with
    `n = #uniqueNames`:
    the keys of `m` are exactly the unique names, each once; `m` maps every unique name to an index
    `< n`; nothing else has an index; distinct names have distinct indices; every index `< n` is
    hit.  With reordering off the index of `names[i]` is `i`; with reordering on there is the
    permutation `perm` returned by `DiagonalMarkowitzReorder` (a permutation of `0 … n-1`) and the
    index of `names[perm[i]]` is `i`. -/
theorem C14_bijection {sys : SystemDecl α} {procs : List (Process α)} {reorder : Bool} {m : NameMap}
    (h : getSpeciesMap sys procs reorder = .ok m) (hn : sys.uniqueNames.Nodup) :
    (nmKeys m).Perm sys.uniqueNames ∧ NmSorted m ∧ m.length = sys.uniqueNames.length ∧
    (∀ k ∈ sys.uniqueNames, ∃ i, i < sys.uniqueNames.length ∧ nmLookup m k = some i) ∧
    (∀ k i, nmLookup m k = some i → k ∈ sys.uniqueNames ∧ i < sys.uniqueNames.length) ∧
    (∀ k k' i, nmLookup m k = some i → nmLookup m k' = some i → k = k') ∧
    (∀ i, i < sys.uniqueNames.length → ∃ k ∈ sys.uniqueNames, nmLookup m k = some i) ∧
    (reorder = false → ∀ i (hi : i < sys.uniqueNames.length), nmLookup m sys.uniqueNames[i] = some i) ∧
    (reorder = true → ∃ t perm,
        ProcessSet.build procs (nmOfNames sys.uniqueNames) = .ok t ∧
        markowitz sys.stateSize (jacPattern sys.stateSize t) = .ok perm ∧
        perm.size = sys.uniqueNames.length ∧ perm.toList.Perm (List.range sys.uniqueNames.length) ∧
        ∀ i, i < sys.uniqueNames.length → nmLookup m (sys.uniqueNames.getD (perm.getD i 0) "") = some i) := by
  obtain ⟨names', hperm, hidx, hoff, hon⟩ := getSpeciesMap_ok_indexes h hn
  have hn' : names'.Nodup := hperm.nodup_iff.2 hn
  have hlen : names'.length = sys.uniqueNames.length := hperm.length_eq
  refine ⟨(hidx.keys_perm hn').trans hperm, hidx.sorted, (hidx.length_eq hn').trans hlen, ?_, ?_, ?_, ?_, ?_, ?_⟩
  · intro k hk
    obtain ⟨i, hi, hl⟩ := hidx.lookup_of_mem (hperm.mem_iff.2 hk)
    exact ⟨i, hlen ▸ hi, hl⟩
  · intro k i hl
    refine ⟨hperm.mem_iff.1 ((hidx.keys k).1 ((nmLookup_isSome_iff m k).1 (by simp [hl]))), ?_⟩
    exact hlen ▸ hidx.lookup_lt hn' hl
  · intro k k' i hl hl'
    exact hidx.lookup_inj hn' hl hl'
  · intro i hi
    have hi' : i < names'.length := hlen ▸ hi
    exact ⟨names'[i], hperm.mem_iff.1 (List.getElem_mem hi'), hidx.lookup i hi'⟩
  · intro hr i hi
    have e := hoff hr
    subst e
    exact hidx.lookup i hi
  · intro hr
    obtain ⟨t, perm, ht, hm, hs, hp, e⟩ := hon hr
    refine ⟨t, perm, ht, hm, hs, hp, fun i hi => ?_⟩
    have hi' : i < names'.length := hlen ▸ hi
    have := hidx.lookup i hi'
    have e2 : names'[i] = sys.uniqueNames.getD (perm.getD i 0) "" := by
      subst e
      simp [reorderNames]
    rw [← e2]
    exact this

/-- `variable_names_` of a built solver is the inverse of its species map: it has `n` entries, is a
    rearrangement of the unique names (the unique names themselves with reordering off), and
    `variableNames[i] = name ↔ speciesMap[name] = i` for every `i` and every string `name`. -/
theorem C14_names_agree [OfNat α 0] {dflt : α} {labelsOf : List (Process α) → List String}
    {inp : BuildInput α} {b : Built α} {sys : SystemDecl α}
    (h : build dflt labelsOf inp = .ok b) (hsys : inp.system = some sys) (hn : sys.uniqueNames.Nodup) :
    b.variableNames.length = sys.uniqueNames.length ∧ b.nSpecies = sys.uniqueNames.length ∧
    b.variableNames.Perm sys.uniqueNames ∧
    (inp.reorder = false → b.variableNames = sys.uniqueNames) ∧
    (∀ i name, b.variableNames[i]? = some name ↔ nmLookup b.speciesMap name = some i) := by
  obtain ⟨-, -, hg, -, -, hv, hns, -, -⟩ := build_ok_fields h hsys
  obtain ⟨names', hperm, hidx, hoff, -⟩ := getSpeciesMap_ok_indexes hg hn
  have hn' : names'.Nodup := hperm.nodup_iff.2 hn
  have hlen : names'.length = sys.uniqueNames.length := hperm.length_eq
  have hvn : b.variableNames = names' := by
    rw [hv, sys.stateSize_eq, ← hlen]
    exact hidx.variableNames hn'
  rw [hvn]
  refine ⟨hlen, by rw [hns, sys.stateSize_eq], hperm, hoff, fun i name => ?_⟩
  exact (hidx.lookup_eq_some_iff hn' name i).symm

/-- `SetAbsoluteTolerances` does not throw (`map::at`) when every species carrying a tolerance is
    non-parameterized and the keys of the map are the unique names. -/
theorem C14_setAbsoluteTolerances_ok [OfNat α 0] (dflt : α) (sys : SystemDecl α) (m : NameMap)
    (hk : ∀ k, k ∈ nmKeys m ↔ k ∈ sys.uniqueNames) (ht : TolOnNonParam sys) :
    ∃ a, setAbsoluteTolerances dflt sys m = .ok a := by
  rw [setAbsoluteTolerances_eq, applyTol_isOk_iff]
  intro kv hkv
  rw [hk]
  exact (tolAssigns_keys_sublist sys ht).subset (List.mem_map_of_mem hkv)

/-- it throws `std::out_of_range` exactly when some species carrying a tolerance has a key that is
    not a unique name (a parameterized species with a tolerance, unless a like-named
    non-parameterized one exists) -/
theorem C14_setAbsoluteTolerances_error_iff [OfNat α 0] (dflt : α) (sys : SystemDecl α) (m : NameMap)
    (hk : ∀ k, k ∈ nmKeys m ↔ k ∈ sys.uniqueNames) (e : Err) :
    setAbsoluteTolerances dflt sys m = .error e ↔
      e = .outOfRange ∧ ∃ kv ∈ tolAssigns sys, kv.1 ∉ sys.uniqueNames := by
  obtain ⟨hok, herr⟩ := setAbsoluteTolerances_outcome dflt sys hk
  cases hc : (tolAssigns sys).all fun kv => sys.uniqueNames.contains kv.1 with
  | true =>
    obtain ⟨a, ha⟩ := hok hc
    rw [ha]
    exact ⟨nofun, fun ⟨_, kv, hkv, hnot⟩ => absurd ((tolCheck_eq_true_iff _ _).1 hc kv hkv) hnot⟩
  | false =>
    rw [herr hc]
    obtain ⟨kv, hkv, hnot⟩ := List.all_eq_false.1 hc
    exact ⟨fun h => ⟨(Except.error.inj h).symm, kv, hkv, by simpa using hnot⟩, fun h => h.1 ▸ rfl⟩

/-- membership in `tolAssigns`, spelled out: gas species by bare name, non-gas species by
    "<phase>.<name>" -/
theorem C14_mem_tolAssigns {sys : SystemDecl α} {kv : String × α} :
    kv ∈ tolAssigns sys ↔
      (∃ s ∈ sys.gas, s.atol = some kv.2 ∧ kv.1 = s.name) ∨
      (∃ ph ∈ sys.phases, ∃ s ∈ ph.2, s.atol = some kv.2 ∧ kv.1 = ph.1 ++ "." ++ s.name) := by
  unfold tolAssigns specAssigns
  simp only [List.mem_append, List.mem_filterMap, List.mem_flatMap, Option.map_eq_some_iff, id]
  constructor
  · rintro (⟨s, hs, v, hv, rfl⟩ | ⟨ph, hph, s, hs, v, hv, rfl⟩)
    · exact .inl ⟨s, hs, hv, rfl⟩
    · exact .inr ⟨ph, hph, s, hs, hv, rfl⟩
  · rintro (⟨s, hs, hv, hk⟩ | ⟨ph, hph, s, hs, hv, hk⟩)
    · exact .inl ⟨s, hs, kv.2, hv, by rw [← hk]⟩
    · exact .inr ⟨ph, hph, s, hs, kv.2, hv, by rw [← hk]⟩

/-- with tolerances only on non-parameterized species the tolerance keys are a sub-list of the
    unique names; in particular they are distinct when the unique names are -/
theorem C14_tolerance_keys (sys : SystemDecl α) (ht : TolOnNonParam sys) :
    ((tolAssigns sys).map (·.1)).Sublist sys.uniqueNames ∧
    (sys.uniqueNames.Nodup → ((tolAssigns sys).map (·.1)).Nodup) :=
  ⟨tolAssigns_keys_sublist sys ht, fun hn => (tolAssigns_keys_sublist sys ht).nodup hn⟩

/-- General form (nothing assumed about repeated declarations): the tolerance vector has one entry
    per species; an assignment `(k, v)` that is not followed (in the execution order of
    `tolAssigns`: gas first, then the phases in order) by an assignment to the same index
    determines the entry of its index — a later declaration for the same index overwrites an
    earlier one; an index that no assignment maps to holds the default. -/
theorem C14_tolerances_last_wins [OfNat α 0] {dflt : α} {labelsOf : List (Process α) → List String}
    {inp : BuildInput α} {b : Built α} {sys : SystemDecl α}
    (h : build dflt labelsOf inp = .ok b) (hsys : inp.system = some sys) (hn : sys.uniqueNames.Nodup) :
    b.atol.size = sys.uniqueNames.length ∧
    (∀ l1 l2 k v, tolAssigns sys = l1 ++ (k, v) :: l2 →
      ∃ i, i < sys.uniqueNames.length ∧ nmLookup b.speciesMap k = some i ∧ b.variableNames[i]? = some k ∧
        ((∀ kv ∈ l2, nmLookup b.speciesMap kv.1 ≠ some i) → rd b.atol i = v)) ∧
    (∀ i, i < sys.uniqueNames.length → (∀ kv ∈ tolAssigns sys, nmLookup b.speciesMap kv.1 ≠ some i) →
      rd b.atol i = dflt) := by
  obtain ⟨hvl, -, -, -, hvn⟩ := C14_names_agree h hsys hn
  obtain ⟨-, -, hg, -, ha, -, -, -, -⟩ := build_ok_fields h hsys
  obtain ⟨-, -, hml, -, hrange, -, -, -, -⟩ := C14_bijection hg hn
  rw [setAbsoluteTolerances_eq] at ha
  have hsize : b.atol.size = sys.uniqueNames.length := by
    rw [applyTol_size ha, Array.size_replicate, hml]
  refine ⟨hsize, ?_, ?_⟩
  · intro l1 l2 k v hl
    have hkm : k ∈ nmKeys b.speciesMap :=
      (applyTol_isOk_iff _ _ _).1 ⟨_, ha⟩ (k, v) (by rw [hl]; simp)
    have : (nmLookup b.speciesMap k).isSome = true := (nmLookup_isSome_iff _ _).2 hkm
    obtain ⟨i, hi⟩ := Option.isSome_iff_exists.1 this
    have hlt := (hrange k i hi).2
    refine ⟨i, hlt, hi, (hvn i k).2 hi, fun h2 => ?_⟩
    rw [hl] at ha
    exact applyTol_rd_last ha hi (by rw [Array.size_replicate, hml]; exact hlt) h2
  · intro i hi hnot
    rw [applyTol_rd_of_not_mem ha hnot]
    have : i < b.speciesMap.length := hml ▸ hi
    simp [rd, this]

/-- `C14_tolerances`: the build succeeded, the unique names are distinct and no two tolerance
    declarations have the same key (automatic when tolerances sit only on non-parameterized species,
    `C14_tolerance_keys`).  Then the tolerance vector has one entry per species, and
     * every gas species `s` with tolerance `v` has an index `i` (that of the key `s.name`) with
       `variableNames[i] = s.name` and `atol[i] = v`;
     * every species `s` with tolerance `v` of a non-gas phase `ph` has an index `i` (that of the key
       `ph ++ "." ++ s.name`) with `variableNames[i] = ph ++ "." ++ s.name` and `atol[i] = v`;
     * every other index `< n` holds the default. -/
theorem C14_tolerances [OfNat α 0] {dflt : α} {labelsOf : List (Process α) → List String}
    {inp : BuildInput α} {b : Built α} {sys : SystemDecl α}
    (h : build dflt labelsOf inp = .ok b) (hsys : inp.system = some sys) (hn : sys.uniqueNames.Nodup)
    (hd : ((tolAssigns sys).map (·.1)).Nodup) :
    b.atol.size = sys.uniqueNames.length ∧
    (∀ s ∈ sys.gas, ∀ v, s.atol = some v →
      ∃ i, i < sys.uniqueNames.length ∧ nmLookup b.speciesMap s.name = some i ∧
        b.variableNames[i]? = some s.name ∧ rd b.atol i = v) ∧
    (∀ ph ∈ sys.phases, ∀ s ∈ ph.2, ∀ v, s.atol = some v →
      ∃ i, i < sys.uniqueNames.length ∧ nmLookup b.speciesMap (ph.1 ++ "." ++ s.name) = some i ∧
        b.variableNames[i]? = some (ph.1 ++ "." ++ s.name) ∧ rd b.atol i = v) ∧
    (∀ i, i < sys.uniqueNames.length → (∀ kv ∈ tolAssigns sys, nmLookup b.speciesMap kv.1 ≠ some i) →
      rd b.atol i = dflt) := by
  obtain ⟨hsize, hlast, hdef⟩ := C14_tolerances_last_wins h hsys hn
  obtain ⟨-, -, hg, -, -, -, -, -, -⟩ := build_ok_fields h hsys
  obtain ⟨-, -, -, -, -, hinj, -, -, -⟩ := C14_bijection hg hn
  have key : ∀ k v, (k, v) ∈ tolAssigns sys →
      ∃ i, i < sys.uniqueNames.length ∧ nmLookup b.speciesMap k = some i ∧
        b.variableNames[i]? = some k ∧ rd b.atol i = v := by
    intro k v hkv
    obtain ⟨l1, l2, hl⟩ := List.append_of_mem hkv
    obtain ⟨i, hi, hlk, hv, hrd⟩ := hlast l1 l2 k v hl
    refine ⟨i, hi, hlk, hv, hrd fun kv' hkv' hl' => ?_⟩
    have e : kv'.1 = k := hinj _ _ i hl' hlk
    rw [hl, List.map_append, List.map_cons, List.nodup_append] at hd
    have := (List.nodup_cons.1 hd.2.1).1
    have hk2 : kv'.1 ∈ l2.map (·.1) := List.mem_map_of_mem hkv'
    exact this (e ▸ hk2)
  refine ⟨hsize, ?_, ?_, hdef⟩
  · intro s hs v hv
    exact key s.name v (C14_mem_tolAssigns.2 (.inl ⟨s, hs, hv, rfl⟩))
  · intro ph hph s hs v hv
    exact key _ v (C14_mem_tolAssigns.2 (.inr ⟨ph, hph, s, hs, hv, rfl⟩))

end

namespace C14Ex

def exSys : SystemDecl Nat :=
  { gas := [{ name := "B", atol := some 5 }, { name := "A" }, { name := "M", param := true }],
    phases := [("aq", [{ name := "C", atol := some 7 }, { name := "D" }])] }

/-- `B + A (+ M) → aq.C`, `aq.C → aq.D`, `aq.D → 2 B` -/
def exProcs : List (Process Nat) :=
  [ { reactants := [⟨"B", false⟩, ⟨"A", false⟩, ⟨"M", true⟩], products := [(⟨"aq.C", false⟩, 1)] },
    { reactants := [⟨"aq.C", false⟩], products := [(⟨"aq.D", false⟩, 1)] },
    { reactants := [⟨"aq.D", false⟩], products := [(⟨"B", false⟩, 2)] } ]

def exInput (reorder : Bool) : BuildInput Nat :=
  { system := some exSys, reactions := some exProcs, reorder := reorder }

example : exSys.uniqueNames = ["B", "A", "aq.C", "aq.D"] := by decide
example : exSys.uniqueNames.Nodup := by decide
example : exSys.stateSize = 4 := by decide
example : tolAssigns exSys = [("B", 5), ("aq.C", 7)] := by decide
example : TolOnNonParam exSys := by
  constructor
  · decide
  · decide

/-- reordering off: the map is `names[i] ↦ i` (stored sorted by key) -/
example : (getSpeciesMap exSys exProcs false).toOption = some [("A", 1), ("B", 0), ("aq.C", 2), ("aq.D", 3)] := by
  decide +kernel

/-- reordering on: a non-identity permutation -/
example : (getSpeciesMap exSys exProcs true).toOption = some [("A", 1), ("B", 3), ("aq.C", 2), ("aq.D", 0)] := by
  decide +kernel

example : ((build 1000 (fun _ => []) (exInput false)).toOption.map fun b => (b.variableNames, b.atol.toList))
    = some (["B", "A", "aq.C", "aq.D"], [5, 1000, 7, 1000]) := by
  decide +kernel

theorem exBuilt : ((build 1000 (fun _ => []) (exInput true)).toOption.map fun b => (b.variableNames, b.atol.toList))
    = some (["aq.D", "A", "aq.C", "B"], [1000, 1000, 7, 5]) := by
  decide +kernel

example : ((build 1000 (fun _ => []) (exInput true)).toOption.map fun b => (b.variableNames, b.atol.toList))
    = some (["aq.D", "A", "aq.C", "B"], [1000, 1000, 7, 5]) := exBuilt

theorem exBuild : ∃ b, build 1000 (fun _ => []) (exInput true) = .ok b := by
  cases h : build 1000 (fun _ => []) (exInput true) with
  | ok b => exact ⟨b, rfl⟩
  | error e =>
    have := exBuilt
    rw [h] at this
    cases this

example : ∃ b, build 1000 (fun _ => []) (exInput true) = .ok b ∧
    b.variableNames.Perm ["B", "A", "aq.C", "aq.D"] ∧
    (∀ i name, b.variableNames[i]? = some name ↔ nmLookup b.speciesMap name = some i) ∧
    (∃ i, nmLookup b.speciesMap "aq.C" = some i ∧ rd b.atol i = 7) := by
  obtain ⟨b, hb⟩ := exBuild
  obtain ⟨-, -, hp, -, hv⟩ := C14_names_agree (sys := exSys) hb rfl (by decide)
  obtain ⟨-, -, hph, -⟩ := C14_tolerances (sys := exSys) hb rfl (by decide) (by decide)
  refine ⟨b, hb, hp, hv, ?_⟩
  obtain ⟨i, -, hi, -, hr⟩ := hph ("aq", _) List.mem_cons_self { name := "C", atol := some 7 } List.mem_cons_self 7 rfl
  exact ⟨i, hi, hr⟩

end C14Ex

end Micm

#print axioms Micm.C14_markowitz_perm
#print axioms Micm.C14_markowitz_zero
#print axioms Micm.C14_markowitzRow_swap
#print axioms Micm.C14_nmLookup_nmInsert
#print axioms Micm.C14_nmInsert_sorted
#print axioms Micm.C14_nmOfNames
#print axioms Micm.C14_nmOfNames_keys
#print axioms Micm.C14_stateSize
#print axioms Micm.C14_bijection
#print axioms Micm.C14_names_agree
#print axioms Micm.C14_setAbsoluteTolerances_ok
#print axioms Micm.C14_setAbsoluteTolerances_error_iff
#print axioms Micm.C14_mem_tolAssigns
#print axioms Micm.C14_tolerance_keys
#print axioms Micm.C14_tolerances_last_wins
#print axioms Micm.C14_tolerances
