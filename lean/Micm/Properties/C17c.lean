/-
C17 (the premise, extracted) — the history model of `Properties/C17.lean` treats a copy as a duplicate of the value and a
move as a transfer of the value.  For the C++ that is so when every user-provided copy / move special member function
transfers EVERY data member (and base) of the source to the same member of the target, unconditionally.
`Gen/SpecialMembers.lean` is regenerated on every run by `tools/specials.py` from the typed clang AST of /repo's headers
(instantiated `State`, `Solver`, `Species`, `Process`, `System` and the JIT classes): per class and special member, per
data member, one of `same` / `from:<other member>` / `conditional` / `reset` / `missing` (`base-call` for bases).

The theorems say that on the current source every entry is `same` (or `base-call`), and that the table covers the special
members the property is about.  Dropping a member from a hand-written `operator=`, taking it from a different member,
copying it only under a condition, or leaving a pointer behind in a move changes the table and the theorems stop
holding; the history checks (ASan/UBSan, moved-vs-direct groups, `cpassign`) then look for the failing history.
-/
import Micm.Gen.SpecialMembers

namespace Micm
open Gen

def memberwiseOk (s : String) : Bool := s == "same" || s == "base-call"

/-- **every user-provided copy / move special member function is member-wise complete** -/
theorem C17_special_members_memberwise :
    specialMembers.all (fun r => r.2.2.all fun fs => memberwiseOk fs.2) = true := by
  decide +kernel

/-- the table covers `State` (copy and move, construction and assignment), `Solver` (move), `Species`, `Process`,
    `System` (copy), and a `State` has its 16 data members -/
theorem C17_special_members_cover :
    (["State", "State", "State", "State", "Solver", "Solver", "Species", "Process", "System"].zip
      ["copy-ctor", "copy-assign", "move-ctor", "move-assign", "move-ctor", "move-assign", "copy-assign", "copy-assign",
       "copy-assign"]).all (fun ck => specialMembers.any fun r => r.1 == ck.1 && r.2.1 == ck.2) = true ∧
    (specialMembers.filter fun r => r.1 == "State").all (fun r => r.2.2.length == 16) = true := by
  decide +kernel

#print axioms C17_special_members_memberwise
#print axioms C17_special_members_cover
end Micm
