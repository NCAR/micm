/-
C06 (termination, backward Euler) — `BackwardEuler::Solve` terminates.

The source bounds the Newton iterations of an outer iteration (`max_number_of_steps`) and, implicitly,
the rejected outer iterations (`time_step_reductions.size() + 1`, `C06_be_counters`), but not the accepted
ones.  Over an ordered field, for `0 < time_step`, a first step `0 < h₀ ≤ time_step` (`h₀ = time_step` or
`min(h_start, time_step)` with `h_start > 0`) and reduction factors in `(0, 1]`:

* `accepted ≤ R·(B + 1) + B + 1` where `R = time_step_reductions.size()` and `B` is any natural number with
  `time_step ≤ B · (∏ factors) · h₀` (`C06_be_accepted_bound`);
* hence with more fuel than `(R·(B+1) + B + R + 3) · max(1, max_number_of_steps)` the model never reports
  `outOfFuel` (`C06_be_terminates`), and on an Archimedean field such a bound always exists.

Default parameters (`reductions = ½,½,½,½,⅒`, `h_start = 0`): `B = 160`, at most 971 accepted outer
iterations — attained only by adversarial convergence failures; the point is that the bound is finite and
independent of the mechanism and the state.
-/
import Mathlib.Algebra.Order.Archimedean.Basic
import Micm.Lemmas.BETermination
import Micm.Properties.C06c

namespace Micm
set_option linter.unusedSectionVars false

section BETermination
variable {K : Type} [Field K] [LinearOrder K] [IsStrictOrderedRing K]
variable {o : Ops K} (ho : OrderedOps o) (s : SolverCfg K) (p : BEParams K) (kc : Mat K)
    (atol : Array K) (rtol : K) (T : K)

include ho in
/-- the first step of `beSolve` is positive and at most `time_step` (given `0 < T`, `0 ≤ h_start`) -/
theorem C06_be_initialH_pos (hT : 0 < T) (hs0 : 0 ≤ p.hstart) :
    0 < beInitialH o p T ∧ beInitialH o p T ≤ T := by
  refine ⟨?_, (beInitialH_bounds ho p T hT hs0).2⟩
  rw [beInitialH_eq ho]; split
  · exact hT
  · rename_i h; exact lt_min (lt_of_le_of_ne hs0 (Ne.symm h)) hT

include ho in
theorem beLoop_all_inv (hT : 0 < T) (h0 : K) (hh0 : 0 < h0) (hle0 : h0 ≤ T) (B : Nat)
    (hB : T ≤ (B : K) * (redProd p p.reductions.length * h0)) (hl : RedLegal p)
    (Y : Mat K) (sc : Scratch K) (fuel : Nat) :
    let P := fun r : BEState K => BETimeInv T r ∧ BECtlInv p r ∧ BEAccInv p T h0 B r
    (P (beLoop o s p kc atol rtol T fuel (beInit h0 Y sc)) ∧
      (beLoop o s p kc atol rtol T fuel (beInit h0 Y sc)).done = true) ∨
    (∃ r', P r' ∧ r'.done = false ∧
      beLoop o s p kc atol rtol T fuel (beInit h0 Y sc) = { r' with status := .outOfFuel }) := by
  intro P
  have hred : ∀ x ∈ p.reductions, 0 ≤ x := fun x hx => le_of_lt (hl x hx).1
  exact beLoop_inv' o s p kc atol rtol T P
    (fun r hd h => ⟨BETimeInv_step ho s p kc atol rtol T hred r hd h.1,
      BECtlInv_step o s p kc atol rtol T r hd h.2.1,
      BEAccInv_step ho s p kc atol rtol T hT h0 hh0 hle0 B hB hl r hd h.1 h.2.2⟩)
    fuel _ ⟨BETimeInv_init T hT h0 (le_of_lt hh0) hle0 Y sc, BECtlInv_init p h0 Y sc,
      BEAccInv_init p T h0 hh0 B hB hl Y sc⟩

include ho in
/-- **bound on the accepted outer iterations** (any fuel, any mechanism, any state) -/
theorem C06_be_accepted_bound (hT : 0 < T) (hs0 : 0 ≤ p.hstart) (hl : RedLegal p) (B : Nat)
    (hB : T ≤ (B : K) * (redProd p p.reductions.length * beInitialH o p T))
    (Y : Mat K) (sc : Scratch K) (fuel : Nat) :
    (beSolve o s p kc atol rtol T Y sc fuel).stats.accepted ≤
      p.reductions.length * (B + 1) + B + 1 := by
  obtain ⟨hh0, hle0⟩ := C06_be_initialH_pos ho p T hT hs0
  rw [beSolve_eq]
  simp only []
  rcases beLoop_all_inv ho s p kc atol rtol T hT _ hh0 hle0 B hB hl Y sc fuel with ⟨h, _⟩ | ⟨r', h, _, e⟩
  · exact BEAccInv_bound p T _ B _ h.1 h.2.1 h.2.2
  · rw [e]; exact BEAccInv_bound p T _ B r' h.1 h.2.1 h.2.2

include ho in
/-- **C06_be_terminates**: with more fuel than `(R·(B+1) + B + R + 3)·max(1, max_number_of_steps)` the
    backward-Euler solve never runs out of fuel: its status is `Converged` or
    `AcceptingUnconvergedIntegration` -/
theorem C06_be_terminates (hT : 0 < T) (hs0 : 0 ≤ p.hstart) (hl : RedLegal p) (B : Nat)
    (hB : T ≤ (B : K) * (redProd p p.reductions.length * beInitialH o p T))
    (Y : Mat K) (sc : Scratch K) (fuel : Nat)
    (hfuel : (p.reductions.length * (B + 1) + B + p.reductions.length + 3) * max 1 p.maxSteps < fuel) :
    (beSolve o s p kc atol rtol T Y sc fuel).status = .converged ∨
    (beSolve o s p kc atol rtol T Y sc fuel).status = .acceptingUnconvergedIntegration := by
  obtain ⟨hh0, hle0⟩ := C06_be_initialH_pos ho p T hT hs0
  rw [beSolve_eq]
  simp only []
  rcases beLoop_all_inv ho s p kc atol rtol T hT _ hh0 hle0 B hB hl Y sc fuel with ⟨h, hd⟩ | ⟨r', h, hd', e⟩
  · rcases h.1.fin hd with h4 | ⟨h4, _⟩
    · exact Or.inr h4
    · exact Or.inl h4
  · -- fuel exhausted: every one of the `fuel` iterations recorded a Newton iteration, but the trace is bounded
    exfalso
    have hnd : (beLoop o s p kc atol rtol T fuel (beInit (beInitialH o p T) Y sc)).done = false := by
      rw [e]; exact hd'
    have hlen := beLoop_not_done_trace s p kc atol rtol T fuel _ hnd
    rw [e] at hlen
    simp only [beInit, List.length_nil, Nat.zero_add] at hlen
    have hacc := BEAccInv_bound p T _ B r' h.1 h.2.1 h.2.2
    have hup := h.2.1.upper
    have hrej : r'.stats.rejected ≤ p.reductions.length + 1 := by
      have e1 := h.2.1.rej
      have e2 := h.2.1.nFail
      split at e1 <;> omega
    have hit : r'.iterations ≤ max 1 p.maxSteps := by
      rcases h.2.1.iters with h0 | h0
      · rw [h0]; exact Nat.zero_le _
      · exact le_trans (le_of_lt h0) (le_max_right _ _)
    have h1 : (r'.stats.accepted + r'.stats.rejected) * max 1 p.maxSteps ≤
        (p.reductions.length * (B + 1) + B + 1 + (p.reductions.length + 1)) * max 1 p.maxSteps :=
      Nat.mul_le_mul_right _ (by omega)
    have h2 : (p.reductions.length * (B + 1) + B + p.reductions.length + 3) * max 1 p.maxSteps =
        (p.reductions.length * (B + 1) + B + 1 + (p.reductions.length + 1)) * max 1 p.maxSteps +
          max 1 p.maxSteps := by ring
    omega

include ho in
/-- on an Archimedean field the bound `B` exists: **`BackwardEuler::Solve` terminates** for every
    `0 < time_step`, `0 ≤ h_start` and reduction factors in `(0, 1]` -/
theorem C06_be_terminates_archimedean [Archimedean K] (hT : 0 < T) (hs0 : 0 ≤ p.hstart) (hl : RedLegal p) :
    ∃ F : Nat, ∀ (Y : Mat K) (sc : Scratch K) (fuel : Nat), F < fuel →
      (beSolve o s p kc atol rtol T Y sc fuel).status = .converged ∨
      (beSolve o s p kc atol rtol T Y sc fuel).status = .acceptingUnconvergedIntegration := by
  obtain ⟨hh0, _⟩ := C06_be_initialH_pos ho p T hT hs0
  have hc : 0 < redProd p p.reductions.length * beInitialH o p T :=
    mul_pos (redProd_unit p hl _).1 hh0
  obtain ⟨B, hB⟩ := exists_nat_ge (T / (redProd p p.reductions.length * beInitialH o p T))
  rw [div_le_iff₀ hc] at hB
  exact ⟨_, fun Y sc fuel hf => C06_be_terminates ho s p kc atol rtol T hT hs0 hl B hB Y sc fuel hf⟩

end BETermination

/-! ### the hypotheses hold for the default parameters (`BEEx` of `Lemmas/BackwardEuler.lean`) -/

namespace BEEx

theorem C06_be_default_redLegal : RedLegal params := by
  intro x hx
  simp only [params, List.mem_cons, List.not_mem_nil, or_false] at hx
  rcases hx with rfl | rfl | rfl | rfl | rfl <;> norm_num

/-- default reductions, `time_step = 1`, `h_start = 0`: `∏ factors = 1/160`, `h₀ = 1`, so `B = 160` works -/
theorem C06_be_default_B :
    (1 : ℚ) ≤ ((160 : Nat) : ℚ) * (redProd params params.reductions.length * beInitialH ratOps params 1) := by
  have h1 : beInitialH ratOps params 1 = 1 := by
    rw [beInitialH_eq ratOps_ordered]; simp [params]
  have h2 : redProd params params.reductions.length = 1 / 160 := by
    simp only [redProd, params, List.length_cons, List.length_nil, List.take_succ_cons, List.take_zero,
      List.prod_cons, List.prod_nil]
    norm_num
  rw [h1, h2]; norm_num

example (kind : LUKind) (fuel : Nat) (hf : (5 * 161 + 160 + 5 + 3) * 11 < fuel) :
    (run kind params 1 fuel).status = .converged ∨
    (run kind params 1 fuel).status = .acceptingUnconvergedIntegration :=
  C06_be_terminates ratOps_ordered (cfg kind) params #[#[1]] #[1/10, 1/10] (1/10) 1 (by norm_num)
    (by simp [params]) C06_be_default_redLegal 160 C06_be_default_B #[#[1, 0]] (scratch kind) fuel
    (by simpa [params] using hf)

end BEEx

end Micm
