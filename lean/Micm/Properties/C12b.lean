/-
C12 (continued; the property is quoted in `Micm/Properties/C12.lean`) — "reordered or unreordered
state", the whole solve.

`Micm/Properties/C12.lean` proves the lockstep of two configurations that share the species order
and the equivariance of the single kernels under a relabelling `σ` of the species.  Here: the whole
`rosSolve` on the mechanism relabelled by a permutation `σ` of `0 … n−1` — the name map composed
with `σ` (`relabel σ m`; this is what `DiagonalMarkowitzReorder`, or another listing order of the
species, does to the builder's `species_map`, see `Micm/Properties/C14b.lean`), the forcing/Jacobian
tables rebuilt from it, the initial state and the absolute tolerances relabelled — returns the
relabelled result: same status, final time, counters and step history `(H, error, accepted)`, and
`Y'[c][σ v] = Y[c][v]`.  Any LU variant, CSR/CSC, sparse/dense group length on each side.  The same
for the backward-Euler `beSolve`.

Exact arithmetic: `K` is any field; the primitives of `Ops K` (comparisons, `abs`, `sqrt`, `pow`)
are arbitrary functions, so in particular every ordered field is covered, and there is no "within
rounding of the threshold" case.

Hypothesis "no zero pivot in either ordering" (`PivotsOK` for both runs): LU without pivoting on
`P A Pᵀ` meets the leading principal minors of the *reordered* matrix, which are different numbers;
one ordering may hit an exact zero where the other does not (`C12_linear_algebra_permutation`).

Vocabulary (`Micm/Lemmas/Relabel.lean`, `RelabelLoop.lean`):
* `IsRelabel σ n`: `σ` injective on `ℕ` with `σ i < n ↔ i < n`; `extendRelabel σ n`: a permutation
  of `0 … n−1` extended by the identity (`extendRelabel_isRelabel`);
* `PermMat σ nCells n X X'`: `X`, `X'` are `nCells × n` and `X'[c][σ v] = X[c][v]`;
* `RelabelSetup σ procs m t t' n`: `IsRelabel σ n`, the hypotheses of C02 on `(procs, m, t, n)`
  (`Mechanism`), and `t'` is `ProcessSet.build procs (relabel σ m)`;
* `RelabelEq σ nCells n sameIP r₁ r₂`: the loop states agree up to `σ` (`Y` and, inside a step,
  the initial forcing are relabelled copies; control, status, counters, history equal;
  `jacobian_updates` equal when `sameIP`).
* backward Euler (`Micm/Lemmas/RelabelBE.lean`): `BEStoreInv s nCells n r` (shapes of the scratch the
  Newton update reads), `BERelabelEq σ nCells n r₁ r₂` (`Yn1`, `Yn` relabelled copies; `t`, `H`,
  counters, status, all statistics, history of `H` equal), `BEPivotsOK` (no vanishing pivot in the
  Newton iteration made from a state).  The residual, the clamp `max(·, 0)` and `IsConverged` are
  element-wise, hence commute with `σ` (`C12_be_converged_relabel`).
-/
import Micm.Lemmas.RelabelLoop
import Micm.Lemmas.RelabelBE
import Micm.Properties.C12

open Finset
namespace Micm
set_option linter.unusedSectionVars false
variable {K : Type} [Field K]

section Relabel
variable (o : Ops K) (cs : Consts K) (p : RosParams K) (kc : Mat K) (atol atol' : Array K) (rtol T hm : K)
variable {σ : Nat → Nat} {procs : List (Process K)} {m : NameMap} {t t' : PSTables K} {n : Nat}

/-- a permutation of `0 … n−1`, extended by the identity, is a relabelling; on a name map with
    indices below `n` it relabels like `σ` -/
theorem C12_relabel_extend (σ : Nat → Nat) (n : Nat)
    (hinj : ∀ i, i < n → ∀ j, j < n → σ i = σ j → i = j) (hrng : ∀ i, i < n → σ i < n)
    (m : NameMap) (hm : ∀ e ∈ m, e.2 < n) :
    IsRelabel (extendRelabel σ n) n ∧ (∀ i, i < n → extendRelabel σ n i = σ i) ∧
      relabel (extendRelabel σ n) m = relabel σ m :=
  ⟨extendRelabel_isRelabel σ n hinj hrng, fun _ hi => extendRelabel_lt σ hi, relabel_extend σ n m hm⟩

/-- the relabelled mechanism satisfies the hypotheses of C02 again (distinct names, distinct
    indices below `n`, parameterized reactants unknown to the map) -/
theorem C12_relabel_mechanism (h : RelabelSetup σ procs m t t' n) :
    Mechanism procs (relabel σ m) t' n := h.mech'

/-- **C12 (reordering), forcing on whole matrices**: from relabelled `Y` and `f`, the forcing computed
    with the tables of the relabelled mechanism is the relabelled forcing. -/
theorem C12_forcing_relabel (h : RelabelSetup σ procs m t t' n) (s₁ s₂ : SolverCfg K)
    (ht₁ : s₁.tables = t) (ht₂ : s₂.tables = t') {nCells : Nat} {Y Y' f f' : Mat K}
    (hY : PermMat σ nCells n Y Y') (hf : PermMat σ nCells n f f') :
    PermMat σ nCells n (s₁.forcing kc Y f) (s₂.forcing kc Y' f') :=
  h.forcing s₁ s₂ ht₁ ht₂ kc hY hf

/-- **C12 (reordering), error norm.**  `NormalizedError` of the relabelled data with the relabelled
    tolerance vector, in any dense layout `L'`, equals that of the original data in layout `L`:
    the same terms are summed in a different order. -/
theorem C12_norm_relabel (hσ : IsRelabel σ n) (L L' nCells : Nat)
    (hat : ∀ v, v < n → rd atol' (σ v) = rd atol v)
    {y y' ynew ynew' err err' : Mat K} (hy : PermMat σ nCells n y y')
    (hyn : PermMat σ nCells n ynew ynew') (he : PermMat σ nCells n err err') :
    normalizedError o cs L' n atol' rtol y' ynew' err' = normalizedError o cs L n atol rtol y ynew err := by
  -- the same terms, cell by cell, in another order within each cell
  have hsum : (normOrder 0 nCells n).foldl (fun acc cv => acc + errTerm o atol' rtol y' ynew' err' cv.1 cv.2) 0
      = (normOrder 0 nCells n).foldl (fun acc cv => acc + errTerm o atol rtol y ynew err cv.1 cv.2) 0 := by
    rw [foldl_add_eq_sum (fun cv : Nat × Nat => errTerm o atol' rtol y' ynew' err' cv.1 cv.2),
      foldl_add_eq_sum (fun cv : Nat × Nat => errTerm o atol rtol y ynew err cv.1 cv.2),
      show normOrder 0 nCells n = (List.range nCells).flatMap fun c => (List.range n).map fun v => (c, v) from
        if_pos rfl,
      sum_map_flatMap_pairs, sum_map_flatMap_pairs]
    congr 2
    apply List.map_congr_left
    intro c hc
    exact sum_range_relabel hσ _ _
      (fun v hv => errTerm_relabel o atol atol' rtol hat hy hyn he c v (List.mem_range.mp hc) hv)
  rw [normalizedError_layout_indep o cs L', normalizedError_layout_indep o cs L]
  unfold normalizedError
  simp only []
  rw [hy.1, hy.2.1, hsum]

/-- **C12 (reordering), one attempt** (`rosAttempt`: `rosStep` is the prologue followed by it,
    `rosStep_eq`).  Two built configurations — of the mechanism and of the relabelled mechanism, any
    LU variants / CSR-CSC / group lengths — started inside a step from states that agree up to `σ`,
    with the tolerances relabelled and no vanishing pivot in either ordering: the resulting states
    agree up to `σ` again (relabelled `Y`; same error, decision, next step size, counters). -/
theorem C12_attempt_relabel {sameIP : Prop} (hset : RelabelSetup σ procs m t t' n)
    (hat : ∀ v, v < n → rd atol' (σ v) = rd atol v)
    (s₁ s₂ : SolverCfg K) (hip : sameIP → s₁.la.kind.inPlace = s₂.la.kind.inPlace)
    (csc₁ csc₂ : Bool) (Ls₁ Ls₂ : Nat) (kind₁ kind₂ : LUKind)
    (hs₁ : CfgBuilt s₁ t n csc₁ Ls₁ kind₁) (hs₂ : CfgBuilt s₂ t' n csc₂ Ls₂ kind₂)
    (nCells : Nat) (q₁ q₂ : RState K)
    (hI₁ : StoreInv p kc s₁ nCells n q₁) (hI₂ : StoreInv p kc s₂ nCells n q₂)
    (hE : RelabelEq σ nCells n sameIP q₁ q₂) (hr : q₁.status = .running) (hi : q₁.inStep = true)
    (hpiv₁ : ∀ c, c < nCells → ∀ i, i < n → s₁.la.pivot ((attMatrix s₁ p q₁).getD c #[])
      (q₁.sc.lower.getD c #[]) (q₁.sc.upper.getD c #[]) i ≠ 0)
    (hpiv₂ : ∀ c, c < nCells → ∀ i, i < n → s₂.la.pivot ((attMatrix s₂ p q₂).getD c #[])
      (q₂.sc.lower.getD c #[]) (q₂.sc.upper.getD c #[]) i ≠ 0) :
    RelabelEq σ nCells n sameIP (rosAttempt o cs s₁ p kc atol rtol hm q₁)
      (rosAttempt o cs s₂ p kc atol' rtol hm q₂) := by
  have hσ := hset.perm
  obtain ⟨B₁, hB₁, hBs₁⟩ := hI₁.holds hr hi
  obtain ⟨B₂, hB₂, hBs₂⟩ := hI₂.holds (hE.status ▸ hr) (hE.inStep ▸ hi)
  have hsolve : ∀ {x x' : Mat K}, PermMat σ nCells n x x' → PermMat σ nCells n
      (s₁.linSolve (attFactor s₁ p q₁).1 (attFactor s₁ p q₁).2.1 (attFactor s₁ p q₁).2.2 x)
      (s₂.linSolve (attFactor s₂ p q₂).1 (attFactor s₂ p q₂).2.1 (attFactor s₂ p q₂).2.2 x') :=
    built_linSolve_relabel hset s₁ s₂ csc₁ csc₂ Ls₁ Ls₂ kind₁ kind₂ hs₁ hs₂ kc hE.Y (attAlpha0 p q₁) hBs₁ hBs₂
      (attMatrix_of_JacHolds s₁ p kc q₁ B₁ hB₁)
      ((attMatrix_of_JacHolds s₂ p kc q₂ B₂ hB₂).trans (by unfold attAlpha0; rw [hE.ctl]; rfl))
      hI₁.lower hI₁.upper hI₂.lower hI₂.upper hpiv₁ hpiv₂
  have hh : q₂.ctl.h = q₁.ctl.h := by rw [hE.ctl]
  -- the stage loops in lockstep: relabelled copies for what has been computed, shapes for the rest
  have hK : ∀ j, j < p.stages → PermMat σ nCells n ((attStages s₁ p kc q₁).1.getD j #[])
      ((attStages s₂ p kc q₂).1.getD j #[]) := by
    unfold attStages
    rw [hh]
    obtain ⟨hK, _⟩ := stagesGo_rel (Rm := PermMat σ nCells n)
      (Sh := fun X X' => MatShape nCells n X ∧ MatShape nCells n X') (Ry := PermMat σ nCells n)
      (Ro := fun _ _ => True) s₁ s₂ p kc
      (fun h => ⟨h.left, h.right⟩) (fun _ => trivial) (fun h => PermMat.fillM_zero h.1 h.2)
      (fun a _ _ _ _ hX hY => hX.axpyM hσ a hY) (fun a _ _ _ _ hX hY => hX.axpyM hσ a hY)
      (fun hY hf => hset.forcing s₁ s₂ hs₁.tables hs₂.tables kc hY hf) _ _ _ _ _ _ hsolve hE.Y q₁.ctl.h
      p.stages 0 (Ks := q₁.sc.k.setIfInBounds 0 q₁.sc.f0) (Ks' := q₂.sc.k.setIfInBounds 0 q₂.sc.f0)
      ⟨fun j hj => by
          rw [Array.size_setIfInBounds, Array.size_setIfInBounds]
          exact ⟨fun _ => Nat.lt_of_lt_of_le hj hI₂.ksz, fun _ => Nat.lt_of_lt_of_le hj hI₁.ksz⟩,
        fun j hj hj' => ⟨(hI₁.k.set 0 _ hI₁.f0) j hj, (hI₂.k.set 0 _ hI₂.f0) j hj'⟩,
        fun j hj => absurd hj (Nat.not_lt_zero j)⟩
      (fun h1 _ => by
        rw [getD_set_eq _ _ _ _ (by have := hI₁.ksz; omega), getD_set_eq _ _ _ _ (by have := hI₂.ksz; omega)]
        exact hE.f0 hi)
      (Or.inr (by rw [Array.size_setIfInBounds, Nat.zero_add]; exact hI₁.ksz)) (Nat.le_of_eq (Nat.zero_add _))
      (ynew := q₁.sc.ynew) (ynew' := q₂.sc.ynew) trivial _ _
    exact fun j hj => hK.lt j (by omega)
  have hYn : PermMat σ nCells n (attYnew s₁ p kc q₁) (attYnew s₂ p kc q₂) := by
    unfold attYnew
    exact PermMat.axpy_fold hσ _ (fun i => (attStages s₁ p kc q₁).1.getD i #[])
      (fun i => (attStages s₂ p kc q₂).1.getD i #[]) _
      (fun i hi' => hK i (List.mem_range.mp hi')) hE.Y
  have hYe : PermMat σ nCells n (attYerr s₁ p kc q₁) (attYerr s₂ p kc q₂) := by
    unfold attYerr
    exact PermMat.axpy_fold hσ _ (fun i => (attStages s₁ p kc q₁).1.getD i #[])
      (fun i => (attStages s₂ p kc q₂).1.getD i #[]) _
      (fun i hi' => hK i (List.mem_range.mp hi')) (PermMat.fillM_zero hE.yerr.1 hE.yerr.2)
  have hEr : attError o cs s₁ p kc atol rtol q₁ = attError o cs s₂ p kc atol' rtol q₂ := by
    unfold attError
    rw [hs₁.nSpecies, hs₂.nSpecies]
    exact (C12_norm_relabel o cs atol atol' rtol hσ s₁.L s₂.L nCells hat hE.Y hYn hYe).symm
  have hD : attDecide o cs s₁ p kc atol rtol hm q₁ = attDecide o cs s₂ p kc atol' rtol hm q₂ := by
    unfold attDecide
    rw [hEr, hE.ctl]
  exact RelabelEq_attempt o cs p kc atol atol' rtol hm s₁ s₂ nCells q₁ q₂ hip hE hYn hYe hEr hD

/-- **C12 (reordering), one iteration of the solver loop** (`rosStep`: prologue + one attempt) -/
theorem C12_step_relabel {sameIP : Prop} (hset : RelabelSetup σ procs m t t' n)
    (hat : ∀ v, v < n → rd atol' (σ v) = rd atol v)
    (s₁ s₂ : SolverCfg K) (hip : sameIP → s₁.la.kind.inPlace = s₂.la.kind.inPlace)
    (csc₁ csc₂ : Bool) (Ls₁ Ls₂ : Nat) (kind₁ kind₂ : LUKind)
    (hs₁ : CfgBuilt s₁ t n csc₁ Ls₁ kind₁) (hs₂ : CfgBuilt s₂ t' n csc₂ Ls₂ kind₂)
    (nCells : Nat) (r₁ r₂ : RState K)
    (hI₁ : StoreInv p kc s₁ nCells n r₁) (hI₂ : StoreInv p kc s₂ nCells n r₂)
    (hE : RelabelEq σ nCells n sameIP r₁ r₂)
    (hpiv₁ : PivotsOK o cs p kc T s₁ nCells n r₁) (hpiv₂ : PivotsOK o cs p kc T s₂ nCells n r₂) :
    RelabelEq σ nCells n sameIP (rosStep o cs s₁ p kc atol rtol T hm r₁)
      (rosStep o cs s₂ p kc atol' rtol T hm r₂) :=
  rosStep_sim o cs s₁ s₂ p kc atol atol' rtol T hm (RelabelEq σ nCells n sameIP) (fun _ _ h => h.status) r₁ r₂
    (RelabelEq_prologue o cs p kc T hset s₁ s₂ hs₁.tables hs₂.tables nCells r₁ r₂ hI₁.f0 hI₂.f0 hE)
    (fun hrun hin =>
      have hP := RelabelEq_prologue o cs p kc T hset s₁ s₂ hs₁.tables hs₂.tables nCells r₁ r₂ hI₁.f0 hI₂.f0 hE
      C12_attempt_relabel o cs p kc atol atol' rtol hm hset hat s₁ s₂ hip csc₁ csc₂ Ls₁ Ls₂ kind₁ kind₂
        hs₁ hs₂ nCells _ _ (StoreInv_prologue o cs p kc T s₁ nCells n r₁ hI₁)
        (StoreInv_prologue o cs p kc T s₂ nCells n r₂ hI₂) hP hrun hin (hpiv₁ hrun) (hpiv₂ (hP.status ▸ hrun)))

/-- **C12 (reordering), the whole solve.**  `σ` a permutation of `0 … n−1`; `(procs, m, t, n)` a
    mechanism (hypotheses of C02) and `t'` the tables built from the relabelled name map; `s₁`, `s₂`
    what the builder produces for `t`, resp. `t'`, in *any* two configurations (LU variant, CSR/CSC,
    sparse and dense group lengths); tolerances and initial state relabelled
    (`atol'[σ v] = atol[v]`, `Y'[c][σ v] = Y[c][v]`); the two States only need the right shapes
    (their contents never matter); no pivot vanishes along either run.  Then `rosSolve` returns

    * the same status and final time,
    * the relabelled solution `Y'_final[c][σ v] = Y_final[c][v]`,
    * the same step history `(H, error, accepted)` of all attempts,
    * the same counters `number_of_steps, accepted, rejected, decompositions, solves,
      function_calls` — and the same `jacobian_updates` when both LU variants are in place or both
      are not (the in-place variants regenerate the Jacobian after every rejection). -/
theorem C12_solve_relabel (σ : Nat → Nat)
    (hinj : ∀ i, i < n → ∀ j, j < n → σ i = σ j → i = j) (hrng : ∀ i, i < n → σ i < n)
    (hmech : Mechanism procs m t n) (hb' : ProcessSet.build procs (relabel σ m) = .ok t')
    (s₁ s₂ : SolverCfg K) (csc₁ csc₂ : Bool) (Ls₁ Ls₂ : Nat) (kind₁ kind₂ : LUKind)
    (hs₁ : CfgBuilt s₁ t n csc₁ Ls₁ kind₁) (hs₂ : CfgBuilt s₂ t' n csc₂ Ls₂ kind₂)
    (nCells : Nat) (hat : ∀ v, v < n → rd atol' (σ v) = rd atol v)
    (Y Y' : Mat K) (hYs : MatShape nCells n Y) (hYs' : MatShape nCells n Y')
    (hY : ∀ c, c < nCells → ∀ v, v < n → rd (Y'.getD c #[]) (σ v) = rd (Y.getD c #[]) v)
    (sc₁ sc₂ : Scratch K) (fuel : Nat)
    (hK₁ : KShape nCells n sc₁.k) (hksz₁ : p.stages ≤ sc₁.k.size) (hf₁ : MatShape nCells n sc₁.f0)
    (hye₁ : MatShape nCells n sc₁.yerr)
    (hj₁ : MatShape nCells s₁.la.A.nnz sc₁.jac)
    (hl₁ : s₁.la.kind.inPlace = false → MatShape nCells s₁.la.Lp.nnz sc₁.lower)
    (hu₁ : s₁.la.kind.inPlace = false → MatShape nCells s₁.la.Up.nnz sc₁.upper)
    (hK₂ : KShape nCells n sc₂.k) (hksz₂ : p.stages ≤ sc₂.k.size) (hf₂ : MatShape nCells n sc₂.f0)
    (hye₂ : MatShape nCells n sc₂.yerr)
    (hj₂ : MatShape nCells s₂.la.A.nnz sc₂.jac)
    (hl₂ : s₂.la.kind.inPlace = false → MatShape nCells s₂.la.Lp.nnz sc₂.lower)
    (hu₂ : s₂.la.kind.inPlace = false → MatShape nCells s₂.la.Up.nnz sc₂.upper)
    (hpiv₁ : ∀ j, j < fuel → PivotsOK o cs p kc T s₁ nCells n
      ((rosStep o cs s₁ p kc atol rtol T (hmaxEff o p T))^[j] (rosInit (initialH o cs p T) Y sc₁)))
    (hpiv₂ : ∀ j, j < fuel → PivotsOK o cs p kc T s₂ nCells n
      ((rosStep o cs s₂ p kc atol' rtol T (hmaxEff o p T))^[j] (rosInit (initialH o cs p T) Y' sc₂))) :
    (rosSolve o cs s₂ p kc atol' rtol T Y' sc₂ fuel).status
        = (rosSolve o cs s₁ p kc atol rtol T Y sc₁ fuel).status ∧
    (rosSolve o cs s₂ p kc atol' rtol T Y' sc₂ fuel).finalTime
        = (rosSolve o cs s₁ p kc atol rtol T Y sc₁ fuel).finalTime ∧
    (MatShape nCells n (rosSolve o cs s₁ p kc atol rtol T Y sc₁ fuel).Y ∧
     MatShape nCells n (rosSolve o cs s₂ p kc atol' rtol T Y' sc₂ fuel).Y ∧
     ∀ c, c < nCells → ∀ v, v < n →
      rd ((rosSolve o cs s₂ p kc atol' rtol T Y' sc₂ fuel).Y.getD c #[]) (σ v)
        = rd ((rosSolve o cs s₁ p kc atol rtol T Y sc₁ fuel).Y.getD c #[]) v) ∧
    (rosSolve o cs s₂ p kc atol' rtol T Y' sc₂ fuel).trace.map attLog
        = (rosSolve o cs s₁ p kc atol rtol T Y sc₁ fuel).trace.map attLog ∧
    (rosSolve o cs s₂ p kc atol' rtol T Y' sc₂ fuel).stats.numberOfSteps
        = (rosSolve o cs s₁ p kc atol rtol T Y sc₁ fuel).stats.numberOfSteps ∧
    (rosSolve o cs s₂ p kc atol' rtol T Y' sc₂ fuel).stats.accepted
        = (rosSolve o cs s₁ p kc atol rtol T Y sc₁ fuel).stats.accepted ∧
    (rosSolve o cs s₂ p kc atol' rtol T Y' sc₂ fuel).stats.rejected
        = (rosSolve o cs s₁ p kc atol rtol T Y sc₁ fuel).stats.rejected ∧
    (rosSolve o cs s₂ p kc atol' rtol T Y' sc₂ fuel).stats.decompositions
        = (rosSolve o cs s₁ p kc atol rtol T Y sc₁ fuel).stats.decompositions ∧
    (rosSolve o cs s₂ p kc atol' rtol T Y' sc₂ fuel).stats.solves
        = (rosSolve o cs s₁ p kc atol rtol T Y sc₁ fuel).stats.solves ∧
    (rosSolve o cs s₂ p kc atol' rtol T Y' sc₂ fuel).stats.functionCalls
        = (rosSolve o cs s₁ p kc atol rtol T Y sc₁ fuel).stats.functionCalls ∧
    (s₁.la.kind.inPlace = s₂.la.kind.inPlace →
      (rosSolve o cs s₂ p kc atol' rtol T Y' sc₂ fuel).stats.jacobianUpdates
        = (rosSolve o cs s₁ p kc atol rtol T Y sc₁ fuel).stats.jacobianUpdates) := by
  -- `σ` only matters below `n`: extend it by the identity to a relabelling of `ℕ`
  have hσ := extendRelabel_isRelabel σ n hinj hrng
  have hset : RelabelSetup (extendRelabel σ n) procs m t t' n :=
    ⟨hσ, hmech, by rw [relabel_extend σ n m hmech.range]; exact hb'⟩
  have hat' : ∀ v, v < n → rd atol' (extendRelabel σ n v) = rd atol v := fun v hv => by
    rw [extendRelabel_lt σ hv]; exact hat v hv
  have hI₁ : StoreInv p kc s₁ nCells n (rosInit (initialH o cs p T) Y sc₁) :=
    ⟨hYs, hK₁, hksz₁, hf₁, hj₁, hl₁, hu₁, fun _ h2 => nomatch h2⟩
  have hI₂ : StoreInv p kc s₂ nCells n (rosInit (initialH o cs p T) Y' sc₂) :=
    ⟨hYs', hK₂, hksz₂, hf₂, hj₂, hl₂, hu₂, fun _ h2 => nomatch h2⟩
  have hE : RelabelEq (extendRelabel σ n) nCells n (s₁.la.kind.inPlace = s₂.la.kind.inPlace)
      (rosInit (initialH o cs p T) Y sc₁) (rosInit (initialH o cs p T) Y' sc₂) :=
    ⟨PermMat.mk' hYs hYs' (fun c hc v hv => by rw [extendRelabel_lt σ hv]; exact hY c hc v hv),
      rfl, rfl, rfl, (fun h => nomatch h), ⟨hye₁, hye₂⟩, rfl, rfl, rfl, rfl, rfl, rfl, fun _ => rfl, rfl⟩
  -- the relation kept along the loop: equality up to the relabelling, and each side's storage invariant
  obtain ⟨h, _, _⟩ := rosLoop_sim o cs s₁ s₂ p kc atol atol' rtol T (hmaxEff o p T)
    (fun r₁ r₂ => RelabelEq (extendRelabel σ n) nCells n (s₁.la.kind.inPlace = s₂.la.kind.inPlace) r₁ r₂ ∧
      StoreInv p kc s₁ nCells n r₁ ∧ StoreInv p kc s₂ nCells n r₂)
    (fun r₁ r₂ => PivotsOK o cs p kc T s₁ nCells n r₁ ∧ PivotsOK o cs p kc T s₂ nCells n r₂)
    (fun _ _ h => h.1.status)
    (fun r₁ r₂ _ h hg =>
      ⟨C12_step_relabel o cs p kc atol atol' rtol T (hmaxEff o p T) hset hat' s₁ s₂ (fun h => h)
        csc₁ csc₂ Ls₁ Ls₂ kind₁ kind₂ hs₁ hs₂ nCells r₁ r₂ h.2.1 h.2.2 h.1 hg.1 hg.2,
       C12_storeInv_step o cs p kc atol rtol T _ s₁ nCells n r₁ h.2.1,
       C12_storeInv_step o cs p kc atol' rtol T _ s₂ nCells n r₂ h.2.2⟩)
    (fun _ _ h => ⟨{ h.1 with status := rfl }, { h.2.1 with holds := fun h1 => nomatch h1 },
      { h.2.2 with holds := fun h1 => nomatch h1 }⟩)
    fuel _ _ ⟨hE, hI₁, hI₂⟩ (fun j hj => ⟨hpiv₁ j hj, hpiv₂ j hj⟩)
  rw [rosSolve_eq, rosSolve_eq]
  refine ⟨h.status.symm, by simp only [h.ctl], ⟨h.Y.left, h.Y.right, fun c hc v hv => ?_⟩, ?_, h.nSteps.symm,
    h.accepted.symm, h.rejected.symm, h.decomps.symm, h.solves.symm, h.fcalls.symm,
    fun hs => (h.jupd hs).symm⟩
  · have := h.Y.rd c v hc hv
    rwa [extendRelabel_lt σ hv] at this
  · simp only [List.map_reverse, h.trace]

section BE
variable (pb : BEParams K)

/-- **C12 (reordering), `IsConverged`**: the element-wise convergence test gives the same answer on
    relabelled residual / iterate with the relabelled tolerance vector -/
theorem C12_be_converged_relabel (hσ : IsRelabel σ n) (nCells : Nat) (small : K)
    (hat : ∀ v, v < n → rd atol' (σ v) = rd atol v)
    {res res' yn1 yn1' : Mat K} (hr : PermMat σ nCells n res res') (hy : PermMat σ nCells n yn1 yn1') :
    beIsConverged o small atol' rtol res' yn1' = beIsConverged o small atol rtol res yn1 := by
  unfold beIsConverged
  rw [hr.1, hr.2.1]
  apply all_congr_mem
  intro c hc
  have hc' := List.mem_range.mp hc
  simp only []
  rw [(hr.2.2 c hc').1, (hr.2.2 c hc').2.1]
  apply all_range_relabel hσ
  intro v hv
  simp only [hr.rd c v hc' hv, hy.rd c v hc' hv, hat v hv]

/-- **C12 (reordering), one Newton iteration of backward Euler** (`beStep`) -/
theorem C12_be_step_relabel (hset : RelabelSetup σ procs m t t' n)
    (hat : ∀ v, v < n → rd atol' (σ v) = rd atol v)
    (s₁ s₂ : SolverCfg K) (csc₁ csc₂ : Bool) (Ls₁ Ls₂ : Nat) (kind₁ kind₂ : LUKind)
    (hs₁ : CfgBuilt s₁ t n csc₁ Ls₁ kind₁) (hs₂ : CfgBuilt s₂ t' n csc₂ Ls₂ kind₂)
    (nCells : Nat) (r₁ r₂ : BEState K)
    (hI₁ : BEStoreInv s₁ nCells n r₁) (hI₂ : BEStoreInv s₂ nCells n r₂)
    (hE : BERelabelEq σ nCells n r₁ r₂)
    (hpiv₁ : BEPivotsOK o kc T s₁ nCells n r₁) (hpiv₂ : BEPivotsOK o kc T s₂ nCells n r₂) :
    BERelabelEq σ nCells n (beStep o s₁ pb kc atol rtol T r₁) (beStep o s₂ pb kc atol' rtol T r₂) := by
  have hH := BERelabelEq_head o T nCells r₁ r₂ hE
  have hJ₁ : BEStoreInv s₁ nCells n (beHead o T r₁) :=
    ⟨by rw [beHead_sc]; exact hI₁.f0, by rw [beHead_sc]; exact hI₁.jac, by rw [beHead_sc]; exact hI₁.lower,
      by rw [beHead_sc]; exact hI₁.upper⟩
  have hJ₂ : BEStoreInv s₂ nCells n (beHead o T r₂) :=
    ⟨by rw [beHead_sc]; exact hI₂.f0, by rw [beHead_sc]; exact hI₂.jac, by rw [beHead_sc]; exact hI₂.lower,
      by rw [beHead_sc]; exact hI₂.upper⟩
  have hp₁ : (beHead o T r₁).done = false → ∀ c, c < nCells → ∀ i, i < n →
      s₁.la.pivot ((beMatrix s₁ kc (beHead o T r₁)).getD c #[]) ((beHead o T r₁).sc.lower.getD c #[])
        ((beHead o T r₁).sc.upper.getD c #[]) i ≠ 0 := fun hd => by
    rw [beMatrix_head, beHead_sc]; exact hpiv₁ hd
  have hp₂ : (beHead o T r₂).done = false → ∀ c, c < nCells → ∀ i, i < n →
      s₂.la.pivot ((beMatrix s₂ kc (beHead o T r₂)).getD c #[]) ((beHead o T r₂).sc.lower.getD c #[])
        ((beHead o T r₂).sc.upper.getD c #[]) i ≠ 0 := fun hd => by
    rw [beMatrix_head, beHead_sc]; exact hpiv₂ hd
  -- name the two results, so that the case analysis rewrites two equations and not the goal
  generalize e₁ : beStep o s₁ pb kc atol rtol T r₁ = t₁
  generalize e₂ : beStep o s₂ pb kc atol' rtol T r₂ = t₂
  rw [beStep_eq] at e₁ e₂
  simp only [] at e₁ e₂
  generalize beHead o T r₁ = q₁ at hH hJ₁ hp₁ e₁
  generalize beHead o T r₂ = q₂ at hH hJ₂ hp₂ e₂
  by_cases hd : q₁.done = true
  · rw [if_pos hd] at e₁; rw [if_pos (hH.done ▸ hd)] at e₂; subst e₁ e₂; exact hH
  have hd₁ : q₁.done = false := Bool.eq_false_iff.mpr hd
  have hd₂ : q₂.done = false := hH.done ▸ hd₁
  rw [if_neg hd] at e₁; rw [if_neg (by rw [hd₂]; exact Bool.false_ne_true)] at e₂
  obtain ⟨hR, hNY⟩ := newton_relabel o kc hset s₁ s₂ csc₁ csc₂ Ls₁ Ls₂ kind₁ kind₂ hs₁ hs₂ nCells
    q₁ q₂ hJ₁ hJ₂ hH (hp₁ hd₁) (hp₂ hd₂)
  have hconv : beConv o s₂ pb kc atol' rtol q₂ = beConv o s₁ pb kc atol rtol q₁ := by
    unfold beConv
    rw [hH.iterations]
    split
    · rfl
    · exact C12_be_converged_relabel o atol atol' rtol hset.perm nCells pb.small hat hR hNY
  have hN : BERelabelEq σ nCells n (beNewton o s₁ kc q₁) (beNewton o s₂ kc q₂) := by
    refine ⟨hNY, hH.Yn, hH.t, hH.h, hH.nSucc, hH.nFail, ?_, hH.status, hH.done, ?_, ?_⟩
    · show q₁.iterations + 1 = q₂.iterations + 1
      rw [hH.iterations]
    · simp only [beNewton, hH.stats]
    · simp only [beNewton, List.map_cons, hH.h, hH.trace]
  rw [hconv, ← hH.iterations] at e₂
  by_cases hc : (!beConv o s₁ pb kc atol rtol q₁ && decide (q₁.iterations + 1 < pb.maxSteps)) = true
  · rw [if_pos hc] at e₁ e₂; subst e₁ e₂; exact hN
  rw [if_neg hc] at e₁ e₂
  by_cases hv : (!beConv o s₁ pb kc atol rtol q₁) = true
  · rw [if_pos hv] at e₁ e₂; subst e₁ e₂; exact BERelabelEq_reject o pb T nCells _ _ hN
  · rw [if_neg hv] at e₁ e₂; subst e₁ e₂; exact BERelabelEq_accept o T nCells _ _ hN

/-- **C12 (reordering), the whole backward-Euler solve.**  Same setting as `C12_solve_relabel`
    (`σ` a permutation of `0 … n−1`, the tables rebuilt from the relabelled name map, any two
    configurations, tolerances and initial state relabelled, States of the right shapes, no pivot
    vanishing along either run): `beSolve` returns the same status, final time, *all* statistics,
    the same sequence of step sizes `H` of the Newton iterations, and the relabelled solution. -/
theorem C12_be_solve_relabel (σ : Nat → Nat)
    (hinj : ∀ i, i < n → ∀ j, j < n → σ i = σ j → i = j) (hrng : ∀ i, i < n → σ i < n)
    (hmech : Mechanism procs m t n) (hb' : ProcessSet.build procs (relabel σ m) = .ok t')
    (s₁ s₂ : SolverCfg K) (csc₁ csc₂ : Bool) (Ls₁ Ls₂ : Nat) (kind₁ kind₂ : LUKind)
    (hs₁ : CfgBuilt s₁ t n csc₁ Ls₁ kind₁) (hs₂ : CfgBuilt s₂ t' n csc₂ Ls₂ kind₂)
    (nCells : Nat) (hat : ∀ v, v < n → rd atol' (σ v) = rd atol v)
    (Y Y' : Mat K) (hYs : MatShape nCells n Y) (hYs' : MatShape nCells n Y')
    (hY : ∀ c, c < nCells → ∀ v, v < n → rd (Y'.getD c #[]) (σ v) = rd (Y.getD c #[]) v)
    (sc₁ sc₂ : Scratch K) (fuel : Nat)
    (hf₁ : MatShape nCells n sc₁.f0) (hj₁ : MatShape nCells s₁.la.A.nnz sc₁.jac)
    (hl₁ : s₁.la.kind.inPlace = false → MatShape nCells s₁.la.Lp.nnz sc₁.lower)
    (hu₁ : s₁.la.kind.inPlace = false → MatShape nCells s₁.la.Up.nnz sc₁.upper)
    (hf₂ : MatShape nCells n sc₂.f0) (hj₂ : MatShape nCells s₂.la.A.nnz sc₂.jac)
    (hl₂ : s₂.la.kind.inPlace = false → MatShape nCells s₂.la.Lp.nnz sc₂.lower)
    (hu₂ : s₂.la.kind.inPlace = false → MatShape nCells s₂.la.Up.nnz sc₂.upper)
    (hpiv₁ : ∀ j, j < fuel → BEPivotsOK o kc T s₁ nCells n
      ((beStep o s₁ pb kc atol rtol T)^[j] (beInit (beInitialH o pb T) Y sc₁)))
    (hpiv₂ : ∀ j, j < fuel → BEPivotsOK o kc T s₂ nCells n
      ((beStep o s₂ pb kc atol' rtol T)^[j] (beInit (beInitialH o pb T) Y' sc₂))) :
    (beSolve o s₂ pb kc atol' rtol T Y' sc₂ fuel).status
        = (beSolve o s₁ pb kc atol rtol T Y sc₁ fuel).status ∧
    (beSolve o s₂ pb kc atol' rtol T Y' sc₂ fuel).finalTime
        = (beSolve o s₁ pb kc atol rtol T Y sc₁ fuel).finalTime ∧
    (beSolve o s₂ pb kc atol' rtol T Y' sc₂ fuel).stats
        = (beSolve o s₁ pb kc atol rtol T Y sc₁ fuel).stats ∧
    (MatShape nCells n (beSolve o s₁ pb kc atol rtol T Y sc₁ fuel).Y ∧
     MatShape nCells n (beSolve o s₂ pb kc atol' rtol T Y' sc₂ fuel).Y ∧
     ∀ c, c < nCells → ∀ v, v < n →
      rd ((beSolve o s₂ pb kc atol' rtol T Y' sc₂ fuel).Y.getD c #[]) (σ v)
        = rd ((beSolve o s₁ pb kc atol rtol T Y sc₁ fuel).Y.getD c #[]) v) ∧
    (beSolve o s₂ pb kc atol' rtol T Y' sc₂ fuel).trace.map (·.h)
        = (beSolve o s₁ pb kc atol rtol T Y sc₁ fuel).trace.map (·.h) := by
  have hσ := extendRelabel_isRelabel σ n hinj hrng
  have hset : RelabelSetup (extendRelabel σ n) procs m t t' n :=
    ⟨hσ, hmech, by rw [relabel_extend σ n m hmech.range]; exact hb'⟩
  have hat' : ∀ v, v < n → rd atol' (extendRelabel σ n v) = rd atol v := fun v hv => by
    rw [extendRelabel_lt σ hv]; exact hat v hv
  have hY' : PermMat (extendRelabel σ n) nCells n Y Y' :=
    PermMat.mk' hYs hYs' (fun c hc v hv => by rw [extendRelabel_lt σ hv]; exact hY c hc v hv)
  obtain ⟨h, _, _⟩ := beLoop_sim o s₁ s₂ pb kc atol atol' rtol T
    (fun r₁ r₂ => BERelabelEq (extendRelabel σ n) nCells n r₁ r₂ ∧ BEStoreInv s₁ nCells n r₁ ∧
      BEStoreInv s₂ nCells n r₂)
    (fun r₁ r₂ => BEPivotsOK o kc T s₁ nCells n r₁ ∧ BEPivotsOK o kc T s₂ nCells n r₂)
    (fun _ _ h => h.1.done)
    (fun r₁ r₂ _ h hg =>
      ⟨C12_be_step_relabel o kc atol atol' rtol T pb hset hat' s₁ s₂ csc₁ csc₂ Ls₁ Ls₂ kind₁ kind₂ hs₁ hs₂
        nCells r₁ r₂ h.2.1 h.2.2 h.1 hg.1 hg.2,
       BEStoreInv_step o pb kc atol rtol T s₁ nCells n r₁ h.2.1,
       BEStoreInv_step o pb kc atol' rtol T s₂ nCells n r₂ h.2.2⟩)
    (fun _ _ h => ⟨{ h.1 with status := rfl }, ⟨h.2.1.f0, h.2.1.jac, h.2.1.lower, h.2.1.upper⟩,
      ⟨h.2.2.f0, h.2.2.jac, h.2.2.lower, h.2.2.upper⟩⟩)
    fuel (beInit (beInitialH o pb T) Y sc₁) (beInit (beInitialH o pb T) Y' sc₂)
    ⟨⟨hY', hY', rfl, rfl, rfl, rfl, rfl, rfl, rfl, rfl, rfl⟩, ⟨hf₁, hj₁, hl₁, hu₁⟩, ⟨hf₂, hj₂, hl₂, hu₂⟩⟩
    (fun j hj => ⟨hpiv₁ j hj, hpiv₂ j hj⟩)
  rw [beSolve_eq, beSolve_eq]
  refine ⟨h.status.symm, h.t.symm, h.stats.symm, ⟨h.Yn1.left, h.Yn1.right, fun c hc v hv => ?_⟩, ?_⟩
  · have := h.Yn1.rd c v hc hv
    rwa [extendRelabel_lt σ hv] at this
  · simp only [List.map_map, List.map_reverse, Function.comp_def]
    rw [← h.trace]

end BE

end Relabel

/-! C02's mechanism `s0 + s0 + s1 → 2 s2 ; s2 → s0` relabelled by the transposition `0 ↔ 2`
    (`swap02`), two cells; original: `cfgA` (Doolittle, CSR, `L = 0`); relabelled: `cfgSw` (Mozart in
    place, CSC, `L = 2`); non-uniform tolerances. -/

namespace C12Ex

theorem swap02_relabel : IsRelabel swap02 3 := by
  refine ⟨swap02_inj, fun i => ?_⟩
  unfold swap02
  split
  · omega
  · split <;> omega

def swTables : PSTables ℚ :=
  match ProcessSet.build (c02Procs ℚ) (relabel swap02 c02Map) with
  | .ok t => t
  | .error _ => {}

theorem swBuild : ProcessSet.build (c02Procs ℚ) (relabel swap02 c02Map) = .ok swTables := rfl

example : swTables.reactIds = [2, 2, 1, 0] ∧ swTables.prodIds = [0, 2] := by decide +kernel

theorem exSetup : RelabelSetup swap02 (c02Procs ℚ) c02Map (c02Tables ℚ) swTables 3 :=
  ⟨swap02_relabel, exMech, swBuild⟩

def swCfg (kind : LUKind) (csc : Bool) (L : Nat) : SolverCfg ℚ :=
  let la := LinAlg.build kind
    (Pattern.mk' 3 csc L (buildJacobianSet 3 swTables.nonZeroJacobianElements))
  { nSpecies := 3, L := L, tables := swTables,
    flatIds := match swTables.jacobianFlatIds la.A with | .ok f => f | .error _ => [],
    la := la, diag := la.A.diagRanks }

def cfgSw : SolverCfg ℚ := swCfg .mozartInPlace true 2

theorem cfgSw_built : CfgBuilt cfgSw swTables 3 true 2 .mozartInPlace :=
  ⟨rfl, rfl, rfl, by decide +kernel, rfl⟩

def exAtolA : Array ℚ := #[1/10, 1/5, 1/20]
def exAtolSw : Array ℚ := #[1/20, 1/5, 1/10]
def exY0Sw : Mat ℚ := #[#[11, 7, 2], #[1, 1, 1]]

/-- arbitrary numbers: the contents of the second State's buffers never matter -/
def swScratch : Scratch ℚ :=
  { jac := Array.replicate 2 (Array.replicate cfgSw.la.A.nnz 5),
    lower := #[], upper := #[],
    ynew := dense0, f0 := #[#[1, 2, 3], #[4, 5, 6]], k := #[#[#[7, 7, 7], #[8, 8, 8]]],
    yerr := #[#[9, 9, 9], #[9, 9, 9]] }

theorem shape23 (M : Mat ℚ) (h : M.size = 2 ∧ ∀ c, c < 2 → (M.getD c #[]).size = 3) : MatShape 2 3 M := h

theorem exAtol_relabel : ∀ v, v < 3 → rd exAtolSw (swap02 v) = rd exAtolA v := by decide +kernel

theorem exY0_relabel : ∀ c, c < 2 → ∀ v, v < 3 → rd (exY0Sw.getD c #[]) (swap02 v) = rd (exY0.getD c #[]) v := by
  decide +kernel

theorem swScratch_jac : MatShape 2 cfgSw.la.A.nnz swScratch.jac := MatShape.replicate ..

theorem swScratch_k : KShape 2 3 swScratch.k := by
  intro j hj
  have : j = 0 := Nat.lt_one_iff.mp hj
  subst this
  exact ⟨rfl, by decide⟩

def runA' : SolveResult ℚ :=
  rosSolve ratOps Ex.consts cfgA Ex.params exKc exAtolA (1/10) 1 exY0 (solveScratch cfgA) 4
def runSw : SolveResult ℚ := rosSolve ratOps Ex.consts cfgSw Ex.params exKc exAtolSw (1/10) 1 exY0Sw swScratch 4

/-- Everything evaluated about the two Rosenbrock runs, in one statement: after `rosSolve_trace`,
    `rosSolve_Y` all parts speak of the iterates of the same `rosStep`.  The first part is the
    hypothesis of `PivotsOK_iterates` for configuration A; that lemma covers separate `L`/`U` storage
    only, so for the in-place `cfgSw` `PivotsOK` itself is evaluated. -/
theorem exRosRuns :
    (∀ j, j < 4 → (rosPrologue ratOps Ex.consts cfgA Ex.params exKc 1
        (rosIter cfgA exAtolA exY0 (solveScratch cfgA) j)).status = .running →
      ∀ c, c < 2 → ∀ i, i < 3 → factorPivot cfgA (rosIter cfgA exAtolA exY0 (solveScratch cfgA) (j + 1)).sc.jac
        (rosIter cfgA exAtolA exY0 (solveScratch cfgA) (j + 1)).sc.upper c i ≠ 0) ∧
    (∀ j, j < 4 → PivotsOK ratOps Ex.consts Ex.params exKc 1 cfgSw 2 3 (rosIter cfgSw exAtolSw exY0Sw swScratch j)) ∧
    runA'.trace.map (fun a => (a.h, a.accepted)) = runSw.trace.map (fun a => (a.h, a.accepted)) ∧
    (runA'.trace.map (fun a => a.accepted)).length = 4 ∧
    (∀ c, c < 2 → ∀ v, v < 3 → rd (runSw.Y.getD c #[]) (swap02 v) = rd (runA'.Y.getD c #[]) v) ∧
    runA'.Y ≠ exY0 := by
  unfold runA' runSw rosIter
  rw [rosSolve_trace, rosSolve_trace, rosSolve_Y, rosSolve_Y]
  unfold PivotsOK factorPivot
  decide +kernel

theorem exPivotsA : ∀ j, j < 4 → PivotsOK ratOps Ex.consts Ex.params exKc 1 cfgA 2 3
    ((rosStep ratOps Ex.consts cfgA Ex.params exKc exAtolA (1/10) 1
        (hmaxEff ratOps Ex.params 1))^[j]
      (rosInit (initialH ratOps Ex.consts Ex.params 1) exY0 (solveScratch cfgA))) :=
  PivotsOK_iterates ratOps Ex.consts Ex.params exKc exAtolA (1/10) 1 _ cfgA rfl 2 3 _ (exStoreInv _) 4 exRosRuns.1

theorem exPivotsSw : ∀ j, j < 4 → PivotsOK ratOps Ex.consts Ex.params exKc 1 cfgSw 2 3
    ((rosStep ratOps Ex.consts cfgSw Ex.params exKc exAtolSw (1/10) 1
        (hmaxEff ratOps Ex.params 1))^[j]
      (rosInit (initialH ratOps Ex.consts Ex.params 1) exY0Sw swScratch)) :=
  exRosRuns.2.1

example :=
  C12_solve_relabel ratOps Ex.consts Ex.params exKc exAtolA exAtolSw (1/10) 1 swap02
    (fun i _ j _ h => swap02_inj h) (fun i hi => (swap02_relabel.lt_iff i).mpr hi) exMech swBuild
    cfgA cfgSw false true 0 2 .doolittle .mozartInPlace cfgA_built cfgSw_built 2
    exAtol_relabel exY0 exY0Sw ⟨rfl, by decide⟩ ⟨rfl, by decide⟩ exY0_relabel
    (solveScratch cfgA) swScratch 4
    (solveScratch_k cfgA) (by decide) dense0_shape dense0_shape
    (solveScratch_jac cfgA) (fun _ => solveScratch_lower cfgA) (fun _ => solveScratch_upper cfgA)
    swScratch_k (by decide) ⟨rfl, by decide⟩ ⟨rfl, by decide⟩ swScratch_jac
    (fun h => nomatch h) (fun h => nomatch h) exPivotsA exPivotsSw

example :
    (rosSolve ratOps Ex.consts cfgA Ex.params exKc exAtolA (1/10) 1 exY0 (solveScratch cfgA) 4).trace.map
        (fun a => (a.h, a.accepted))
      = (rosSolve ratOps Ex.consts cfgSw Ex.params exKc exAtolSw (1/10) 1 exY0Sw swScratch 4).trace.map
        (fun a => (a.h, a.accepted)) ∧
    ((rosSolve ratOps Ex.consts cfgA Ex.params exKc exAtolA (1/10) 1 exY0 (solveScratch cfgA) 4).trace.map
        (fun a => a.accepted)).length = 4 ∧
    (∀ c, c < 2 → ∀ v, v < 3 →
      rd ((rosSolve ratOps Ex.consts cfgSw Ex.params exKc exAtolSw (1/10) 1 exY0Sw swScratch 4).Y.getD c #[])
          (swap02 v)
        = rd ((rosSolve ratOps Ex.consts cfgA Ex.params exKc exAtolA (1/10) 1 exY0 (solveScratch cfgA) 4).Y.getD
          c #[]) v) ∧
    (rosSolve ratOps Ex.consts cfgA Ex.params exKc exAtolA (1/10) 1 exY0 (solveScratch cfgA) 4).Y ≠ exY0 :=
  exRosRuns.2.2

/-- Backward Euler on the same instance, run with `rtol = 10⁻⁶`, `T = ½`: three Newton iterations with
    `H = ½` fail, `H` is reduced to `⅛`, three more converge. -/
def exBE : BEParams ℚ := { small := 1 / 10 ^ 40, hstart := 0, maxSteps := 3, reductions := [1/4, 1/10] }

def beIter (s : SolverCfg ℚ) (atol : Array ℚ) (Y0 : Mat ℚ) (sc : Scratch ℚ) (j : Nat) : BEState ℚ :=
  (beStep ratOps s exBE exKc atol (1/1000000) (1/2))^[j] (beInit (beInitialH ratOps exBE (1/2)) Y0 sc)

def beRunA : SolveResult ℚ := beSolve ratOps cfgA exBE exKc exAtolA (1/1000000) (1/2) exY0 (solveScratch cfgA) 6
def beRunSw : SolveResult ℚ := beSolve ratOps cfgSw exBE exKc exAtolSw (1/1000000) (1/2) exY0Sw swScratch 6

/-- Everything evaluated about the two backward-Euler runs, in one statement; the first two parts
    are the hypotheses of `BEPivotsOK_iterates` (the pivots are read off the scratch each Newton
    iteration leaves). -/
theorem exBERuns :
    (∀ j, j < 6 → (beHead ratOps (1/2) (beIter cfgA exAtolA exY0 (solveScratch cfgA) j)).done = false →
      ∀ c, c < 2 → ∀ i, i < 3 → factorPivot cfgA (beIter cfgA exAtolA exY0 (solveScratch cfgA) (j + 1)).sc.jac
        (beIter cfgA exAtolA exY0 (solveScratch cfgA) (j + 1)).sc.upper c i ≠ 0) ∧
    (∀ j, j < 6 → (beHead ratOps (1/2) (beIter cfgSw exAtolSw exY0Sw swScratch j)).done = false →
      ∀ c, c < 2 → ∀ i, i < 3 → factorPivot cfgSw (beIter cfgSw exAtolSw exY0Sw swScratch (j + 1)).sc.jac
        (beIter cfgSw exAtolSw exY0Sw swScratch (j + 1)).sc.upper c i ≠ 0) ∧
    beRunA.trace.map (·.h) = [1/2, 1/2, 1/2, 1/8, 1/8, 1/8] ∧
    beRunSw.trace.map (·.h) = beRunA.trace.map (·.h) ∧
    beRunA.stats.rejected = 1 ∧ beRunA.stats.accepted = 1 ∧
    (∀ c, c < 2 → ∀ v, v < 3 → rd (beRunSw.Y.getD c #[]) (swap02 v) = rd (beRunA.Y.getD c #[]) v) := by
  unfold beRunA beRunSw beIter
  rw [beSolve_trace_h, beSolve_trace_h, beSolve_stats, beSolve_Y, beSolve_Y]
  unfold factorPivot
  decide +kernel

theorem exBEPivotsA : ∀ j, j < 6 → BEPivotsOK ratOps exKc (1/2) cfgA 2 3
    ((beStep ratOps cfgA exBE exKc exAtolA (1/1000000) (1/2))^[j]
      (beInit (beInitialH ratOps exBE (1/2)) exY0 (solveScratch cfgA))) :=
  BEPivotsOK_iterates ratOps exBE exKc exAtolA (1/1000000) (1/2) cfgA 2 3 _
    ⟨dense0_shape, solveScratch_jac cfgA, fun _ => solveScratch_lower cfgA, fun _ => solveScratch_upper cfgA⟩
    6 exBERuns.1

theorem exBEPivotsSw : ∀ j, j < 6 → BEPivotsOK ratOps exKc (1/2) cfgSw 2 3
    ((beStep ratOps cfgSw exBE exKc exAtolSw (1/1000000) (1/2))^[j]
      (beInit (beInitialH ratOps exBE (1/2)) exY0Sw swScratch)) :=
  BEPivotsOK_iterates ratOps exBE exKc exAtolSw (1/1000000) (1/2) cfgSw 2 3 _
    ⟨⟨rfl, by decide⟩, swScratch_jac, (fun h => nomatch h), (fun h => nomatch h)⟩ 6 exBERuns.2.1

example :=
  C12_be_solve_relabel ratOps exKc exAtolA exAtolSw (1/1000000) (1/2) exBE swap02
    (fun i _ j _ h => swap02_inj h) (fun i hi => (swap02_relabel.lt_iff i).mpr hi) exMech swBuild
    cfgA cfgSw false true 0 2 .doolittle .mozartInPlace cfgA_built cfgSw_built 2
    exAtol_relabel exY0 exY0Sw ⟨rfl, by decide⟩ ⟨rfl, by decide⟩ exY0_relabel
    (solveScratch cfgA) swScratch 6
    dense0_shape (solveScratch_jac cfgA) (fun _ => solveScratch_lower cfgA) (fun _ => solveScratch_upper cfgA)
    ⟨rfl, by decide⟩ swScratch_jac (fun h => nomatch h) (fun h => nomatch h) exBEPivotsA exBEPivotsSw

example :
    (beSolve ratOps cfgA exBE exKc exAtolA (1/1000000) (1/2) exY0 (solveScratch cfgA) 6).trace.map (·.h)
      = [1/2, 1/2, 1/2, 1/8, 1/8, 1/8] ∧
    (beSolve ratOps cfgSw exBE exKc exAtolSw (1/1000000) (1/2) exY0Sw swScratch 6).trace.map (·.h)
      = [1/2, 1/2, 1/2, 1/8, 1/8, 1/8] ∧
    (beSolve ratOps cfgA exBE exKc exAtolA (1/1000000) (1/2) exY0 (solveScratch cfgA) 6).stats.rejected = 1 ∧
    (beSolve ratOps cfgA exBE exKc exAtolA (1/1000000) (1/2) exY0 (solveScratch cfgA) 6).stats.accepted = 1 ∧
    (∀ c, c < 2 → ∀ v, v < 3 →
      rd ((beSolve ratOps cfgSw exBE exKc exAtolSw (1/1000000) (1/2) exY0Sw swScratch 6).Y.getD c #[])
          (swap02 v)
        = rd ((beSolve ratOps cfgA exBE exKc exAtolA (1/1000000) (1/2) exY0 (solveScratch cfgA) 6).Y.getD
          c #[]) v) :=
  have ⟨_, _, hA, hSw, hr, ha, hY⟩ := exBERuns
  ⟨hA, hSw.trans hA, hr, ha, hY⟩

end C12Ex

end Micm

#print axioms Micm.C12_relabel_extend
#print axioms Micm.C12_relabel_mechanism
#print axioms Micm.C12_forcing_relabel
#print axioms Micm.C12_norm_relabel
#print axioms Micm.C12_attempt_relabel
#print axioms Micm.C12_step_relabel
#print axioms Micm.C12_solve_relabel
#print axioms Micm.C12_be_converged_relabel
#print axioms Micm.C12_be_step_relabel
#print axioms Micm.C12_be_solve_relabel
