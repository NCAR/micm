/-
C19 (second part) — whole-matrix operations act on exactly the addressed logical elements and
agree between the row-major and the grouped layout.

Operations of `Micm/Model/Dense.lean` (`L = 0`: row-major `Matrix`, `L ≥ 1`: `VectorMatrix<L>`,
any `rows`, `cols`, including partial last groups) and `addToDiagonalFlat` of
`Micm/Model/Sparse.lean` (CSR/CSC, standard and vector ordering).  Frame statements are for an
arbitrary carrier type.  "Logical address" = `s.addr x y` with `x < s.rows`, `y < s.cols`; by
`C19_dense_addr_lt/_inj` (in `C19.lean`) these are pairwise distinct in-range slots, so
"every slot that is no logical address" covers all padding lanes of a partial group.

Proofs: `Micm/Lemmas/DenseOps.lean`, `DenseOpsRows.lean`, `DenseOpsDiag.lean` (`AddToDiagonal` is
`alphaMinusJacobianFlat` with the pattern's diagonal ranks; its lane theorem is in `Lanes3.lean`).
-/
import Micm.Lemmas.DenseOpsRows
import Micm.Lemmas.DenseOpsDiag
import Micm.Properties.C19
namespace Micm

section
variable {α : Type} [OfNat α 0]

/-- `std::vector<T>(m[x])`: the `min(L, remaining)` stepping reads exactly the row's `cols`
    logical elements, in column order -/
theorem C19_rowExtract (s : DenseShape) (data : Array α) (hd : data.size = s.size) {x : Nat}
    (hx : x < s.rows) :
    rowExtract s data x = (List.range s.cols).map (fun y => rd data (s.addr x y)) := by
  unfold rowExtract
  by_cases hL : s.L = 0
  · simp only [hL, if_true]
    apply List.map_congr_left
    intro y _
    rw [addr_rowmajor s hL]
  · simp only [hL, if_false]
    cases hc : s.cols with
    | zero => simp
    | succ c =>
      have hfit : (x / s.L) * s.cols * s.L + x % s.L + c * s.L ≤ data.size := by
        have := dense_addr_lt s hx (show c < s.cols by omega)
        rw [addr_stride s hL] at this
        omega
      rw [hc] at hfit
      rw [List.range_succ, List.foldl_append, extract_fold data s.L _ c hfit]
      simp only [List.foldl_cons, List.foldl_nil, List.reverse_cons, List.reverse_reverse,
        List.map_append, List.map_cons, List.map_nil]
      congr 1
      · apply List.map_congr_left
        intro y _
        rw [addr_stride s hL, hc]
      · rw [addr_stride s hL, hc]

omit [OfNat α 0] in
/-- row assignment fails iff the vector is shorter than a row, with `RowSizeMismatch` -/
theorem C19_rowAssign_err (s : DenseShape) (data : Array α) (x : Nat) (v : List α) (e : MatErr) :
    rowAssign s data x v = .error e ↔ e = .rowSizeMismatch ∧ v.length < s.cols := by
  by_cases hv : v.length < s.cols
  · rw [rowAssign_err s data x v hv]
    constructor
    · intro h; exact ⟨(Except.error.inj h).symm, hv⟩
    · rintro ⟨rfl, _⟩; rfl
  · constructor
    · intro h
      unfold rowAssign at h
      rw [if_neg hv] at h
      split at h <;> cases h
    · rintro ⟨_, h⟩; exact absurd h hv

/-- on success: same storage size, `v[y]` at the address of `(x, y)` for every `y < cols`
    (elements of `v` beyond `cols` are ignored), every other slot unchanged -/
theorem C19_rowAssign_ok (s : DenseShape) (data : Array α) (hd : data.size = s.size) {x : Nat}
    (hx : x < s.rows) (v : List α) (hv : s.cols ≤ v.length) :
    ∃ res, rowAssign s data x v = .ok res ∧ res.size = data.size ∧
      (∀ y (hy : y < s.cols), rd res (s.addr x y) = v[y]'(Nat.lt_of_lt_of_le hy hv)) ∧
      (∀ j, (∀ y, y < s.cols → s.addr x y ≠ j) → rd res j = rd data j) := by
  have hlen : (v.take s.cols).length = s.cols := by simp; omega
  obtain ⟨w1, w2, w3⟩ := writeRow_spec s x (v.take s.cols) data (by omega)
  refine ⟨_, rowAssign_eq s data hd hx v hv, w1, ?_, ?_⟩
  · intro y hy
    rw [w2 y (by omega) (by rw [hd]; exact dense_addr_lt s hx hy)]
    simp
  · intro j hj
    exact w3 j (fun y hy => hj y (by omega))

theorem C19_rowAssign_other_rows (s : DenseShape) (data : Array α) (hd : data.size = s.size) {x : Nat}
    (hx : x < s.rows) (v : List α) (res : Array α) (h : rowAssign s data x v = .ok res)
    {x' y' : Nat} (hne : x' ≠ x) (hy' : y' < s.cols) :
    rd res (s.addr x' y') = rd data (s.addr x' y') := by
  have hv : s.cols ≤ v.length := by
    apply Nat.le_of_not_lt
    intro hlt
    rw [rowAssign_err s data x v hlt] at h
    cases h
  obtain ⟨res', h1, _, _, h4⟩ := C19_rowAssign_ok s data hd hx v hv
  rw [h1] at h
  cases h
  apply h4
  intro y hy heq
  exact hne (dense_addr_inj s hy hy' heq).1.symm

theorem C19_fromNested_nil (L : Nat) : fromNested L ([] : List (List α)) = .ok (⟨0, 0, L⟩, #[]) := rfl

/-- construction from nested vectors, rectangular input: shape `⟨#rows, |row 0|, L⟩`, storage of `s.size` elements, logical element
    `(x, y)` holds `m[x][y]`, every slot that is no logical address (padding) holds `0` -/
theorem C19_fromNested (L : Nat) (r0 : List α) (rest : List (List α))
    (hrect : ∀ r ∈ r0 :: rest, r.length = r0.length) :
    ∃ data, fromNested L (r0 :: rest) = .ok (⟨(r0 :: rest).length, r0.length, L⟩, data) ∧
      data.size = (DenseShape.mk (r0 :: rest).length r0.length L).size ∧
      (∀ x (hx : x < (r0 :: rest).length) y (hy : y < (r0 :: rest)[x].length),
        rd data ((DenseShape.mk (r0 :: rest).length r0.length L).addr x y) = (r0 :: rest)[x][y]) ∧
      (∀ j, (∀ x y, x < (r0 :: rest).length → y < r0.length →
          (DenseShape.mk (r0 :: rest).length r0.length L).addr x y ≠ j) → rd data j = 0) := by
  obtain ⟨h1, h2, h3⟩ := nested_fold ⟨(r0 :: rest).length, r0.length, L⟩ (r0 :: rest) 0
    (Array.replicate (DenseShape.size ⟨(r0 :: rest).length, r0.length, L⟩) 0) hrect
    (by simp) (by simp)
  refine ⟨_, fromNested_rect L r0 rest hrect, ?_, ?_, ?_⟩
  · rw [h1]; simp
  · intro x hx y hy
    have := h2 x hx y hy
    rwa [Nat.zero_add] at this
  · intro j hj
    rw [h3 j (by intro i y hi hy; rw [Nat.zero_add]; exact hj i y hi hy)]
    exact rd_replicate_zero _ _

/-- ragged input is refused with `InvalidVector`; nothing else is -/
theorem C19_fromNested_err (L : Nat) (r0 : List α) (rest : List (List α)) (e : MatErr) :
    fromNested L (r0 :: rest) = .error e ↔
      e = .invalidVector ∧ ∃ r ∈ r0 :: rest, r.length ≠ r0.length := by
  by_cases h : ∃ r ∈ r0 :: rest, r.length ≠ r0.length
  · rw [fromNested_ragged L r0 rest h]
    constructor
    · intro h'; exact ⟨(Except.error.inj h').symm, h⟩
    · rintro ⟨rfl, _⟩; rfl
  · constructor
    · intro h'
      have hrect : ∀ r ∈ r0 :: rest, r.length = r0.length := by
        intro r hr
        apply Classical.byContradiction
        intro hne
        exact h ⟨r, hr, hne⟩
      rw [fromNested_rect L r0 rest hrect] at h'
      cases h'
    · rintro ⟨_, h'⟩; exact absurd h' h

/-- `ForEach(f, a)`: at every logical element `f(old this, a)`, every other slot unchanged -/
theorem C19_forEach2 (s : DenseShape) (f : α → α → α) (t a : Array α) (ht : t.size = s.size) :
    (forEach2Flat s f t a).size = t.size ∧
    (∀ x y, x < s.rows → y < s.cols →
      rd (forEach2Flat s f t a) (s.addr x y) = f (rd t (s.addr x y)) (rd a (s.addr x y))) ∧
    (∀ j, (∀ x y, x < s.rows → y < s.cols → s.addr x y ≠ j) →
      rd (forEach2Flat s f t a) j = rd t j) := by
  rw [forEach2Flat_eq]
  exact ⟨visitApply_size _ _ _, fun x y hx hy => visitApply_addr s _ t ht hx hy,
    fun j hj => visitApply_frame s _ t ht hj⟩

/-- `ForEach(f, a, b)` -/
theorem C19_forEach3 (s : DenseShape) (f : α → α → α → α) (t a b : Array α) (ht : t.size = s.size) :
    (forEach3Flat s f t a b).size = t.size ∧
    (∀ x y, x < s.rows → y < s.cols →
      rd (forEach3Flat s f t a b) (s.addr x y)
        = f (rd t (s.addr x y)) (rd a (s.addr x y)) (rd b (s.addr x y))) ∧
    (∀ j, (∀ x y, x < s.rows → y < s.cols → s.addr x y ≠ j) →
      rd (forEach3Flat s f t a b) j = rd t j) := by
  rw [forEach3Flat_eq]
  exact ⟨visitApply_size _ _ _, fun x y hx hy => visitApply_addr s _ t ht hx hy,
    fun j hj => visitApply_frame s _ t ht hj⟩

/-- `y.Axpy(alpha, x)`: `y + alpha * x` at every logical element, every other slot unchanged -/
theorem C19_axpy [Add α] [Mul α] (s : DenseShape) (alpha : α) (x y : Array α) (hy : y.size = s.size) :
    (axpyFlat s alpha x y).size = y.size ∧
    (∀ r c, r < s.rows → c < s.cols →
      rd (axpyFlat s alpha x y) (s.addr r c) = rd y (s.addr r c) + alpha * rd x (s.addr r c)) ∧
    (∀ j, (∀ r c, r < s.rows → c < s.cols → s.addr r c ≠ j) →
      rd (axpyFlat s alpha x y) j = rd y j) := by
  rw [axpyFlat_eq]
  exact ⟨visitApply_size _ _ _, fun r c hr hc => visitApply_addr s _ y hy hr hc,
    fun j hj => visitApply_frame s _ y hy hj⟩

/-- the logical result of `ForEach(f, a)` does not depend on the layout: two shapes with the same
    `rows`/`cols` (any two group lengths, e.g. `L = 0` and `L = 4`) whose operands agree logically
    produce logically equal results -/
theorem C19_forEach2_layout_indep (s s' : DenseShape) (hr : s.rows = s'.rows) (hc : s.cols = s'.cols)
    (f : α → α → α) (t a t' a' : Array α) (ht : t.size = s.size) (ht' : t'.size = s'.size)
    (hT : ∀ x y, x < s.rows → y < s.cols → rd t (s.addr x y) = rd t' (s'.addr x y))
    (hA : ∀ x y, x < s.rows → y < s.cols → rd a (s.addr x y) = rd a' (s'.addr x y))
    {x y : Nat} (hx : x < s.rows) (hy : y < s.cols) :
    rd (forEach2Flat s f t a) (s.addr x y) = rd (forEach2Flat s' f t' a') (s'.addr x y) := by
  rw [(C19_forEach2 s f t a ht).2.1 x y hx hy,
    (C19_forEach2 s' f t' a' ht').2.1 x y (hr ▸ hx) (hc ▸ hy), hT x y hx hy, hA x y hx hy]

theorem C19_forEach3_layout_indep (s s' : DenseShape) (hr : s.rows = s'.rows) (hc : s.cols = s'.cols)
    (f : α → α → α → α) (t a b t' a' b' : Array α) (ht : t.size = s.size) (ht' : t'.size = s'.size)
    (hT : ∀ x y, x < s.rows → y < s.cols → rd t (s.addr x y) = rd t' (s'.addr x y))
    (hA : ∀ x y, x < s.rows → y < s.cols → rd a (s.addr x y) = rd a' (s'.addr x y))
    (hB : ∀ x y, x < s.rows → y < s.cols → rd b (s.addr x y) = rd b' (s'.addr x y))
    {x y : Nat} (hx : x < s.rows) (hy : y < s.cols) :
    rd (forEach3Flat s f t a b) (s.addr x y) = rd (forEach3Flat s' f t' a' b') (s'.addr x y) := by
  rw [(C19_forEach3 s f t a b ht).2.1 x y hx hy,
    (C19_forEach3 s' f t' a' b' ht').2.1 x y (hr ▸ hx) (hc ▸ hy), hT x y hx hy, hA x y hx hy,
    hB x y hx hy]

theorem C19_axpy_layout_indep [Add α] [Mul α] (s s' : DenseShape) (hr : s.rows = s'.rows)
    (hc : s.cols = s'.cols) (alpha : α) (x y x' y' : Array α) (hy : y.size = s.size)
    (hy' : y'.size = s'.size)
    (hY : ∀ r c, r < s.rows → c < s.cols → rd y (s.addr r c) = rd y' (s'.addr r c))
    (hX : ∀ r c, r < s.rows → c < s.cols → rd x (s.addr r c) = rd x' (s'.addr r c))
    {r c : Nat} (hr' : r < s.rows) (hc' : c < s.cols) :
    rd (axpyFlat s alpha x y) (s.addr r c) = rd (axpyFlat s' alpha x' y') (s'.addr r c) := by
  rw [(C19_axpy s alpha x y hy).2.1 r c hr' hc',
    (C19_axpy s' alpha x' y' hy').2.1 r c (hr ▸ hr') (hc ▸ hc'), hY r c hr' hc', hX r c hr' hc']

/-- `Max`, `Min` and `Fill` act on the whole storage, padding included -/
theorem C19_max (o : Ops α) (data : Array α) (x : α) :
    (maxFlat o data x).size = data.size ∧
    ∀ i, i < data.size → rd (maxFlat o data x) i = cmax o (rd data i) x :=
  ⟨by simp [maxFlat], fun _ hi => rd_map _ data hi⟩

theorem C19_min (o : Ops α) (data : Array α) (x : α) :
    (minFlat o data x).size = data.size ∧
    ∀ i, i < data.size → rd (minFlat o data x) i = cmin o (rd data i) x :=
  ⟨by simp [minFlat], fun _ hi => rd_map _ data hi⟩

theorem C19_fill (data : Array α) (v : α) :
    (fillFlat data v).size = data.size ∧ ∀ i, i < data.size → rd (fillFlat data v) i = v :=
  ⟨by simp [fillFlat], fun _ hi => rd_map _ data hi⟩

omit [OfNat α 0] in
/-- `Copy` succeeds iff the storage sizes are equal; then the target takes the other's storage -/
theorem C19_copy (t other : Array α) :
    (copyFlat t other = none ↔ other.size ≠ t.size) ∧
    (∀ r, copyFlat t other = some r ↔ other.size = t.size ∧ r = other) := by
  unfold copyFlat
  by_cases h : other.size = t.size
  · simp [h, eq_comm]
  · simp [h]

omit [OfNat α 0] in
/-- `Swap` succeeds iff the storage sizes are equal; then the two storages are exchanged -/
theorem C19_swap (t other : Array α) :
    (swapFlat t other = none ↔ other.size ≠ t.size) ∧
    (∀ r, swapFlat t other = some r ↔ other.size = t.size ∧ r = (other, t)) := by
  unfold swapFlat
  by_cases h : other.size = t.size
  · simp [h, eq_comm]
  · simp [h]

/-- `AddToDiagonal` on the flat sparse storage.  For a well-formed pattern (`WF`, as in `C19.lean`;
    CSR or CSC; `L = 0` standard ordering, `L ≥ 1` vector ordering) and storage of
    `VectorSize(blocks)` elements: `value` is added once at the slot of every present diagonal
    element of every covered block, every other slot is unchanged.  Covered blocks: `blocks` for
    the standard ordering; for the vector ordering all lanes of all groups (`⌈blocks / L⌉ * L ≥
    blocks`, i.e. the padding blocks of a partial last group too — the source loops
    `for i_block < L`). -/
theorem C19_addToDiagonal_flat [Add α] {n : Nat} {set : List Pair} (hw : WF n set) (csc : Bool)
    (L blocks : Nat) (data : Array α) (v : α)
    (hd : data.size = (Pattern.mk' n csc L set).vectorSize blocks) :
    (addToDiagonalFlat (Pattern.mk' n csc L set) blocks data v).size = data.size ∧
    (∀ b i k, b < (if L = 0 then blocks else (blocks + L - 1) / L * L) →
      (Pattern.mk' n csc L set).rank i i = .ok k →
      rd (addToDiagonalFlat (Pattern.mk' n csc L set) blocks data v) ((Pattern.mk' n csc L set).slot b k)
        = rd data ((Pattern.mk' n csc L set).slot b k) + v) ∧
    (∀ j, (∀ b i k, b < (if L = 0 then blocks else (blocks + L - 1) / L * L) →
        (Pattern.mk' n csc L set).rank i i = .ok k → (Pattern.mk' n csc L set).slot b k ≠ j) →
      rd (addToDiagonalFlat (Pattern.mk' n csc L set) blocks data v) j = rd data j) := by
  have hg := good_mk hw csc L
  have hlt : ∀ k ∈ (Pattern.mk' n csc L set).diagRanks, k < (Pattern.mk' n csc L set).nnz :=
    fun k hk => hg.diagRanks_lt hk
  rw [addToDiagonalFlat_eq_alpha hg]
  refine ⟨alphaMinusJacobianFlat_size .., ?_, ?_⟩
  · -- a diagonal slot of a covered block: entry `k` of that block's row, which `+ v` hits once
    intro b i k hb hk
    have hk' : k ∈ (Pattern.mk' n csc L set).diagRanks :=
      ((Pattern.mk' n csc L set).mem_diagRanks_iff k).mpr
        ⟨i, (hg.key_range (List.mem_of_getElem? ((hg.rank_ok i i k).mp hk))).1, hk⟩
    have hcell := alphaMinusJacobianFlat_cell L (paddedBlocks L blocks) _ _ hlt data v
      (by rw [vectorSize_paddedBlocks]; exact hd) b hb
    rw [alphaMinusJacobianFlat_padded] at hcell
    have := congrArg (fun row => rd row k) hcell
    rw [rd_sparseRow _ _ _ _ _ (hlt k hk')] at this
    show rd (alphaMinusJacobianFlat L blocks _ _ data v) (slot L _ b k) = rd data (slot L _ b k) + v
    rw [this, foldl_rmw_rd (fun _ o => o + v) _ _ hg.diagRanks_nodup,
      if_pos ⟨hk', by rw [sparseRow_size]; exact hlt k hk'⟩, rd_sparseRow _ _ _ _ _ (hlt k hk')]
  · intro j hj
    refine alphaMinusJacobianFlat_frame _ _ _ _ _ _ j (fun b k hb hk => ?_)
    obtain ⟨i, _, hi⟩ := ((Pattern.mk' n csc L set).mem_diagRanks_iff k).mp hk
    exact hj b i k hb hi

/-- through the public index function, for the real blocks: diagonal elements get `+ value`,
    off-diagonal elements are unchanged -/
theorem C19_addToDiagonal_logical [Add α] {n : Nat} {set : List Pair} (hw : WF n set) (csc : Bool)
    (L blocks : Nat) (data : Array α) (v : α)
    (hd : data.size = (Pattern.mk' n csc L set).vectorSize blocks) (b r c a : Nat)
    (ha : (Pattern.mk' n csc L set).vectorIndex blocks b r c = .ok a) :
    rd (addToDiagonalFlat (Pattern.mk' n csc L set) blocks data v) a
      = if r = c then rd data a + v else rd data a := by
  have hg := good_mk hw csc L
  obtain ⟨hb, k, hk, rfl⟩ := ((C19_vectorIndex_spec hw csc L blocks b r c).1 a).mp ha
  obtain ⟨_, h2, h3⟩ := C19_addToDiagonal_flat hw csc L blocks data v hd
  have hcov : b < (if L = 0 then blocks else (blocks + L - 1) / L * L) :=
    Nat.lt_of_lt_of_le hb (le_paddedBlocks L blocks)
  by_cases hrc : r = c
  · subst hrc
    rw [if_pos rfl]
    exact h2 b r k hcov hk
  · rw [if_neg hrc]
    apply h3
    intro b' i k' _ hk' heq
    obtain ⟨_, hkk⟩ := slot_inj (hg.rank_lt hk') (hg.rank_lt hk) heq
    subst hkk
    obtain ⟨h4, h5⟩ := hg.rank_inj hk hk'
    exact hrc (h4.trans h5.symm)

/-- with a full diagonal (micm's Jacobian patterns) every block has all `n` diagonal elements,
    and each receives `+ value` -/
theorem C19_addToDiagonal_full [Add α] {n : Nat} {set : List Pair} (hw : WF n set) (csc : Bool)
    (L blocks : Nat) (data : Array α) (v : α)
    (hd : data.size = (Pattern.mk' n csc L set).vectorSize blocks)
    (hfull : ∀ i, i < n → (i, i) ∈ set) {b i : Nat} (hb : b < blocks) (hi : i < n) :
    ∃ a, (Pattern.mk' n csc L set).vectorIndex blocks b i i = .ok a ∧
      a < data.size ∧
      rd (addToDiagonalFlat (Pattern.mk' n csc L set) blocks data v) a = rd data a + v := by
  obtain ⟨k, hk⟩ : ∃ k, (Pattern.mk' n csc L set).rank i i = .ok k := by
    obtain ⟨k, hk⟩ := List.mem_iff_getElem?.mp ((mem_key_mk n csc L set i i).mpr (hfull i hi))
    exact ⟨k, ((good_mk hw csc L).rank_ok i i k).mpr hk⟩
  have ha := ((C19_vectorIndex_spec hw csc L blocks b i i).1 _).mpr ⟨hb, k, hk, rfl⟩
  refine ⟨_, ha, ?_, ?_⟩
  · rw [hd]; exact (C19_vectorIndex_inj hw csc L blocks b i i b i i _ ha ha).1
  · rw [C19_addToDiagonal_logical hw csc L blocks data v hd b i i _ ha, if_pos rfl]

end

/-- `VectorMatrix<2>`, 5 x 3: two full groups and a partial one; 18 slots, 15 logical elements,
    3 padding lanes -/
def exShape : DenseShape := ⟨5, 3, 2⟩
def exData : Array Nat := Array.range 18
def exShapeRM : DenseShape := ⟨5, 3, 0⟩
/-- the same logical matrix as `exData` in row-major storage: element (x, y) holds `exShape.addr x y` -/
def exDataRM : Array Nat :=
  ((List.range 5).flatMap fun x => (List.range 3).map fun y => exShape.addr x y).toArray

example : exShape.size = 18 ∧ exData.size = exShape.size := by decide
example : exShapeRM.size = 15 ∧ exDataRM.size = exShapeRM.size := by decide
-- slots 13, 15, 17 are the padding lanes
example : (List.range 5).map (fun x => (List.range 3).map fun y => exShape.addr x y)
    = [[0, 2, 4], [1, 3, 5], [6, 8, 10], [7, 9, 11], [12, 14, 16]] := by decide
-- a row of a full group, and of the partial group (the last advance is clipped by `min`)
example : rowExtract exShape exData 3 = [7, 9, 11] := by decide
example : rowExtract exShape exData 4 = [12, 14, 16] := by decide
example : rowExtract exShapeRM exDataRM 4 = [12, 14, 16] := by decide
example : rowAssign exShape exData 4 [100, 101] = .error .rowSizeMismatch := by rfl
example : (rowAssign exShape exData 4 [100, 101, 102, 103]).toOption
    = some #[0, 1, 2, 3, 4, 5, 6, 7, 8, 9, 10, 11, 100, 13, 101, 15, 102, 17] := by decide
example : (rowAssign exShape exData 1 [100, 101, 102]).toOption
    = some #[0, 100, 2, 101, 4, 102, 6, 7, 8, 9, 10, 11, 12, 13, 14, 15, 16, 17] := by decide
-- 3 x 2 in groups of 2: the padding lanes (slots 5, 7) hold 0
example : (fromNested 2 [[1, 2], [3, 4], [5, 6]]).toOption
    = some (⟨3, 2, 2⟩, #[1, 3, 2, 4, 5, 0, 6, 0]) := by decide
example : (fromNested 0 [[1, 2], [3, 4], [5, 6]]).toOption
    = some (⟨3, 2, 0⟩, #[1, 2, 3, 4, 5, 6]) := by decide
example : ∃ r ∈ [[1, 2], [3], [5, 6]], r.length ≠ [1, 2].length := by decide
example : (fromNested 2 [[1, 2], [3], [5, 6]]).toOption = none := by decide
-- the padding lanes 13, 15, 17 keep their values
example : axpyFlat exShape 10 exData exData
    = #[0, 11, 22, 33, 44, 55, 66, 77, 88, 99, 110, 121, 132, 13, 154, 15, 176, 17] := by decide
example : forEach2Flat exShape (fun t a => t + 2 * a) exData exData
    = #[0, 3, 6, 9, 12, 15, 18, 21, 24, 27, 30, 33, 36, 13, 42, 15, 48, 17] := by decide
example : forEach3Flat exShape (fun t a b => t + a * b) exData exData exData
    = #[0, 2, 6, 12, 20, 30, 42, 56, 72, 90, 110, 132, 156, 13, 210, 15, 272, 17] := by decide
theorem exLayouts_agree : ∀ x, x < 5 → ∀ y, y < 3 →
    rd exDataRM (exShapeRM.addr x y) = rd exData (exShape.addr x y) := by decide
example : ∀ x, x < 5 → ∀ y, y < 3 →
    rd exDataRM (exShapeRM.addr x y) = rd exData (exShape.addr x y) := exLayouts_agree
example : ∀ x, x < 5 → ∀ y, y < 3 →
    rd (axpyFlat exShapeRM 10 exDataRM exDataRM) (exShapeRM.addr x y)
      = rd (axpyFlat exShape 10 exData exData) (exShape.addr x y) :=
  fun x hx y hy => C19_axpy_layout_indep exShapeRM exShape rfl rfl 10 exDataRM exDataRM exData exData
    (by decide) (by decide) (fun r c hr hc => exLayouts_agree r hr c hc)
    (fun r c hr hc => exLayouts_agree r hr c hc) hx hy
def exOps : Ops Nat :=
  { lt := fun a b => decide (a < b), le := fun a b => decide (a ≤ b), eq := fun a b => a == b,
    abs := id, sqrt := id, pow := fun a b => a ^ b, isNaN := fun _ => false, isInf := fun _ => false,
    isFinite := fun _ => true, ofNat := id }
example : maxFlat exOps exData 9
    = #[9, 9, 9, 9, 9, 9, 9, 9, 9, 9, 10, 11, 12, 13, 14, 15, 16, 17] := by decide +kernel
example : minFlat exOps exData 9
    = #[0, 1, 2, 3, 4, 5, 6, 7, 8, 9, 9, 9, 9, 9, 9, 9, 9, 9] := by decide +kernel
example : fillFlat exData 7 = Array.replicate 18 7 := by decide +kernel
example : copyFlat exData exDataRM = none := by decide
example : copyFlat exData (Array.replicate 18 1) = some (Array.replicate 18 1) := by decide
example : swapFlat exData (Array.replicate 18 1) = some (Array.replicate 18 1, exData) := by decide

-- AddToDiagonal on `exSet` of `C19.lean` (6 elements, diagonal ranks 0, 3, 5), 3 blocks
example : (Pattern.mk' 3 false 2 exSet).vectorSize 3 = 24 := by decide +kernel
example : (Pattern.mk' 3 false 0 exSet).vectorSize 3 = 18 := by decide +kernel
example : ∀ i, i < 3 → (i, i) ∈ exSet := by decide
-- vector ordering L = 2: groups {0,1} and {2,pad}; the padding block's diagonal is touched too
example : addToDiagonalFlat (Pattern.mk' 3 false 2 exSet) 3 (Array.replicate 24 0) 1
    = #[1, 1, 0, 0, 0, 0, 1, 1, 0, 0, 1, 1,  1, 1, 0, 0, 0, 0, 1, 1, 0, 0, 1, 1] := by decide +kernel
example : addToDiagonalFlat (Pattern.mk' 3 true 2 exSet) 3 (Array.replicate 24 0) 1
    = #[1, 1, 0, 0, 0, 0, 1, 1, 0, 0, 1, 1,  1, 1, 0, 0, 0, 0, 1, 1, 0, 0, 1, 1] := by decide +kernel
example : addToDiagonalFlat (Pattern.mk' 3 false 0 exSet) 3 (Array.replicate 18 0) 1
    = #[1, 0, 0, 1, 0, 1,  1, 0, 0, 1, 0, 1,  1, 0, 0, 1, 0, 1] := by decide +kernel

#print axioms C19_rowExtract
#print axioms C19_rowAssign_err
#print axioms C19_rowAssign_ok
#print axioms C19_rowAssign_other_rows
#print axioms C19_fromNested_nil
#print axioms C19_fromNested
#print axioms C19_fromNested_err
#print axioms C19_forEach2
#print axioms C19_forEach3
#print axioms C19_axpy
#print axioms C19_forEach2_layout_indep
#print axioms C19_forEach3_layout_indep
#print axioms C19_axpy_layout_indep
#print axioms C19_max
#print axioms C19_min
#print axioms C19_fill
#print axioms C19_copy
#print axioms C19_swap
#print axioms C19_addToDiagonal_flat
#print axioms C19_addToDiagonal_logical
#print axioms C19_addToDiagonal_full

end Micm
