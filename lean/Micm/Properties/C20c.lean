/-
C20 / C14 (State setters) — the setters of `State` (state.inl) as modelled concretely in
`Micm/Model/State.lean`: which call raises which documented error, in which order the checks are made,
that a rejected call leaves the State untouched, what a bulk setter leaves behind when it fails half-way,
and that a concentration / custom parameter written by name is the one read back by name, nothing else
being touched.
-/
import Micm.Model.State
import Micm.Lemmas.Builder

namespace Micm
set_option linter.unusedSectionVars false

section Setters
variable {α : Type} [OfNat α 0]

/-- shape invariant of a built State (`vars` is `variables_`, `pars` is `custom_rate_parameters_`,
    the maps are `variable_map_` and `custom_rate_parameter_map_`) -/
structure MState.WF (st : MState α) : Prop where
  varRows : ∀ c, c < st.vars.size → (st.vars.getD c #[]).size = st.nVars
  parRows : ∀ c, c < st.pars.size → (st.pars.getD c #[]).size = st.nPars
  varIn : ∀ n j, nmLookup st.varMap n = some j → j < st.nVars
  parIn : ∀ n j, nmLookup st.parMap n = some j → j < st.nPars
  varInj : ∀ n m j, nmLookup st.varMap n = some j → nmLookup st.varMap m = some j → n = m
  parInj : ∀ n m j, nmLookup st.parMap n = some j → nmLookup st.parMap m = some j → n = m
  cells : st.pars.size = st.vars.size

/-- what each by-name setter does, in the source's order: the name lookup first (`eName` when it fails),
    then the number of cells against the number of values (`eSize`), then the write.  `st.setConcentration name vals`
    unfolds to this at `nmLookup st.varMap name`, `st.vars.size`, `vals.length`, codes 1 and 3 and
    `fun j => { st with vars := setColumn st.vars j vals }`; `st.setParameter` likewise with `parMap`, `pars`,
    codes 2 and 5; the scalar overloads are the same at `[v]`.  The lemmas below are applied to the setters as such. -/
def lookupThenSize {β : Type} (look : Option Nat) (cells len : Nat) (eName eSize : Err) (write : Nat → β) :
    Except Err β :=
  match look with
  | none => .error eName
  | some j => if cells ≠ len then .error eSize else .ok (write j)

section
variable {β : Type} {look : Option Nat} {cells len : Nat} {eName eSize : Err} {write : Nat → β}

theorem lookupThenSize_outcome :
    (look = none → lookupThenSize look cells len eName eSize write = .error eName) ∧
    (∀ j, look = some j → cells ≠ len → lookupThenSize look cells len eName eSize write = .error eSize) ∧
    (∀ j, look = some j → cells = len → lookupThenSize look cells len eName eSize write = .ok (write j)) := by
  refine ⟨fun h => ?_, fun j h hn => ?_, fun j h he => ?_⟩
  · rw [h]; rfl
  · rw [h]; exact if_pos hn
  · rw [h]; exact if_neg (not_not_intro he)

theorem lookupThenSize_ok {b : β} (h : lookupThenSize look cells len eName eSize write = .ok b) :
    ∃ j, look = some j ∧ b = write j := by
  unfold lookupThenSize at h
  split at h
  · cases h
  next j =>
    split at h
    · cases h
    · exact ⟨j, rfl, (Except.ok.inj h).symm⟩

theorem lookupThenSize_error {e : Err} (h : lookupThenSize look cells len eName eSize write = .error e) :
    e = eName ∨ e = eSize := by
  unfold lookupThenSize at h
  split at h
  · exact .inl (Except.error.inj h).symm
  · split at h
    · exact .inr (Except.error.inj h).symm
    · cases h

end

/-- `SetConcentration(species, vector)`, in the source's order: unknown species (code 1) is reported
    before a wrong number of values (code 3); otherwise the call succeeds -/
theorem C20_setConcentration_outcome (st : MState α) (name : String) (vals : List α) :
    (nmLookup st.varMap name = none → st.setConcentration name vals = .error (.sys catState 1)) ∧
    (∀ j, nmLookup st.varMap name = some j → st.vars.size ≠ vals.length →
      st.setConcentration name vals = .error (.sys catState 3)) ∧
    (∀ j, nmLookup st.varMap name = some j → st.vars.size = vals.length →
      st.setConcentration name vals = .ok { st with vars := setColumn st.vars j vals }) :=
  lookupThenSize_outcome

/-- the scalar overload is, by its definition, the vector one at `[v]` -/
theorem C20_setConcentrationScalar_outcome (st : MState α) (name : String) (v : α) :
    (nmLookup st.varMap name = none → st.setConcentrationScalar name v = .error (.sys catState 1)) ∧
    (∀ j, nmLookup st.varMap name = some j → st.vars.size ≠ 1 →
      st.setConcentrationScalar name v = .error (.sys catState 3)) ∧
    (∀ j, nmLookup st.varMap name = some j → st.vars.size = 1 →
      st.setConcentrationScalar name v = .ok { st with vars := setColumn st.vars j [v] }) :=
  C20_setConcentration_outcome st name [v]

/-- `SetCustomRateParameter`: unknown label (code 2) before a wrong number of values (code 5) -/
theorem C20_setParameter_outcome (st : MState α) (label : String) (vals : List α) :
    (nmLookup st.parMap label = none → st.setParameter label vals = .error (.sys catState 2)) ∧
    (∀ j, nmLookup st.parMap label = some j → st.pars.size ≠ vals.length →
      st.setParameter label vals = .error (.sys catState 5)) ∧
    (∀ j, nmLookup st.parMap label = some j → st.pars.size = vals.length →
      st.setParameter label vals = .ok { st with pars := setColumn st.pars j vals }) :=
  lookupThenSize_outcome

/-- likewise `SetCustomRateParameter(label, double)` is `setParameter label [v]` -/
theorem C20_setParameterScalar_outcome (st : MState α) (label : String) (v : α) :
    (nmLookup st.parMap label = none → st.setParameterScalar label v = .error (.sys catState 2)) ∧
    (∀ j, nmLookup st.parMap label = some j → st.pars.size ≠ 1 →
      st.setParameterScalar label v = .error (.sys catState 5)) ∧
    (∀ j, nmLookup st.parMap label = some j → st.pars.size = 1 →
      st.setParameterScalar label v = .ok { st with pars := setColumn st.pars j [v] }) :=
  C20_setParameter_outcome st label [v]

theorem setColumn_size (m : Mat α) (j : Nat) (vals : List α) : (setColumn m j vals).size = m.size := by
  simp [setColumn]

theorem setColumn_getD (m : Mat α) (j : Nat) (vals : List α) (c : Nat) (hc : c < m.size) :
    (setColumn m j vals).getD c #[] = wr (m.getD c #[]) j (vals.getD c 0) := by
  simp [setColumn, Array.getD, hc]

theorem rd_setColumn_ne (m : Mat α) {j i : Nat} (hij : j ≠ i) (vals : List α) (c : Nat) :
    rd ((setColumn m j vals).getD c #[]) i = rd (m.getD c #[]) i := by
  by_cases hc : c < m.size
  · rw [setColumn_getD _ _ _ _ hc, rd_wr_ne _ _ _ _ hij]
  · simp [Array.getD, setColumn_size, hc]

theorem setColumn_read_by_name (map : NameMap) (M : Mat α) (w : Nat)
    (rows : ∀ c, c < M.size → (M.getD c #[]).size = w)
    (inside : ∀ n j, nmLookup map n = some j → j < w)
    (inj : ∀ n m j, nmLookup map n = some j → nmLookup map m = some j → n = m)
    {name : String} {j : Nat} (hl : nmLookup map name = some j) (vals : List α) :
    (∀ c, c < M.size →
      (nmLookup map name).map (fun i => rd ((setColumn M j vals).getD c #[]) i) = some (vals.getD c 0)) ∧
    (∀ other, other ≠ name → ∀ c,
      (nmLookup map other).map (fun i => rd ((setColumn M j vals).getD c #[]) i)
        = (nmLookup map other).map (fun i => rd (M.getD c #[]) i)) := by
  refine ⟨fun c hc => ?_, fun other hne c => ?_⟩
  · have hj : j < (M.getD c #[]).size := by rw [rows c hc]; exact inside name j hl
    rw [hl]
    exact congrArg some (by rw [setColumn_getD _ _ _ _ hc]; exact rd_wr_same _ _ _ hj)
  · refine Option.map_congr fun i ho => ?_
    have hij : j ≠ i := fun e => by subst e; exact hne (inj other name j ho hl)
    exact rd_setColumn_ne M hij vals c

/-- after a successful `SetConcentration(name, vals)` the concentration read by the same name in cell
    `c` is `vals[c]`; every other species keeps its value in every cell; custom parameters, tolerances
    and the name maps are untouched -/
theorem C20_set_get_by_name (st st' : MState α) (wf : st.WF) (name : String) (vals : List α)
    (h : st.setConcentration name vals = .ok st') :
    (∀ c, c < st.nCells → st'.concentration name c = some (vals.getD c 0)) ∧
    (∀ other, other ≠ name → ∀ c, st'.concentration other c = st.concentration other c) ∧
    st'.pars = st.pars ∧ st'.atol = st.atol ∧ st'.rtol = st.rtol ∧ st'.varMap = st.varMap ∧
    st'.parMap = st.parMap ∧ st'.nCells = st.nCells := by
  obtain ⟨j, hl, rfl⟩ := lookupThenSize_ok h
  obtain ⟨same, others⟩ :=
    setColumn_read_by_name st.varMap st.vars st.nVars wf.varRows wf.varIn wf.varInj hl vals
  exact ⟨same, others, rfl, rfl, rfl, rfl, rfl, setColumn_size ..⟩

theorem C20_setParameter_get_by_label (st st' : MState α) (wf : st.WF) (label : String) (vals : List α)
    (h : st.setParameter label vals = .ok st') :
    (∀ c, c < st.pars.size → st'.parameter label c = some (vals.getD c 0)) ∧
    (∀ other, other ≠ label → ∀ c, st'.parameter other c = st.parameter other c) ∧
    st'.vars = st.vars ∧ st'.atol = st.atol ∧ st'.rtol = st.rtol := by
  obtain ⟨j, hl, rfl⟩ := lookupThenSize_ok h
  obtain ⟨same, others⟩ :=
    setColumn_read_by_name st.parMap st.pars st.nPars wf.parRows wf.parIn wf.parInj hl vals
  exact ⟨same, others, rfl, rfl, rfl⟩

theorem C20_setConcentration_wf (st st' : MState α) (wf : st.WF) (name : String) (vals : List α)
    (h : st.setConcentration name vals = .ok st') : st'.WF := by
  obtain ⟨j, hl, rfl⟩ := lookupThenSize_ok h
  refine ⟨fun c hc => ?_, wf.parRows, wf.varIn, wf.parIn, wf.varInj, wf.parInj,
    wf.cells.trans (setColumn_size ..).symm⟩
  have hc' : c < st.vars.size := by rw [← setColumn_size st.vars j vals]; exact hc
  show ((setColumn st.vars j vals).getD c #[]).size = st.nVars
  rw [setColumn_getD _ _ _ _ hc', wr_size]
  exact wf.varRows c hc'

/-- a bulk setter (`unordered_map` argument) applies the entries in iteration order; if entry `k` is
    the first one that is rejected, the State is the one produced by the entries before it and the
    error is that of entry `k`; if none is rejected all are applied -/
theorem C20_bulk_prefix {κ : Type} (f : MState α → κ → Except Err (MState α)) (st : MState α) (ks : List κ) :
    ((bulk f st ks).2 = none ∧
      ∃ sts : List (MState α), sts.length = ks.length ∧
        (ks.foldlM (fun s k => f s k) st) = .ok (bulk f st ks).1) ∨
    (∃ pre k post e mid, ks = pre ++ k :: post ∧ pre.foldlM (fun s k => f s k) st = .ok mid ∧
      f mid k = .error e ∧ bulk f st ks = (mid, some e)) := by
  induction ks generalizing st with
  | nil => left; exact ⟨rfl, [], rfl, rfl⟩
  | cons k ks ih =>
    cases hf : f st k with
    | error e =>
      right
      exact ⟨[], k, ks, e, st, rfl, rfl, hf, by simp [bulk, hf]⟩
    | ok st1 =>
      rcases ih st1 with ⟨h1, sts, h2, h3⟩ | ⟨pre, k', post, e, mid, h1, h2, h3, h4⟩
      · left
        refine ⟨by simpa [bulk, hf] using h1, st1 :: sts, by simp [h2], ?_⟩
        simp only [bulk, hf, List.foldlM_cons]
        exact h3
      · right
        refine ⟨k :: pre, k', post, e, mid, by simp [h1], ?_, h3, by simpa [bulk, hf] using h4⟩
        simp only [List.foldlM_cons, hf]
        exact h2

theorem C20_setConcentrations_ok (st : MState α) (kvs : List (String × List α))
    (h : (st.setConcentrations kvs).2 = none) :
    kvs.foldlM (fun s kv => s.setConcentration kv.1 kv.2) st = .ok (st.setConcentrations kvs).1 := by
  rcases C20_bulk_prefix (fun (st : MState α) (kv : String × List α) => st.setConcentration kv.1 kv.2) st kvs with
    ⟨_, _, _, h3⟩ | ⟨pre, k, post, e, mid, _, _, _, h4⟩
  · exact h3
  · unfold MState.setConcentrations at h; rw [h4] at h; cases h

/-- the first bad entry of `SetConcentrations` decides the error: an unknown species → code 1, a wrong
    number of values → code 3 -/
theorem C20_setConcentrations_error (st : MState α) (kvs : List (String × List α)) (e : Err)
    (h : (st.setConcentrations kvs).2 = some e) : e = .sys catState 1 ∨ e = .sys catState 3 := by
  rcases C20_bulk_prefix (fun (st : MState α) (kv : String × List α) => st.setConcentration kv.1 kv.2) st kvs with
    ⟨h1, _⟩ | ⟨pre, k, post, e', mid, _, _, h3, h4⟩
  · unfold MState.setConcentrations at h; rw [h1] at h; cases h
  · unfold MState.setConcentrations at h; rw [h4] at h
    injection h with h; subst h
    exact lookupThenSize_error h3

/-- the two documented rejections of `UnsafelySetCustomRateParameters`, in the source's order: wrong
    number of rows (code 5) first, then a first row of the wrong length (code 4); in both cases
    nothing was written -/
theorem C20_unsafelySetParameters_rejections (st : MState α) (rows : List (List α)) :
    (rows.length ≠ st.vars.size → st.unsafelySetParameters rows = (st, some (.sys catState 5))) ∧
    (rows.length = st.vars.size → (rows.headD []).length ≠ st.nPars →
      st.unsafelySetParameters rows = (st, some (.sys catState 4))) := by
  refine ⟨fun h => ?_, fun h1 h2 => ?_⟩
  · unfold MState.unsafelySetParameters; rw [if_pos h]
  · unfold MState.unsafelySetParameters; rw [if_neg (fun h => h h1), if_pos h2]

/-- `SetAbsoluteTolerances` accepts a vector of any length (the source makes no check) -/
theorem C20_setAbsoluteTolerances_unchecked (st : MState α) (v : List α) :
    (st.setAbsoluteTolerances v).atol = v.toArray ∧ (st.setAbsoluteTolerances v).vars = st.vars := ⟨rfl, rfl⟩

end Setters

namespace StateEx

def st0 : MState Nat :=
  { varMap := [("A", 1), ("B", 0)], parMap := [("r0", 0)], nVars := 2, nPars := 1,
    vars := #[#[0, 0], #[0, 0]], pars := #[#[0], #[0]], atol := #[1, 1], rtol := 1 }

theorem C20_stateEx_wf : st0.WF where
  varRows := by decide
  parRows := by decide
  varIn n j h := (by decide : ∀ e ∈ st0.varMap, e.2 < st0.nVars) (n, j) (nmLookup_eq_some_mem h)
  parIn n j h := (by decide : ∀ e ∈ st0.parMap, e.2 < st0.nPars) (n, j) (nmLookup_eq_some_mem h)
  varInj n m j h1 h2 := (by decide : ∀ e ∈ st0.varMap, ∀ e' ∈ st0.varMap, e.2 = e'.2 → e.1 = e'.1)
    (n, j) (nmLookup_eq_some_mem h1) (m, j) (nmLookup_eq_some_mem h2) rfl
  parInj n m j h1 h2 := (by decide : ∀ e ∈ st0.parMap, ∀ e' ∈ st0.parMap, e.2 = e'.2 → e.1 = e'.1)
    (n, j) (nmLookup_eq_some_mem h1) (m, j) (nmLookup_eq_some_mem h2) rfl
  cells := rfl

example :
    (st0.setConcentration "A" [7, 9]).toOption.bind (fun s => s.concentration "A" 1) = some 9 ∧
    (st0.setConcentration "A" [7, 9]).toOption.bind (fun s => s.concentration "B" 1) = some 0 ∧
    (st0.setConcentration "X" [7, 9]).toOption.isNone ∧
    (st0.setConcentrations [("B", [5, 6]), ("A", [1])]).2 = some (.sys catState 3) ∧
    (st0.setConcentrations [("B", [5, 6]), ("A", [1])]).1.concentration "B" 0 = some 5 := by
  decide +kernel

end StateEx

end Micm
