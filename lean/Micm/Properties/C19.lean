/-
C19 — matrix containers address every logical element exactly once: each logical element
(block, row, column) maps to its own in-range storage slot, distinct elements never alias;
structural zeros are reported as zero and refuse access.

All statements are about the model definitions in `Micm/Model/Dense.lean` and
`Micm/Model/Sparse.lean`; no number type is involved.  Proofs: `Micm/Lemmas/DenseAddr.lean`,
`Micm/Lemmas/SparseIndex.lean`.

Hypothesis for the sparse part: `WF n set` — `set` is strictly sorted by the lexicographic order
`pairLt` (a `std::set<std::pair>`; hence duplicate free) and every index is `< n`.
NO assumption about empty rows is made: the theorems cover the source's trailing-empty-row quirk
(`row_start_` stays `0` after the last non-empty row; `std::find` then sees an empty or reversed
range and reports "not found", which is the right answer because those rows are empty).
-/
import Micm.Lemmas.SparseIndex
namespace Micm

/-- Dense containers (`L = 0`: row-major `Matrix`, `L ≥ 1`: `VectorMatrix<L>`): every logical
    element has an in-range slot, for every shape, incl. `rows % L ≠ 0`. -/
theorem C19_dense_addr_lt (s : DenseShape) {x y : Nat} (hx : x < s.rows) (hy : y < s.cols) :
    s.addr x y < s.size :=
  dense_addr_lt s hx hy

/-- distinct logical elements never alias -/
theorem C19_dense_addr_inj (s : DenseShape) {x y x' y' : Nat}
    (_hx : x < s.rows) (hy : y < s.cols) (_hx' : x' < s.rows) (hy' : y' < s.cols)
    (h : s.addr x y = s.addr x' y') : x = x' ∧ y = y' :=
  dense_addr_inj s hy hy' h

/-- the slots `Axpy`/`ForEach` visit are exactly the addresses of the logical elements,
    each visited once (so padding lanes are never touched) -/
theorem C19_visitSlots (s : DenseShape) :
    (visitSlots s).Nodup ∧ (visitSlots s).length = s.rows * s.cols ∧
      ∀ a, a ∈ visitSlots s ↔ ∃ x y, x < s.rows ∧ y < s.cols ∧ s.addr x y = a :=
  ⟨visitSlots_nodup s, visitSlots_length s, fun _ =>
    ⟨visitSlots_mem_addr s, fun ⟨_, _, hx, hy, h⟩ => h ▸ addr_mem_visitSlots s hx hy⟩⟩

/-- `RowStartVector`: `start` has `n + 1` entries; `start[r]` is the number of elements in rows
    `< r` for every `r` up to one past the last non-empty row (`lastRow elems` = major index of
    the last element, `0` for the empty list) and stays `0` beyond (the source's quirk). -/
theorem C19_rowStart_spec (n : Nat) (elems : List Pair)
    (hs : elems.Pairwise (fun a b => a.1 ≤ b.1)) (hn : ∀ e ∈ elems, e.1 < n) :
    (rowStart n elems).size = n + 1 ∧
      ∀ r, (rowStart n elems).getD r 0 =
        if r ≤ lastRow elems + 1 then elems.countP (fun e => e.1 < r) else 0 :=
  ⟨rowStart_size n elems hs hn, rowStart_spec n elems hs hn⟩

/-- when the last row is non-empty (micm: the diagonal is always present) `start` is the full
    CSR offset table -/
theorem C19_rowStart_full (n : Nat) (elems : List Pair)
    (hs : elems.Pairwise (fun a b => a.1 ≤ b.1)) (hn : ∀ e ∈ elems, e.1 < n)
    (hlast : ∃ e ∈ elems, e.1 + 1 = n) (r : Nat) (hr : r ≤ n) :
    (rowStart n elems).getD r 0 = elems.countP (fun e => e.1 < r) := by
  obtain ⟨e, he, hen⟩ := hlast
  have := le_lastRow hs he
  rw [rowStart_spec n elems hs hn, if_pos (by omega)]
  rfl

/-- `rank` (CSR): the three outcomes, exhaustively.  The rank of a present element is its index
    in the sorted set. -/
theorem C19_rank_spec {n : Nat} {set : List Pair} (hw : WF n set) (L r c : Nat) :
    (∀ k, (Pattern.mk' n false L set).rank r c = .ok k ↔ (r, c) ∈ set ∧ k = set.idxOf (r, c)) ∧
    ((Pattern.mk' n false L set).rank r c = .error .zeroElementAccess ↔
        r < n ∧ c < n ∧ (r, c) ∉ set) ∧
    ((Pattern.mk' n false L set).rank r c = .error .elementOutOfRange ↔ r ≥ n ∨ c ≥ n) := by
  have hg := good_mk hw false L
  refine ⟨fun k => ?_, ?_, hg.rank_oor r c⟩
  · rw [hg.rank_ok, ← getElem?_eq_some_iff_idxOf hw.sorted.nodup]; rfl
  · rw [hg.rank_zero, mem_key_mk]; rfl

/-- same, by position: `rank r c = ok k` iff the `k`-th element of the set is `(r, c)` -/
theorem C19_rank_getElem {n : Nat} {set : List Pair} (hw : WF n set) (L r c k : Nat) :
    (Pattern.mk' n false L set).rank r c = .ok k ↔ set[k]? = some (r, c) :=
  (good_mk hw false L).rank_ok r c k

/-- ranks are `< nnz = |set|` and injective on elements (either storage order) -/
theorem C19_rank_lt_inj {n : Nat} {set : List Pair} (hw : WF n set) (csc : Bool) (L : Nat) :
    (Pattern.mk' n csc L set).nnz = set.length ∧
    (∀ r c k, (Pattern.mk' n csc L set).rank r c = .ok k → k < (Pattern.mk' n csc L set).nnz) ∧
    (∀ r c r' c' k, (Pattern.mk' n csc L set).rank r c = .ok k →
        (Pattern.mk' n csc L set).rank r' c' = .ok k → r = r' ∧ c = c') :=
  ⟨nnz_mk hw csc L, fun _ _ _ h => (good_mk hw csc L).rank_lt h,
    fun _ _ _ _ _ h1 h2 => (good_mk hw csc L).rank_inj h1 h2⟩

/-- `IsZero` agrees with non-membership (either storage order); it refuses only out-of-range
    indices, with `ElementOutOfRange` -/
theorem C19_isZero_spec {n : Nat} {set : List Pair} (hw : WF n set) (csc : Bool) (L r c : Nat) :
    ((Pattern.mk' n csc L set).isZero r c = .ok false ↔ (r, c) ∈ set) ∧
    ((Pattern.mk' n csc L set).isZero r c = .ok true ↔ r < n ∧ c < n ∧ (r, c) ∉ set) ∧
    (∀ e, (Pattern.mk' n csc L set).isZero r c = .error e ↔
        e = .elementOutOfRange ∧ (r ≥ n ∨ c ≥ n)) := by
  have hg := good_mk hw csc L
  refine ⟨?_, ?_, fun e => hg.isZero_error r c e⟩
  · rw [hg.isZero_false, mem_key_mk]
  · rw [hg.isZero_true, mem_key_mk]; rfl

/-- storage slots (any pattern, `L = 0` and `L ≥ 1`, any block count incl. partial groups):
    in range, injective on (block, rank); `VectorIndex` is `slot` of `rank`, and refuses a block
    `≥ blocks` -/
theorem C19_vectorIndex_inj_lt (p : Pattern) (blocks : Nat) :
    (∀ b k, b < blocks → k < p.nnz → p.slot b k < p.vectorSize blocks) ∧
    (∀ b k b' k', k < p.nnz → k' < p.nnz → p.slot b k = p.slot b' k' → b = b' ∧ k = k') ∧
    (∀ b r c k, b < blocks → p.rank r c = .ok k →
        p.vectorIndex blocks b r c = .ok (p.slot b k)) ∧
    (∀ b r c, b ≥ blocks → p.vectorIndex blocks b r c = .error .elementOutOfRange) := by
  refine ⟨fun b k hb hk => slot_lt hb hk, fun b k b' k' hk hk' h => slot_inj hk hk' h,
    ?_, fun b r c hb => vectorIndex_of_ge p hb r c⟩
  intro b r c k hb hk
  rw [vectorIndex_of_lt p hb, hk]; rfl

/-- `VectorIndex` end to end (either storage order): the three outcomes, exhaustively -/
theorem C19_vectorIndex_spec {n : Nat} {set : List Pair} (hw : WF n set) (csc : Bool)
    (L blocks b r c : Nat) :
    (∀ a, (Pattern.mk' n csc L set).vectorIndex blocks b r c = .ok a ↔
        b < blocks ∧ ∃ k, (Pattern.mk' n csc L set).rank r c = .ok k ∧
          a = (Pattern.mk' n csc L set).slot b k) ∧
    ((Pattern.mk' n csc L set).vectorIndex blocks b r c = .error .zeroElementAccess ↔
        b < blocks ∧ r < n ∧ c < n ∧ (r, c) ∉ set) ∧
    ((Pattern.mk' n csc L set).vectorIndex blocks b r c = .error .elementOutOfRange ↔
        r ≥ n ∨ c ≥ n ∨ b ≥ blocks) := by
  have hg := good_mk hw csc L
  have hz := hg.rank_zero r c
  have ho := hg.rank_oor r c
  rw [mem_key_mk] at hz
  simp only [show (Pattern.mk' n csc L set).n = n from rfl] at hz ho
  by_cases hb : b < blocks
  · -- inside the block range `VectorIndex` is `slot b` mapped over `rank`
    rw [vectorIndex_of_lt _ hb, Except.map_eq_error_iff, Except.map_eq_error_iff, hz, ho]
    refine ⟨fun a => ?_, by simp only [hb, true_and], by omega⟩
    rw [Except.map_eq_ok_iff]
    simp only [hb, true_and]
    exact exists_congr fun k => and_congr_right fun _ => eq_comm
  · rw [vectorIndex_of_ge _ (by omega)]
    exact ⟨fun a => by simp [hb], by simp [hb], by simp only [true_iff]; omega⟩

/-- logical elements of all blocks get pairwise distinct in-range slots -/
theorem C19_vectorIndex_inj {n : Nat} {set : List Pair} (hw : WF n set) (csc : Bool)
    (L blocks b r c b' r' c' a : Nat)
    (h : (Pattern.mk' n csc L set).vectorIndex blocks b r c = .ok a)
    (h' : (Pattern.mk' n csc L set).vectorIndex blocks b' r' c' = .ok a) :
    a < (Pattern.mk' n csc L set).vectorSize blocks ∧ b = b' ∧ r = r' ∧ c = c' := by
  have hg := good_mk hw csc L
  obtain ⟨hb, k, hk, rfl⟩ := ((C19_vectorIndex_spec hw csc L blocks b r c).1 _).mp h
  obtain ⟨_, k', hk', he⟩ := ((C19_vectorIndex_spec hw csc L blocks b' r' c').1 _).mp h'
  obtain ⟨hbb, hkk⟩ := slot_inj (hg.rank_lt hk) (hg.rank_lt hk') he
  subst hkk
  exact ⟨slot_lt hb (hg.rank_lt hk), hbb, hg.rank_inj hk hk'⟩

/-- CSC: elements are stored as (col, row) pairs in lexicographic order; `rank row col` is the
    index of `(col, row)` in that sorted transposed list (which is strictly sorted and holds
    exactly the transposed pairs). -/
theorem C19_csc {n : Nat} {set : List Pair} (hw : WF n set) (L r c : Nat) :
    PairSorted (setOfList (set.map fun e => (e.2, e.1))) ∧
    (∀ x y, (y, x) ∈ setOfList (set.map fun e => (e.2, e.1)) ↔ (x, y) ∈ set) ∧
    (∀ k, (Pattern.mk' n true L set).rank r c = .ok k ↔
        (r, c) ∈ set ∧ k = (setOfList (set.map fun e => (e.2, e.1))).idxOf (c, r)) ∧
    ((Pattern.mk' n true L set).rank r c = .error .zeroElementAccess ↔
        r < n ∧ c < n ∧ (r, c) ∉ set) ∧
    ((Pattern.mk' n true L set).rank r c = .error .elementOutOfRange ↔ r ≥ n ∨ c ≥ n) := by
  have hg := good_mk hw true L
  refine ⟨sorted_setOfList _, fun x y => mem_cscElems set x y, fun k => ?_, ?_, hg.rank_oor r c⟩
  · rw [hg.rank_ok]
    have h1 := getElem?_eq_some_iff_idxOf
      (sorted_setOfList (set.map fun e : Pair => (e.2, e.1))).nodup k (c, r)
    have h2 := mem_cscElems set r c
    unfold cscElems at h2
    rw [← h2, ← h1]; rfl
  · rw [hg.rank_zero, mem_key_mk]; rfl

/-- `diagRanks` lists exactly the ranks of the present diagonal elements, each once -/
theorem C19_diag {n : Nat} {set : List Pair} (hw : WF n set) (csc : Bool) (L : Nat) :
    (Pattern.mk' n csc L set).diagRanks.Nodup ∧
    ∀ k, k ∈ (Pattern.mk' n csc L set).diagRanks ↔
      ∃ i, (i, i) ∈ set ∧ (Pattern.mk' n csc L set).rank i i = .ok k := by
  have hg := good_mk hw csc L
  refine ⟨hg.diagRanks_nodup, fun k => ?_⟩
  rw [Pattern.mem_diagRanks_iff]
  refine exists_congr fun i => and_congr_left fun hi => ?_
  -- `i < n` and `(i, i) ∈ set` follow from one another given `rank i i = ok k`
  have hmem : (i, i) ∈ set := by
    rw [← mem_key_mk n csc L set i i]
    exact List.mem_of_getElem? ((hg.rank_ok i i k).mp hi)
  exact ⟨fun _ => hmem, fun _ => (hw.range _ hmem).1⟩

def exSet : List Pair := [(0, 0), (0, 1), (1, 0), (1, 1), (2, 1), (2, 2)]
/-- 3x3 with an empty trailing row: the case where `row_start_` stays `0` -/
def exSetQuirk : List Pair := [(0, 0), (0, 2), (1, 1)]

example : WF 3 exSet := ⟨by unfold PairSorted; decide, by decide⟩
example : WF 3 exSetQuirk := ⟨by unfold PairSorted; decide, by decide⟩

local instance : DecidableEq (Except MatErr Nat)
  | .ok a, .ok b => if h : a = b then isTrue (by rw [h]) else isFalse (fun h' => h (Except.ok.inj h'))
  | .error a, .error b =>
    if h : a = b then isTrue (by rw [h]) else isFalse (fun h' => h (Except.error.inj h'))
  | .ok _, .error _ => isFalse (fun h => nomatch h)
  | .error _, .ok _ => isFalse (fun h => nomatch h)
local instance : DecidableEq (Except MatErr Bool)
  | .ok a, .ok b => if h : a = b then isTrue (by rw [h]) else isFalse (fun h' => h (Except.ok.inj h'))
  | .error a, .error b =>
    if h : a = b then isTrue (by rw [h]) else isFalse (fun h' => h (Except.error.inj h'))
  | .ok _, .error _ => isFalse (fun h => nomatch h)
  | .error _, .ok _ => isFalse (fun h => nomatch h)

example : (Pattern.mk' 3 false 2 exSet).start = #[0, 2, 4, 6] := by decide +kernel
example : (Pattern.mk' 3 false 2 exSet).ids = #[0, 1, 0, 1, 1, 2] := by decide +kernel
example : (Pattern.mk' 3 true 2 exSet).elems = [(0, 0), (0, 1), (1, 0), (1, 1), (1, 2), (2, 2)] := by
  decide +kernel
example : (Pattern.mk' 3 false 0 exSetQuirk).start = #[0, 2, 3, 0] := by decide +kernel

-- `L = 2`, `blocks = 3`: one full group and a partial one
example : (Pattern.mk' 3 false 2 exSet).vectorSize 3 = 24 := by decide +kernel
example : (Pattern.mk' 3 false 2 exSet).vectorIndex 3 2 2 1 = .ok 20 := by decide +kernel
example : (Pattern.mk' 3 false 2 exSet).vectorIndex 3 1 2 2 = .ok 11 := by decide +kernel
example : (Pattern.mk' 3 false 2 exSet).vectorIndex 3 1 1 2 = .error .zeroElementAccess := by
  decide +kernel
example : (Pattern.mk' 3 false 2 exSet).vectorIndex 3 3 1 1 = .error .elementOutOfRange := by
  decide +kernel
example : (Pattern.mk' 3 false 2 exSet).vectorIndex 3 0 3 1 = .error .elementOutOfRange := by
  decide +kernel
example : (Pattern.mk' 3 false 2 exSet).isZero 1 2 = .ok true := by decide +kernel
example : (Pattern.mk' 3 false 2 exSet).isZero 2 1 = .ok false := by decide +kernel
example : (Pattern.mk' 3 true 2 exSet).rank 2 1 = .ok 4 := by decide +kernel
example : (Pattern.mk' 3 false 2 exSet).diagRanks = [0, 3, 5] := by decide +kernel
example : (Pattern.mk' 3 true 2 exSet).diagRanks = [0, 3, 5] := by decide +kernel
example : ((List.range 3).flatMap fun b => (List.range 6).map fun k =>
    (Pattern.mk' 3 false 2 exSet).slot b k).Nodup := by decide +kernel
-- trailing empty row: reversed range `[3, 0)`, still "structural zero"
example : (Pattern.mk' 3 false 0 exSetQuirk).rank 2 2 = .error .zeroElementAccess := by
  decide +kernel
example : (Pattern.mk' 3 false 0 exSetQuirk).rank 1 1 = .ok 2 := by decide +kernel

-- dense: 3 rows in groups of 2 (partial group), 2 columns
example : (DenseShape.mk 3 2 2).size = 8 := by decide
example : visitSlots (DenseShape.mk 3 2 2) = [0, 1, 2, 3, 4, 6] := by decide
example : (List.range 3).flatMap (fun x => (List.range 2).map fun y => (DenseShape.mk 3 2 2).addr x y)
    = [0, 2, 1, 3, 4, 6] := by decide

#print axioms C19_dense_addr_lt
#print axioms C19_dense_addr_inj
#print axioms C19_visitSlots
#print axioms C19_rowStart_spec
#print axioms C19_rowStart_full
#print axioms C19_rank_spec
#print axioms C19_rank_getElem
#print axioms C19_rank_lt_inj
#print axioms C19_isZero_spec
#print axioms C19_vectorIndex_inj_lt
#print axioms C19_vectorIndex_spec
#print axioms C19_vectorIndex_inj
#print axioms C19_csc
#print axioms C19_diag

end Micm
