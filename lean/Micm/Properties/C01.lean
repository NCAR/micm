/-
C01 — forcing equals the mass-action rate law; nothing else is added, dropped or written elsewhere.

Theorems about the model definitions `reactIdsOf`, `prodIdsOf`, `buildForcing`, `ProcessSet.build`,
`forcingGo`, `PSTables.addForcingCell` of `Micm/Model/ProcessSet.lean`.

Vocabulary (defined in `Micm/Lemmas/Forcing.lean`, `Micm/Lemmas/ForcingField.lean`):
 * `RRxn α := List Nat × List (Nat × α)`: a resolved reaction (reactant ids with repetitions,
   (product id, yield) pairs).
 * `Resolves m procs rxns`: `rxns` are the per-process results of the model's
   `reactIdsOf m p.reactants` / `prodIdsOf m p.products`, all of which succeed, i.e.
   `procs.map (fun p => (reactIdsOf m p.reactants, prodIdsOf m p.products))
      = rxns.map (fun rx => (.ok rx.1, .ok rx.2))`.
 * `reactIdsP`, `prodIdsP`, `resolveP`: closed form of the successful results (`filterMap`: skip
   parameterized species, look the others up).
 * `unknownNames m procs : List PSErr`: the errors of all unknown non-parameterized names in source
   order (processes in order; within a process reactants before products).
 * `rxnStep y f k rx`: single-reaction update (rate := left fold `k * y[r₁] * y[r₂] …`; subtract the
   rate once per reactant occurrence; add `yield * rate` per product).
-/
import Micm.Lemmas.ForcingField
import Mathlib.Algebra.Field.Rat

namespace Micm

section Tables
variable {α : Type}

/-- If the first constructor loop succeeds, every per-process resolution succeeds and the flat
    streams are exactly the concatenations of the per-process resolved lists (the Jacobian streams
    are still empty). -/
theorem C01_tables_decode (m : NameMap) (procs : List (Process α)) (t : PSTables α)
    (h : buildForcing m procs = .ok t) :
    ∃ rxns : List (RRxn α), Resolves m procs rxns ∧
      t.nReact = rxns.map (·.1.length) ∧
      t.reactIds = (rxns.map (·.1)).flatten ∧
      t.nProd = rxns.map (·.2.length) ∧
      t.prodIds = (rxns.map (·.2.map (·.1))).flatten ∧
      t.yields = (rxns.map (·.2.map (·.2))).flatten ∧
      t.jInfo = [] ∧ t.jReactIds = [] ∧ t.jProdIds = [] ∧ t.jYields = [] := by
  obtain ⟨rxns, hr, rfl⟩ := (buildForcing_ok_iff m procs t).1 h
  exact ⟨rxns, hr, rfl, rfl, rfl, rfl, rfl, rfl, rfl, rfl, rfl⟩

/-- Exact characterisation of success (`tablesOf rxns` is the record with the five streams above). -/
theorem C01_tables_decode_iff (m : NameMap) (procs : List (Process α)) (t : PSTables α) :
    buildForcing m procs = .ok t ↔ ∃ rxns, Resolves m procs rxns ∧ t = tablesOf rxns :=
  buildForcing_ok_iff m procs t

/-- The resolved lists in closed form: resolution succeeds iff there is no unknown
    non-parameterized name, and then each reaction is the `filterMap` of its process. -/
theorem C01_resolves_iff (m : NameMap) (procs : List (Process α)) (rxns : List (RRxn α)) :
    Resolves m procs rxns ↔ unknownNames m procs = [] ∧ rxns = procs.map (resolveP m) :=
  resolves_iff m procs rxns

/-- Error behaviour: `buildForcing` fails iff some process has an unknown non-parameterized
    reactant/product name, and the error is the one of the first such name in source order. -/
theorem C01_build_error_iff (m : NameMap) (procs : List (Process α)) (e : PSErr) :
    buildForcing m procs = .error e ↔ (unknownNames m procs).head? = some e :=
  buildForcing_error_iff m procs e

theorem C01_build_ok_iff (m : NameMap) (procs : List (Process α)) :
    (∃ t, buildForcing m procs = .ok t) ↔
      ∀ p ∈ procs, (∀ r ∈ p.reactants, r.param = false → (nmLookup m r.name).isSome = true) ∧
                   (∀ q ∈ p.products, q.1.param = false → (nmLookup m q.1.name).isSome = true) := by
  rw [buildForcing_isOk_iff, unknownNames_eq_nil_iff]
  simp only [unknownReactants_eq_nil_iff, unknownProducts_eq_nil_iff]

/-- The same for a single reactant list / product list (the two resolvers). -/
theorem C01_reactIdsOf_iff (m : NameMap) (l : List SpecRef) :
    (∀ ids, reactIdsOf m l = .ok ids ↔ unknownReactants m l = [] ∧ ids = reactIdsP m l) ∧
    (∀ e, reactIdsOf m l = .error e ↔ (unknownReactants m l).head? = some e) :=
  ⟨reactIdsOf_ok_iff m l, reactIdsOf_error_iff m l⟩

theorem C01_prodIdsOf_iff (m : NameMap) (l : List (SpecRef × α)) :
    (∀ ids, prodIdsOf m l = .ok ids ↔ unknownProducts m l = [] ∧ ids = prodIdsP m l) ∧
    (∀ e, prodIdsOf m l = .error e ↔ (unknownProducts m l).head? = some e) :=
  ⟨prodIdsOf_ok_iff m l, prodIdsOf_error_iff m l⟩

/-- `ProcessSet.build` only extends the record of `buildForcing` with the Jacobian streams: same
    forcing streams, same errors, succeeds exactly when `buildForcing` does. -/
theorem C01_build_extends (m : NameMap) (procs : List (Process α)) :
    (∀ t, ProcessSet.build procs m = .ok t →
      ∃ t0, buildForcing m procs = .ok t0 ∧ t.nReact = t0.nReact ∧ t.reactIds = t0.reactIds ∧
        t.nProd = t0.nProd ∧ t.prodIds = t0.prodIds ∧ t.yields = t0.yields) ∧
    (∀ e, ProcessSet.build procs m = .error e ↔ buildForcing m procs = .error e) ∧
    ((∃ t, ProcessSet.build procs m = .ok t) ↔ ∃ t0, buildForcing m procs = .ok t0) := by
  refine ⟨fun t h => ?_, ProcessSet.build_error_iff m procs, ProcessSet.build_isOk_iff m procs⟩
  obtain ⟨hu, rfl⟩ := (ProcessSet.build_ok_iff procs m t).1 h
  exact ⟨_, (buildForcing_eq m procs).trans (congrArg (firstErrOr · _) hu), rfl, rfl, rfl, rfl, rfl⟩

end Tables

section Decode
variable {α : Type} [OfNat α 0] [Add α] [Sub α] [Mul α]

/-- On streams that are concatenations of per-reaction lists, the cursor-driven kernel is the fold
    of the single-reaction update over the reactions paired with their rate constants (for every
    mechanism; it stops at the shorter of the reaction list and the rate-constant list). -/
theorem C01_forcingGo_decode (y : Array α) (rxns : List (RRxn α)) (ks : List α) (f : Array α) :
    forcingGo y (rxns.map (·.1.length)) (rxns.map (·.2.length)) (rxns.map (·.1)).flatten
      (rxns.map (·.2.map (·.1))).flatten (rxns.map (·.2.map (·.2))).flatten ks f
    = (rxns.zip ks).foldl (fun f rk => rxnStep y f rk.2 rk.1) f :=
  forcingGo_decode y rxns ks f

/-- The same for the tables produced by either constructor entry point. -/
theorem C01_addForcingCell_decode (m : NameMap) (procs : List (Process α)) (t : PSTables α)
    (rxns : List (RRxn α)) (h : buildForcing m procs = .ok t ∨ ProcessSet.build procs m = .ok t)
    (hr : Resolves m procs rxns) (k y f : Array α) :
    t.addForcingCell k y f = (rxns.zip k.toList).foldl (fun f rk => rxnStep y f rk.2 rk.1) f :=
  built_addForcingCell h hr k y f

omit [OfNat α 0] [Add α] [Sub α] [Mul α] in
/-- With one rate constant per process no reaction and no rate constant is dropped by the `zip`. -/
theorem C01_zip_complete (m : NameMap) (procs : List (Process α)) (rxns : List (RRxn α))
    (hr : Resolves m procs rxns) (k : Array α) (hk : k.size = procs.length) :
    (rxns.zip k.toList).map (·.1) = rxns ∧ (rxns.zip k.toList).map (·.2) = k.toList :=
  forcing_zip_complete hr k.toList (by simpa using hk)

end Decode

section MassAction
variable {K : Type} [Field K]

/-- Mass-action law for the forcing tables.  For every in-range species index `i`,
    `f'[i] = f[i] + Σ_r (Σ yields of products of r with id i − #occurrences of i among the reactants of r)
                      · k_r · Π_{j ∈ reactants of r} y[j]`,
    the reactions being those resolved by `reactIdsOf`/`prodIdsOf` (parameterized species skipped)
    and `k_r` the `r`-th rate constant (`C01_zip_complete`).
    No range hypothesis on the ids is needed: an out-of-range write is dropped by the model and an
    in-range `i` never equals an out-of-range id (`C01_bounds` shows ids are in range). -/
theorem C01_forcing_mass_action (m : NameMap) (procs : List (Process K)) (t : PSTables K)
    (rxns : List (RRxn K)) (h : buildForcing m procs = .ok t ∨ ProcessSet.build procs m = .ok t)
    (hr : Resolves m procs rxns) (k y f : Array K) (i : Nat) (hi : i < f.size) :
    rd (t.addForcingCell k y f) i
      = rd f i + ((rxns.zip k.toList).map fun rk =>
          (((rk.1.2.filter (fun p => p.1 = i)).map (·.2)).sum - (rk.1.1.count i : K))
            * (rk.2 * (rk.1.1.map (rd y)).prod)).sum := by
  rw [rd_built_addForcingCell h hr k y f i hi]
  rfl

/-- The statement with the reactions in closed form (no `Resolves` hypothesis). -/
theorem C01_forcing_mass_action' (m : NameMap) (procs : List (Process K)) (t : PSTables K)
    (h : buildForcing m procs = .ok t ∨ ProcessSet.build procs m = .ok t)
    (k y f : Array K) (i : Nat) (hi : i < f.size) :
    rd (t.addForcingCell k y f) i
      = rd f i + ((procs.zip k.toList).map fun pk =>
          ((((prodIdsP m pk.1.products).filter (fun p => p.1 = i)).map (·.2)).sum
              - ((reactIdsP m pk.1.reactants).count i : K))
            * (pk.2 * ((reactIdsP m pk.1.reactants).map (rd y)).prod)).sum := by
  have hr : Resolves m procs (procs.map (resolveP m)) :=
    (resolves_iff m procs _).2 ⟨(built_forcing_tables h).1, rfl⟩
  rw [C01_forcing_mass_action m procs t _ h hr k y f i hi, List.zip_map_left, List.map_map]
  rfl

end MassAction

section Frame
variable {α : Type} [OfNat α 0] [Add α] [Sub α] [Mul α]

/-- The forcing vector keeps its size (any tables, any carrier). -/
theorem C01_frame_size (t : PSTables α) (k y f : Array α) : (t.addForcingCell k y f).size = f.size :=
  forcingGo_size y _ _ _ _ _ _ f

/-- An index that is neither a reactant id nor a product id in the tables is not written
    (any tables, any carrier). -/
theorem C01_frame (t : PSTables α) (k y f : Array α) (i : Nat)
    (hr : i ∉ t.reactIds) (hp : i ∉ t.prodIds) : rd (t.addForcingCell k y f) i = rd f i :=
  forcingGo_rd_of_not_mem y _ _ _ _ _ _ f i hr hp

/-- For built tables: an index that is not a reactant or product id of any resolved reaction is
    unchanged. -/
theorem C01_frame_built (m : NameMap) (procs : List (Process α)) (t : PSTables α) (rxns : List (RRxn α))
    (h : buildForcing m procs = .ok t ∨ ProcessSet.build procs m = .ok t) (hr : Resolves m procs rxns)
    (k y f : Array α) (i : Nat) (hi : ∀ rx ∈ rxns, i ∉ rx.1 ∧ ∀ p ∈ rx.2, p.1 ≠ i) :
    rd (t.addForcingCell k y f) i = rd f i := by
  have ht := hr.eq_map ▸ (built_forcing_tables h).2
  apply C01_frame
  · rw [show t.reactIds = (tablesOf rxns).reactIds from congrArg (·.reactIds) ht, tablesOf_reactIds_mem]
    rintro ⟨rx, hrx, hj⟩
    exact (hi rx hrx).1 hj
  · rw [show t.prodIds = (tablesOf rxns).prodIds from congrArg (·.prodIds) ht, tablesOf_prodIds_mem]
    rintro ⟨rx, hrx, p, hp, hj⟩
    exact (hi rx hrx).2 p hp hj

end Frame

section Bounds
variable {α : Type}

/-- If every value of the name map is `< n`, every id in the forcing tables is `< n` (so with
    `f.size = y.size = n` every address read or written by `addForcingCell` is in range). -/
theorem C01_bounds (m : NameMap) (procs : List (Process α)) (t : PSTables α) (n : Nat)
    (hm : ∀ e ∈ m, e.2 < n) (h : buildForcing m procs = .ok t ∨ ProcessSet.build procs m = .ok t) :
    (∀ j ∈ t.reactIds, j < n) ∧ (∀ j ∈ t.prodIds, j < n) := by
  obtain ⟨hu, ht⟩ := built_forcing_tables h
  have hb := resolves_bounds hm ((resolves_iff m procs _).2 ⟨hu, rfl⟩)
  constructor
  · intro j hj
    rw [show t.reactIds = (tablesOf _).reactIds from congrArg (·.reactIds) ht] at hj
    obtain ⟨rx, hrx, hj⟩ := tablesOf_reactIds_mem.1 hj
    exact (hb rx hrx).1 j hj
  · intro j hj
    rw [show t.prodIds = (tablesOf _).prodIds from congrArg (·.prodIds) ht] at hj
    obtain ⟨rx, hrx, p, hp, rfl⟩ := tablesOf_prodIds_mem.1 hj
    exact (hb rx hrx).2 p hp

/-- The same bound, per resolved reaction. -/
theorem C01_bounds_resolved (m : NameMap) (procs : List (Process α)) (rxns : List (RRxn α)) (n : Nat)
    (hm : ∀ e ∈ m, e.2 < n) (hr : Resolves m procs rxns) :
    ∀ rx ∈ rxns, (∀ j ∈ rx.1, j < n) ∧ ∀ p ∈ rx.2, p.1 < n :=
  resolves_bounds hm hr

end Bounds

/-! ### examples: the hypotheses are satisfiable on a concrete mechanism

`s0 → 0.8 s1 + 0.2 s2 ;  s0 + s1 (+ M, parameterized) → s2 ;  s1 + s1 + s0 → s1`
with name map `s0 ↦ 0, s1 ↦ 1, s2 ↦ 2`, at `Rat`. -/
namespace C01Ex

def exMap : NameMap := [("s0", 0), ("s1", 1), ("s2", 2)]

def exProcs : List (Process Rat) :=
  [ { reactants := [⟨"s0", false⟩],
      products := [(⟨"s1", false⟩, 4/5), (⟨"s2", false⟩, 1/5)] },
    { reactants := [⟨"s0", false⟩, ⟨"s1", false⟩, ⟨"M", true⟩],
      products := [(⟨"s2", false⟩, 1)] },
    { reactants := [⟨"s1", false⟩, ⟨"s1", false⟩, ⟨"s0", false⟩],
      products := [(⟨"s1", false⟩, 1)] } ]

def exRxns : List (RRxn Rat) :=
  [ ([0], [(1, 4/5), (2, 1/5)]), ([0, 1], [(2, 1)]), ([1, 1, 0], [(1, 1)]) ]

theorem exResolves : Resolves exMap exProcs exRxns := by unfold Resolves; rfl

theorem exBuildForcing : buildForcing exMap exProcs = .ok (tablesOf exRxns) :=
  (C01_tables_decode_iff _ _ _).2 ⟨exRxns, exResolves, rfl⟩

example : buildForcing exMap exProcs = .ok
    { nReact := [1, 2, 3], reactIds := [0, 0, 1, 1, 1, 0],
      nProd := [2, 1, 1], prodIds := [1, 2, 2, 1], yields := [4/5, 1/5, 1, 1] } := exBuildForcing

theorem exBuild : ∃ t, ProcessSet.build exProcs exMap = .ok t :=
  (C01_build_extends exMap exProcs).2.2.2 ⟨_, exBuildForcing⟩

example (t : PSTables Rat) (h : ProcessSet.build exProcs exMap = .ok t) (k0 k1 k2 y0 y1 y2 f0 f1 f2 : Rat) :
    rd (t.addForcingCell #[k0, k1, k2] #[y0, y1, y2] #[f0, f1, f2]) 1
      = f1 + 4/5 * k0 * y0 - k1 * y0 * y1 - k2 * y1 * y1 * y0 := by
  rw [C01_forcing_mass_action exMap exProcs t exRxns (.inr h) exResolves _ _ _ 1 (by simp)]
  simp [exRxns, rd]
  ring

example : ∀ e ∈ exMap, e.2 < 3 := by decide

/-- an unknown product name is reported; the unknown reactant of the later process is not reached -/
example : buildForcing exMap
    [ { reactants := [⟨"s0", false⟩], products := [(⟨"zz", false⟩, (1 : Rat))] },
      { reactants := [⟨"yy", false⟩], products := [] } ] = .error (.productDoesNotExist "zz") := by
  rw [C01_build_error_iff]; rfl

end C01Ex

end Micm

#print axioms Micm.C01_tables_decode
#print axioms Micm.C01_tables_decode_iff
#print axioms Micm.C01_resolves_iff
#print axioms Micm.C01_build_error_iff
#print axioms Micm.C01_build_ok_iff
#print axioms Micm.C01_reactIdsOf_iff
#print axioms Micm.C01_prodIdsOf_iff
#print axioms Micm.C01_build_extends
#print axioms Micm.C01_forcingGo_decode
#print axioms Micm.C01_addForcingCell_decode
#print axioms Micm.C01_zip_complete
#print axioms Micm.C01_forcing_mass_action
#print axioms Micm.C01_forcing_mass_action'
#print axioms Micm.C01_frame_size
#print axioms Micm.C01_frame
#print axioms Micm.C01_frame_built
#print axioms Micm.C01_bounds
#print axioms Micm.C01_bounds_resolved
