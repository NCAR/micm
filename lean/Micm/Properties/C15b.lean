/-
C15 (formulas) — the rate-constant formulas the library evaluates are the documented ones.

`RateKind.calc` is defined by `Micm/Gen/RateFormulas.lean`, which tools/gen_rates.py regenerates on every run from the
bodies of the seven `Calculate` functions, the `Branched` helper `A` and constructor initialisers, and from which
`Conditions` fields each two-argument `Calculate` forwards.  `RateKind.documented` is written by hand from the
documentation.  The theorem holds for EVERY carrier and every interpretation of `exp`, `pow`, `log10`, `sqrt` (it is a
statement about the shape of the expression, including the order of the floating-point operations), hence verbatim for
the `Float` instance that the driver runs and the harness compares bit for bit with the C++.
-/
import Micm.Model.RateConst

namespace Micm

section
variable {α : Type} [OfNat α 0] [OfNat α 1] [Add α] [Sub α] [Mul α] [Div α] [Neg α]

/-- for every rate-constant type, parameters, conditions and custom parameters, the value computed by the
    (generated) source formula is the documented formula -/
theorem C15_formulas_documented (t : TOps α) (pi avogadro : α) (c : Conditions α) (ps : List α) (k : RateKind α) :
    k.calc t pi avogadro c ps = k.documented t pi avogadro c ps := by
  cases k <;> rfl

/-- per type, spelled out (Arrhenius): `A · exp(C/T) · (T/D)^B · (1 + E·P)` -/
theorem C15_arrhenius_formula (t : TOps α) (pi av : α) (c : Conditions α) (ps : List α) (A B C D E : α) :
    (RateKind.arrhenius A B C D E).calc t pi av c ps =
      A * t.exp (C / c.temperature) * t.pow (c.temperature / D) B * (1 + E * c.pressure) := rfl

/-- user-defined: its own custom parameter times its scaling factor -/
theorem C15_userDefined_formula (t : TOps α) (pi av : α) (c : Conditions α) (ps : List α) (l : String) (scale : α) :
    (RateKind.userDefined l scale).calc t pi av c ps = ps.getD 0 0 * scale := rfl

/-- tunneling: `A · exp(−B/T + C/T³)` -/
theorem C15_tunneling_formula (t : TOps α) (pi av : α) (c : Conditions α) (ps : List α) (A B C : α) :
    (RateKind.tunneling A B C).calc t pi av c ps =
      A * t.exp (-B / c.temperature + C / t.pow c.temperature (t.ofInt 3)) := rfl

end
end Micm
