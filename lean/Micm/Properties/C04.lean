import Micm.Lemmas.Substitution
import Micm.Spec.DenseLU
import Micm.Lemmas.LUCell
import Micm.Lemmas.LUCellMozart
import Mathlib.Algebra.Field.Rat

/-!
C04 — `Solve` after `Factor` overwrites `b` with the solution of `A x = b` (one cell).

`view p a r c` is the logical matrix held by the rank-indexed array `a` under pattern `p`
(absent elements read as `0`).  The substitution tables are exactly `solverRows Lp Up`.
-/
open Finset
namespace Micm
variable {K : Type} [Field K]

/-- C04 (separate L, U).  If the arrays `L`, `U` hold (through the patterns `Lp`, `Up`) a lower
    triangular matrix with non-zero diagonal (the source divides by `L[i][i]`; after `Factor` it
    is `1`) and an upper triangular matrix with non-zero diagonal, then `solveCell` overwrites `x`
    with `y` such that `(L·U) y = x`, for every right-hand side `x` of the block size. -/
theorem C04_solveCell (Lp Up : Pattern) (L U x : Array K) (n : Nat)
    (hn : Lp.n = n) (hx : x.size = n)
    (hLd : ∀ i, i < n → view Lp L i i ≠ 0)
    (hLu : ∀ i j, i < n → j < n → i < j → view Lp L i j = 0)
    (hUd : ∀ i, i < n → view Up U i i ≠ 0)
    (hUl : ∀ i j, i < n → j < n → j < i → view Up U i j = 0) :
    ∀ i, i < n →
      ∑ j ∈ range n, (∑ k ∈ range n, view Lp L i k * view Up U k j)
        * rd (solveCell (solverRows Lp Up).1 (solverRows Lp Up).2 L U x) j = rd x i :=
  solveCell_correct Lp Up L U x n hn hx hLd hLu hUd hUl

/-- C04 (in place).  The single array `M` holds the strict lower part of `L` (unit diagonal
    implicit: the forward pass does not divide) and `U`; `solveInPlaceCell` overwrites `x` with
    `y` such that `(L·U) y = x`. -/
theorem C04_solveInPlaceCell (P : Pattern) (M x : Array K) (n : Nat)
    (hn : P.n = n) (hx : x.size = n) (hd : ∀ i, i < n → view P M i i ≠ 0) :
    ∀ i, i < n →
      ∑ j ∈ range n, (∑ k ∈ range n, lowerUnit (view P M) i k * upperPart (view P M) k j)
        * rd (solveInPlaceCell (solverRows P P).1 (solverRows P P).2 M x) j = rd x i :=
  solveInPlaceCell_correct P M x n hn hx hd

/-- composed with an LU factorisation of `A` (what C03 delivers): `Factor; Solve` solves `A y = b` -/
theorem C04_factor_solve (Lp Up : Pattern) (L U x : Array K) (n : Nat) (A : Nat → Nat → K)
    (hn : Lp.n = n) (hx : x.size = n)
    (hLU : DenseLU.IsLU n A (view Lp L) (view Up U))
    (hUd : ∀ i, i < n → view Up U i i ≠ 0) :
    ∀ i, i < n →
      ∑ j ∈ range n, A i j
        * rd (solveCell (solverRows Lp Up).1 (solverRows Lp Up).2 L U x) j = rd x i :=
  factor_solve Lp Up L U x n A hn hx hLU hUd

/-! ### `Factor` followed by `Solve`, for each of the four LU algorithms

`a` holds `A` (pattern `A`), `b` the right-hand side; hypotheses (H1)–(H3) as in C03 and "no zero
pivot" (the diagonal of the computed `U`). Conclusion: `A · x = b` on the block. -/

theorem C04_doolittle {n : Nat} {A Lp Up : Pattern} (h : LUSetup n A Lp Up) (hn : A.n = n)
    (hnL : Lp.n = n) (a l0 u0 b : Array K) (hLs : l0.size = Lp.nnz) (hUs : u0.size = Up.nnz)
    (hb : b.size = n)
    (hpiv : ∀ i, i < n → view Up (doolittleCell (doolittleRows A Lp Up) a (l0, u0)).2 i i ≠ 0) :
    ∀ i, i < n →
      ∑ j ∈ range n, view A a i j *
        rd (solveCell (solverRows Lp Up).1 (solverRows Lp Up).2
          (doolittleCell (doolittleRows A Lp Up) a (l0, u0)).1
          (doolittleCell (doolittleRows A Lp Up) a (l0, u0)).2 b) j = rd b i :=
  solve_of_views Lp Up _ _ b n (view A a) hnL hb (doolittleCell_view h hn a l0 u0 hLs hUs) hpiv

theorem C04_mozart {n : Nat} {A Lp Up : Pattern} (h : MozSetup n A Lp Up) (hn : A.n = n)
    (hnL : Lp.n = n) (a l0 u0 b : Array K) (hLs : l0.size = Lp.nnz) (hUs : u0.size = Up.nnz)
    (hb : b.size = n)
    (hpiv : ∀ i, i < n →
      view Up (mozartCell (mozartInit A Lp Up) (mozartRows A Lp Up) a (l0, u0)).2 i i ≠ 0) :
    ∀ i, i < n →
      ∑ j ∈ range n, view A a i j *
        rd (solveCell (solverRows Lp Up).1 (solverRows Lp Up).2
          (mozartCell (mozartInit A Lp Up) (mozartRows A Lp Up) a (l0, u0)).1
          (mozartCell (mozartInit A Lp Up) (mozartRows A Lp Up) a (l0, u0)).2 b) j = rd b i :=
  solve_of_views Lp Up _ _ b n (view A a) hnL hb (mozartCell_view h hn a l0 u0 hLs hUs) hpiv

theorem C04_doolittleInPlace {n : Nat} {P : Pattern} (h : IPSetup n P) (hn : P.n = n)
    (m0 b : Array K) (hMs : m0.size = P.nnz) (hb : b.size = n)
    (hpiv : ∀ i, i < n → view P (doolittleInPlaceCell (doolittleInPlaceRows P) m0) i i ≠ 0) :
    ∀ i, i < n →
      ∑ j ∈ range n, view P m0 i j *
        rd (solveInPlaceCell (solverRows P P).1 (solverRows P P).2
          (doolittleInPlaceCell (doolittleInPlaceRows P) m0) b) j = rd b i :=
  solve_of_view_inplace P _ b n (view P m0) hn hb (doolittleInPlaceCell_view h hn m0 hMs) hpiv

theorem C04_mozartInPlace {n : Nat} {P : Pattern} (h : IPSetup n P) (hn : P.n = n)
    (m0 b : Array K) (hMs : m0.size = P.nnz) (hb : b.size = n)
    (hpiv : ∀ i, i < n → view P (mozartInPlaceCell (mozartInPlaceRows P) m0) i i ≠ 0) :
    ∀ i, i < n →
      ∑ j ∈ range n, view P m0 i j *
        rd (solveInPlaceCell (solverRows P P).1 (solverRows P P).2
          (mozartInPlaceCell (mozartInPlaceRows P) m0) b) j = rd b i :=
  solve_of_view_inplace P _ b n (view P m0) hn hb (mozartInPlaceCell_view h hn m0 hMs) hpiv

/-! ### the hypotheses are satisfiable: a 3×3 instance with one fill-in element (2,1) -/

def exLp : Pattern := Pattern.mk' 3 false 0 [(0,0),(1,0),(1,1),(2,0),(2,1),(2,2)]
def exUp : Pattern := Pattern.mk' 3 false 0 [(0,0),(0,1),(1,1),(2,2)]
def exL : Array ℚ := #[1, 2, 1, 3, -1, 1]
def exU : Array ℚ := #[2, 1, 5, 7]

example : exLp.n = 3 ∧
    (∀ i, i < 3 → view exLp exL i i ≠ 0) ∧
    (∀ i, i < 3 → ∀ j, j < 3 → i < j → view exLp exL i j = 0) ∧
    (∀ i, i < 3 → view exUp exU i i ≠ 0) ∧
    (∀ i, i < 3 → ∀ j, j < 3 → j < i → view exUp exU i j = 0) := by
  decide +kernel

/-- In place: `exM` packs `L` (strict lower) and `U`. -/
def exP : Pattern := Pattern.mk' 3 false 0 [(0,0),(0,1),(1,0),(1,1),(2,0),(2,1),(2,2)]
def exM : Array ℚ := #[2, 1, 2, 5, 3, -1, 7]

example : exP.n = 3 ∧ (∀ i, i < 3 → view exP exM i i ≠ 0) := by decide +kernel

/-- `L·U = [[2,1,0],[4,7,0],[6,-2,7]]`. -/
example : solveInPlaceCell (solverRows exP exP).1 (solverRows exP exP).2 exM #[1, 2, 3]
    = #[1/2, 0, 0] := by decide +kernel

end Micm

#print axioms Micm.C04_doolittle
#print axioms Micm.C04_mozart
#print axioms Micm.C04_doolittleInPlace
#print axioms Micm.C04_mozartInPlace
#print axioms Micm.C04_solveCell
#print axioms Micm.C04_solveInPlaceCell
#print axioms Micm.C04_factor_solve
