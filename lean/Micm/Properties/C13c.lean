/-
C13 (third part) — grid cells are independent; any cell count works:
Mozart, Doolittle-in-place and Mozart-in-place LU decompositions, the in-place linear solve and
`AlphaMinusJacobian` on flat storage.

The flat-storage kernels of `Micm/Model/FlatKernels3.lean` (`mozartFlat`,
`doolittleInPlaceFlat`, `mozartInPlaceFlat`, `solveInPlaceFlat`, `alphaMinusJacobianFlat`: the loops
of `LuDecompositionMozart::Decompose`, `LuDecompositionDoolittleInPlace::Decompose`,
`LuDecompositionMozartInPlace::Decompose`, `LinearSolverInPlace::Solve`, `AlphaMinusJacobian`, for
the standard layout `L = 0` and the vector layouts `L ≥ 1`; the LU kernels run
`min L (blocks - g*L)` lanes of group `g`, solve and `AlphaMinusJacobian` all `L` lanes, padding
included) against the per-cell / logical kernels `mozartCell`, `doolittleInPlaceCell`,
`mozartInPlaceCell`, `solveInPlaceCell` (`LU.lean`), `SolverCfg.alphaMinusJacobian`
(`Rosenbrock.lean`) — the ones C03 / C04 / C05 speak of.

Storage conventions (`slot`, `vectorSize`, `sparseRow`, `DenseShape.addr`, `flatRow`) as in
`C13b.lean`.  Range predicates on the tables (`Micm/Lemmas/Lanes3.lean`, restated by the
first `example`s below): `MInit.InRange`, `MRow.InRange`, `DIRow.InRange`, `MIRow.InRange` — every element
rank of a table row is inside its pattern — and `MIRow.Distinct`.

Which hypotheses are needed (and which are not):
 * the vector Mozart kernels first fill an `L`-lane buffer `inv[l] = 1 / U[uii][l]` (resp.
   `1 / M[aii][l]`) and then multiply the column by it.  The per-cell kernels compute `inv` once
   before the loop as well, so lane `l` of the buffer *is* the per-cell `inv`: no hypothesis
   relating `uii` / `aii` to the ranks written by the loop is needed (neither for `mozartFlat`,
   where `inv` reads `U` and the loop writes `L`, nor for `mozartInPlaceFlat`, where both are `M`).
 * the in-place Mozart vector kernel re-reads `M[aik]` in every iteration of the `(a_jk, a_ji)` loop
   of one `k`, the per-cell kernel `mozartInPlaceCell` reads it once before that loop.  They agree
   when the loop does not write `aik`: `MIRow.Distinct` (`p.1 ≠ k.aik` for the pairs of `k`).  This
   holds for the built tables (`a_jk`, `j > i`, is another element than `a_ik`).
 * sizes: only of the arrays that are written (the model drops out-of-range writes).
 * the forward pass of the in-place solve never reads `SubRow.diag`: only its pairs must be in range.

`C13_tables_in_range`: all these hypotheses hold for the tables `LinAlg.build` produces (any kind,
any `Pattern.mk' n csc L set` with `WF n set` and a full diagonal); the corollaries `C13_build_*`
are the lane theorems for the built tables, without table hypotheses.

Everything is parametric in the element type (notation classes only, no algebraic law): every
statement holds verbatim for `Float`.
-/
import Micm.Lemmas.Lanes3
import Micm.Properties.C13b
import Micm.Lemmas.TablesInRange
namespace Micm

example (r : MInit) (nnzA nnzL nnzU : Nat) :
    r.InRange nnzA nnzL nnzU ↔
      r.lii < nnzL ∧ (∀ p ∈ r.ujiAji, p.1 < nnzU ∧ p.2 < nnzA) ∧ (∀ p ∈ r.ljiAji, p.1 < nnzL ∧ p.2 < nnzA) ∧
      (∀ i ∈ r.fillU, i < nnzU) ∧ ∀ i ∈ r.fillL, i < nnzL := Iff.rfl
example (r : MRow) (nnzL nnzU : Nat) :
    r.InRange nnzL nnzU ↔
      r.uii < nnzU ∧ (∀ i ∈ r.lji, i < nnzL) ∧
      ∀ k ∈ r.ks, k.uik < nnzU ∧ (∀ p ∈ k.ujk, p.1 < nnzU ∧ p.2 < nnzL) ∧ ∀ p ∈ k.ljk, p.1 < nnzL ∧ p.2 < nnzL :=
  Iff.rfl
example (r : DIRow) (nnz : Nat) :
    r.InRange nnz ↔
      r.aii < nnz ∧ (∀ e ∈ r.u, e.t < nnz ∧ ∀ p ∈ e.pairs, p.1 < nnz ∧ p.2 < nnz) ∧
      ∀ e ∈ r.l, e.t < nnz ∧ ∀ p ∈ e.pairs, p.1 < nnz ∧ p.2 < nnz := Iff.rfl
example (r : MIRow) (nnz : Nat) :
    r.InRange nnz ↔
      r.aii < nnz ∧ (∀ i ∈ r.aji, i < nnz) ∧ ∀ k ∈ r.ks, k.aik < nnz ∧ ∀ p ∈ k.pairs, p.1 < nnz ∧ p.2 < nnz :=
  Iff.rfl
example (r : MIRow) : r.Distinct ↔ ∀ k ∈ r.ks, ∀ p ∈ k.pairs, p.1 ≠ k.aik := Iff.rfl
example (L blocks : Nat) : paddedBlocks L blocks = if L = 0 then blocks else (blocks + L - 1) / L * L := rfl
example {α : Type} [OfNat α 0] (L nnz blocks : Nat) (D : Array α) :
    sparseRows L nnz blocks D = ((List.range blocks).map (sparseRow L nnz D)).toArray := rfl

section Mozart
variable {α : Type} [OfNat α 0] [OfNat α 1] [Sub α] [Mul α] [Div α]

/-- **Lane theorem, Mozart LU.**  Both layouts (`L = 0`, every `L ≥ 1`), every block count (also
    `blocks < L`, `blocks % L ≠ 0`), every real block `b < blocks`: logical block `b` of the flat
    `(L, U)` result is `mozartCell` on logical block `b` of `A`, `L`, `U`. -/
theorem C13_mozart_flat_eq_cell (L blocks : Nat) (ini : List MInit) (rows : List MRow) (nnzA nnzL nnzU : Nat)
    (hini : ∀ r ∈ ini, r.InRange nnzA nnzL nnzU) (hrows : ∀ r ∈ rows, r.InRange nnzL nnzU)
    (A Lo Up : Array α) (hLo : Lo.size = vectorSize L nnzL blocks) (hUp : Up.size = vectorSize L nnzU blocks)
    (b : Nat) (hb : b < blocks) :
    (sparseRow L nnzL (mozartFlat L blocks ini rows nnzA nnzL nnzU A (Lo, Up)).1 b,
     sparseRow L nnzU (mozartFlat L blocks ini rows nnzA nnzL nnzU A (Lo, Up)).2 b)
      = mozartCell ini rows (sparseRow L nnzA A b) (sparseRow L nnzL Lo b, sparseRow L nnzU Up b) := by
  have VL := View.ofSparseRow hLo hb
  have VU := View.ofSparseRow hUp hb
  have hA := reads_sparseRow L nnzA A b
  apply View.sparseRow_eq₂
  unfold mozartFlat
  simp only [slot_lane] at VL VU hA ⊢
  exact blockLoop_rel _
    (fun L nc off S => mozartVecGroup L nc ini rows A (off nnzA) (off nnzL) (off nnzU) S) _ L blocks b hb
    (fun nc hm hnc S s h => mozartVecGroup_view _ nc _ hm hnc ini rows nnzA nnzL nnzU hini hrows A _ _ _ _ hA
      S s h)
    (fun nc off' hnc hd S s h => (mozartVecGroup_keeps _ nc ini rows nnzA nnzL nnzU hini hrows A _ _ _ S).view_other
      hnc (laneIdx_lt L b) hd h)
    ⟨VL, VU⟩

/-- **Padding lanes are not touched by the Mozart LU**: the sizes are kept and every slot that is
    not the slot of an element of a real block keeps its content. -/
theorem C13_mozart_padding_untouched (L blocks : Nat) (ini : List MInit) (rows : List MRow)
    (nnzA nnzL nnzU : Nat) (hini : ∀ r ∈ ini, r.InRange nnzA nnzL nnzU)
    (hrows : ∀ r ∈ rows, r.InRange nnzL nnzU) (A Lo Up : Array α) :
    ((mozartFlat L blocks ini rows nnzA nnzL nnzU A (Lo, Up)).1.size = Lo.size ∧
      ∀ x, (∀ b k, b < blocks → k < nnzL → slot L nnzL b k ≠ x) →
        rd (mozartFlat L blocks ini rows nnzA nnzL nnzU A (Lo, Up)).1 x = rd Lo x) ∧
    ((mozartFlat L blocks ini rows nnzA nnzL nnzU A (Lo, Up)).2.size = Up.size ∧
      ∀ x, (∀ b k, b < blocks → k < nnzU → slot L nnzU b k ≠ x) →
        rd (mozartFlat L blocks ini rows nnzA nnzL nnzU A (Lo, Up)).2 x = rd Up x) :=
  ⟨blockLoop_frame Prod.fst nnzL
      (fun L nc off S => mozartVecGroup L nc ini rows A (off nnzA) (off nnzL) (off nnzU) S)
      (fun L nc _ S => (mozartVecGroup_keeps L nc ini rows nnzA nnzL nnzU hini hrows A _ _ _ S).1)
      L blocks (Lo, Up) _ rfl,
    blockLoop_frame Prod.snd nnzU
      (fun L nc off S => mozartVecGroup L nc ini rows A (off nnzA) (off nnzL) (off nnzU) S)
      (fun L nc _ S => (mozartVecGroup_keeps L nc ini rows nnzA nnzL nnzU hini hrows A _ _ _ S).2)
      L blocks (Lo, Up) _ rfl⟩

/-- in particular the padding blocks `blocks ≤ b` keep their content -/
theorem C13_mozart_padding_block (L blocks : Nat) (ini : List MInit) (rows : List MRow)
    (nnzA nnzL nnzU : Nat) (hini : ∀ r ∈ ini, r.InRange nnzA nnzL nnzU)
    (hrows : ∀ r ∈ rows, r.InRange nnzL nnzU) (A Lo Up : Array α) (b : Nat) (hb : blocks ≤ b) :
    sparseRow L nnzL (mozartFlat L blocks ini rows nnzA nnzL nnzU A (Lo, Up)).1 b = sparseRow L nnzL Lo b ∧
    sparseRow L nnzU (mozartFlat L blocks ini rows nnzA nnzL nnzU A (Lo, Up)).2 b = sparseRow L nnzU Up b := by
  obtain ⟨⟨_, fL⟩, ⟨_, fU⟩⟩ := C13_mozart_padding_untouched L blocks ini rows nnzA nnzL nnzU hini hrows A Lo Up
  exact ⟨sparseRow_padding fL b hb, sparseRow_padding fU b hb⟩

end Mozart

section InPlace
variable {α : Type} [OfNat α 0] [OfNat α 1] [Sub α] [Mul α] [Div α]

omit [OfNat α 1] in
/-- **Lane theorem, Doolittle in place.** -/
theorem C13_doolittleInPlace_flat_eq_cell (L blocks : Nat) (rows : List DIRow) (nnz : Nat)
    (hrows : ∀ r ∈ rows, r.InRange nnz) (M : Array α) (hM : M.size = vectorSize L nnz blocks)
    (b : Nat) (hb : b < blocks) :
    sparseRow L nnz (doolittleInPlaceFlat L blocks rows nnz M) b
      = doolittleInPlaceCell rows (sparseRow L nnz M b) := by
  have V0 := View.ofSparseRow hM hb
  apply View.sparseRow_eq
  unfold doolittleInPlaceFlat
  simp only [slot_lane] at V0 ⊢
  exact blockLoop_rel _ (fun L nc off M => doolittleInPlaceVecGroup L nc rows (off nnz) M) _ L blocks b hb
    (fun nc hm hnc M mm h => doolittleInPlaceVecGroup_view _ nc _ hm hnc rows nnz hrows _ M mm h)
    (fun nc off' hnc hd M mm h =>
      (doolittleInPlaceVecGroup_keeps _ nc rows nnz hrows _ M).view_other hnc (laneIdx_lt L b) hd h)
    V0

omit [OfNat α 1] in
/-- **Padding lanes are not touched by the in-place Doolittle LU.** -/
theorem C13_doolittleInPlace_padding_untouched (L blocks : Nat) (rows : List DIRow) (nnz : Nat)
    (hrows : ∀ r ∈ rows, r.InRange nnz) (M : Array α) :
    (doolittleInPlaceFlat L blocks rows nnz M).size = M.size ∧
    ∀ x, (∀ b k, b < blocks → k < nnz → slot L nnz b k ≠ x) →
      rd (doolittleInPlaceFlat L blocks rows nnz M) x = rd M x :=
  blockLoop_frame (fun M => M) nnz (fun L nc off M => doolittleInPlaceVecGroup L nc rows (off nnz) M)
    (fun L nc _ M => doolittleInPlaceVecGroup_keeps L nc rows nnz hrows _ M) L blocks M _ rfl

omit [OfNat α 1] in
theorem C13_doolittleInPlace_padding_block (L blocks : Nat) (rows : List DIRow) (nnz : Nat)
    (hrows : ∀ r ∈ rows, r.InRange nnz) (M : Array α) (b : Nat) (hb : blocks ≤ b) :
    sparseRow L nnz (doolittleInPlaceFlat L blocks rows nnz M) b = sparseRow L nnz M b :=
  sparseRow_padding (C13_doolittleInPlace_padding_untouched L blocks rows nnz hrows M).2 b hb

/-- **Lane theorem, Mozart in place.**  `hdist`: the vector kernel re-reads `M[aik]` inside the pair
    loop, `mozartInPlaceCell` reads it once before (file header). -/
theorem C13_mozartInPlace_flat_eq_cell (L blocks : Nat) (rows : List MIRow) (nnz : Nat)
    (hrows : ∀ r ∈ rows, r.InRange nnz) (hdist : ∀ r ∈ rows, r.Distinct) (M : Array α)
    (hM : M.size = vectorSize L nnz blocks) (b : Nat) (hb : b < blocks) :
    sparseRow L nnz (mozartInPlaceFlat L blocks rows nnz M) b
      = mozartInPlaceCell rows (sparseRow L nnz M b) := by
  have V0 := View.ofSparseRow hM hb
  apply View.sparseRow_eq
  unfold mozartInPlaceFlat
  simp only [slot_lane] at V0 ⊢
  exact blockLoop_rel _ (fun L nc off M => mozartInPlaceVecGroup L nc rows (off nnz) M) _ L blocks b hb
    (fun nc hm hnc M mm h => mozartInPlaceVecGroup_view _ nc _ hm hnc rows nnz hrows hdist _ M mm h)
    (fun nc off' hnc hd M mm h =>
      (mozartInPlaceVecGroup_keeps _ nc rows nnz hrows _ M).view_other hnc (laneIdx_lt L b) hd h)
    V0

/-- **Padding lanes are not touched by the in-place Mozart LU.** -/
theorem C13_mozartInPlace_padding_untouched (L blocks : Nat) (rows : List MIRow) (nnz : Nat)
    (hrows : ∀ r ∈ rows, r.InRange nnz) (M : Array α) :
    (mozartInPlaceFlat L blocks rows nnz M).size = M.size ∧
    ∀ x, (∀ b k, b < blocks → k < nnz → slot L nnz b k ≠ x) →
      rd (mozartInPlaceFlat L blocks rows nnz M) x = rd M x :=
  blockLoop_frame (fun M => M) nnz (fun L nc off M => mozartInPlaceVecGroup L nc rows (off nnz) M)
    (fun L nc _ M => mozartInPlaceVecGroup_keeps L nc rows nnz hrows _ M) L blocks M _ rfl

theorem C13_mozartInPlace_padding_block (L blocks : Nat) (rows : List MIRow) (nnz : Nat)
    (hrows : ∀ r ∈ rows, r.InRange nnz) (M : Array α) (b : Nat) (hb : blocks ≤ b) :
    sparseRow L nnz (mozartInPlaceFlat L blocks rows nnz M) b = sparseRow L nnz M b :=
  sparseRow_padding (C13_mozartInPlace_padding_untouched L blocks rows nnz hrows M).2 b hb

/-- **Block independence** of the three decompositions: the block of the result is a function of
    the block of the inputs — other blocks, their number, the layout, padding never matter. -/
theorem C13_lu3_cell_independence (L blocks L' blocks' : Nat) (b b' : Nat) (hb : b < blocks) (hb' : b' < blocks') :
    (∀ (rows : List DIRow) (nnz : Nat), (∀ r ∈ rows, r.InRange nnz) → ∀ M M' : Array α,
      M.size = vectorSize L nnz blocks → M'.size = vectorSize L' nnz blocks' →
      sparseRow L nnz M b = sparseRow L' nnz M' b' →
      sparseRow L nnz (doolittleInPlaceFlat L blocks rows nnz M) b
        = sparseRow L' nnz (doolittleInPlaceFlat L' blocks' rows nnz M') b') ∧
    (∀ (rows : List MIRow) (nnz : Nat), (∀ r ∈ rows, r.InRange nnz) → (∀ r ∈ rows, r.Distinct) →
      ∀ M M' : Array α, M.size = vectorSize L nnz blocks → M'.size = vectorSize L' nnz blocks' →
      sparseRow L nnz M b = sparseRow L' nnz M' b' →
      sparseRow L nnz (mozartInPlaceFlat L blocks rows nnz M) b
        = sparseRow L' nnz (mozartInPlaceFlat L' blocks' rows nnz M') b') ∧
    (∀ (ini : List MInit) (rows : List MRow) (nnzA nnzL nnzU : Nat),
      (∀ r ∈ ini, r.InRange nnzA nnzL nnzU) → (∀ r ∈ rows, r.InRange nnzL nnzU) →
      ∀ A Lo Up A' Lo' Up' : Array α, Lo.size = vectorSize L nnzL blocks → Up.size = vectorSize L nnzU blocks →
      Lo'.size = vectorSize L' nnzL blocks' → Up'.size = vectorSize L' nnzU blocks' →
      sparseRow L nnzA A b = sparseRow L' nnzA A' b' → sparseRow L nnzL Lo b = sparseRow L' nnzL Lo' b' →
      sparseRow L nnzU Up b = sparseRow L' nnzU Up' b' →
      (sparseRow L nnzL (mozartFlat L blocks ini rows nnzA nnzL nnzU A (Lo, Up)).1 b,
       sparseRow L nnzU (mozartFlat L blocks ini rows nnzA nnzL nnzU A (Lo, Up)).2 b)
        = (sparseRow L' nnzL (mozartFlat L' blocks' ini rows nnzA nnzL nnzU A' (Lo', Up')).1 b',
           sparseRow L' nnzU (mozartFlat L' blocks' ini rows nnzA nnzL nnzU A' (Lo', Up')).2 b')) := by
  refine ⟨?_, ?_, ?_⟩
  · intro rows nnz hrows M M' hM hM' hrow
    rw [C13_doolittleInPlace_flat_eq_cell L blocks rows nnz hrows M hM b hb,
      C13_doolittleInPlace_flat_eq_cell L' blocks' rows nnz hrows M' hM' b' hb', hrow]
  · intro rows nnz hrows hdist M M' hM hM' hrow
    rw [C13_mozartInPlace_flat_eq_cell L blocks rows nnz hrows hdist M hM b hb,
      C13_mozartInPlace_flat_eq_cell L' blocks' rows nnz hrows hdist M' hM' b' hb', hrow]
  · intro ini rows nnzA nnzL nnzU hini hrows A Lo Up A' Lo' Up' hLo hUp hLo' hUp' hA hL hU
    rw [C13_mozart_flat_eq_cell L blocks ini rows nnzA nnzL nnzU hini hrows A Lo Up hLo hUp b hb,
      C13_mozart_flat_eq_cell L' blocks' ini rows nnzA nnzL nnzU hini hrows A' Lo' Up' hLo' hUp' b' hb',
      hA, hL, hU]

end InPlace

section Solve
variable {α : Type} [OfNat α 0] [Sub α] [Mul α] [Div α]

/-- **Lane theorem, in-place solve.**  Both layouts, every cell count, every real cell: logical row
    `c` of the flat solve is `solveInPlaceCell` on logical block `c` of the factored matrix and
    logical row `c` of `x`.  (Forward rows: only the pairs must be in range.) -/
theorem C13_solveInPlace_flat_eq_cell (L nCells n : Nat) (fw bw : List SubRow) (nnz : Nat)
    (hfw : ∀ r ∈ fw, ∀ p ∈ r.pairs, p.1 < nnz ∧ p.2 < n) (hbw : ∀ r ∈ bw, r.InRange nnz n)
    (hfwl : fw.length ≤ n) (hbwl : bw.length ≤ n) (M x : Array α)
    (hx : x.size = (DenseShape.mk nCells n L).size) (c : Nat) (hc : c < nCells) :
    flatRow ⟨nCells, n, L⟩ (solveInPlaceFlat L nCells n fw bw nnz M x) c
      = solveInPlaceCell fw bw (sparseRow L nnz M c) (flatRow ⟨nCells, n, L⟩ x c) := by
  have V0 := View.ofSparseRow (L := L) (nnz := n) (blocks := nCells) hx hc
  have hM := reads_sparseRow L nnz M c
  simp only [flatRow_eq_sparseRow]
  apply View.sparseRow_eq
  unfold solveInPlaceFlat
  simp only [slot_lane] at V0 hM ⊢
  exact blockLoop_rel _ (fun L nc off x => solveInPlaceVecGroup L n fw bw M (off n) (off nnz) x) _ L nCells c hc
    (fun nc _ _ X x h => solveInPlaceVecGroup_view _ _ (laneIdx_lt L c) n nnz fw bw hfw hbw hfwl hbwl M _ _ _
      hM X x h)
    (fun nc off' _ hd X x h => (solveInPlaceVecGroup_keeps _ n fw bw hfwl hbwl M _ _ X).view_other
      (Nat.le_refl _) (laneIdx_lt L c) hd h)
    V0

/-- the same with the hypotheses in the shape of `C13_solve_flat_eq_cell` (`solverRows`) -/
theorem C13_solveInPlace_flat_eq_cell' (L nCells n : Nat) (fw bw : List SubRow) (nnz : Nat)
    (hfw : ∀ r ∈ fw, r.InRange nnz n) (hbw : ∀ r ∈ bw, r.InRange nnz n)
    (hfwl : fw.length = n) (hbwl : bw.length = n) (M x : Array α)
    (hx : x.size = (DenseShape.mk nCells n L).size) (c : Nat) (hc : c < nCells) :
    flatRow ⟨nCells, n, L⟩ (solveInPlaceFlat L nCells n fw bw nnz M x) c
      = solveInPlaceCell fw bw (sparseRow L nnz M c) (flatRow ⟨nCells, n, L⟩ x c) :=
  C13_solveInPlace_flat_eq_cell L nCells n fw bw nnz (fun r hr => (hfw r hr).2) hbw (by omega) (by omega) M x
    hx c hc

/-- **Cell independence, in-place solve.** -/
theorem C13_solveInPlace_cell_independence (n : Nat) (fw bw : List SubRow) (nnz : Nat)
    (hfw : ∀ r ∈ fw, ∀ p ∈ r.pairs, p.1 < nnz ∧ p.2 < n) (hbw : ∀ r ∈ bw, r.InRange nnz n)
    (hfwl : fw.length ≤ n) (hbwl : bw.length ≤ n)
    (L nCells : Nat) (M x : Array α) (L' nCells' : Nat) (M' x' : Array α)
    (hx : x.size = (DenseShape.mk nCells n L).size) (hx' : x'.size = (DenseShape.mk nCells' n L').size)
    (c c' : Nat) (hc : c < nCells) (hc' : c' < nCells')
    (hMrow : sparseRow L nnz M c = sparseRow L' nnz M' c')
    (hxrow : flatRow ⟨nCells, n, L⟩ x c = flatRow ⟨nCells', n, L'⟩ x' c') :
    flatRow ⟨nCells, n, L⟩ (solveInPlaceFlat L nCells n fw bw nnz M x) c
      = flatRow ⟨nCells', n, L'⟩ (solveInPlaceFlat L' nCells' n fw bw nnz M' x') c' := by
  rw [C13_solveInPlace_flat_eq_cell L nCells n fw bw nnz hfw hbw hfwl hbwl M x hx c hc,
    C13_solveInPlace_flat_eq_cell L' nCells' n fw bw nnz hfw hbw hfwl hbwl M' x' hx' c' hc', hMrow, hxrow]

/-- the in-place solve keeps the storage size (padding lanes are written, from padding inputs) -/
theorem C13_solveInPlace_size (L nCells n : Nat) (fw bw : List SubRow) (hfwl : fw.length ≤ n)
    (hbwl : bw.length ≤ n) (nnz : Nat) (M x : Array α) :
    (solveInPlaceFlat L nCells n fw bw nnz M x).size = x.size :=
  blockLoop_size (fun x => x) (fun L _ off x => solveInPlaceVecGroup L n fw bw M (off n) (off nnz) x)
    (fun L _ _ x => (solveInPlaceVecGroup_keeps L n fw bw hfwl hbwl M _ _ x).1) L nCells x

end Solve

section Alpha
variable {α : Type} [OfNat α 0] [Add α]

/-- **Lane theorem, `AlphaMinusJacobian`.**  Both layouts, every block count, every real block:
    logical block `b` of the flat result is logical block `b` of `J` with `alpha` added to the
    diagonal elements (one cell of `SolverCfg.alphaMinusJacobian`). -/
theorem C13_alpha_flat_eq_logical (L blocks nnz : Nat) (diag : List Nat) (hdiag : ∀ i ∈ diag, i < nnz)
    (J : Array α) (alpha : α) (hJ : J.size = vectorSize L nnz blocks) (b : Nat) (hb : b < blocks) :
    sparseRow L nnz (alphaMinusJacobianFlat L blocks nnz diag J alpha) b
      = diag.foldl (fun Jr i => wr Jr i (rd Jr i + alpha)) (sparseRow L nnz J b) :=
  alphaMinusJacobianFlat_cell L blocks nnz diag hdiag J alpha hJ b hb

/-- all blocks at once: the flat kernel is `SolverCfg.alphaMinusJacobian` on the logical blocks -/
theorem C13_alpha_flat_eq_cfg (s : SolverCfg α) (L blocks nnz : Nat) (hdiag : ∀ i ∈ s.diag, i < nnz)
    (J : Array α) (alpha : α) (hJ : J.size = vectorSize L nnz blocks) :
    sparseRows L nnz blocks (alphaMinusJacobianFlat L blocks nnz s.diag J alpha)
      = s.alphaMinusJacobian (sparseRows L nnz blocks J) alpha := by
  unfold sparseRows SolverCfg.alphaMinusJacobian
  rw [List.map_toArray, List.map_map]
  congr 1
  refine List.map_congr_left (fun b hb => ?_)
  exact C13_alpha_flat_eq_logical L blocks nnz s.diag hdiag J alpha hJ b (List.mem_range.1 hb)

/-- **Frame.**  The size is kept and only diagonal slots are written: of the real blocks for the
    standard layout; of all `L` lanes of every group — the padding blocks
    `blocks ≤ b < ⌈blocks/L⌉·L` included — for the vector layouts. -/
theorem C13_alpha_frame (L blocks nnz : Nat) (diag : List Nat) (J : Array α) (alpha : α) :
    (alphaMinusJacobianFlat L blocks nnz diag J alpha).size = J.size ∧
    ∀ x, (∀ b k, b < paddedBlocks L blocks → k ∈ diag → slot L nnz b k ≠ x) →
      rd (alphaMinusJacobianFlat L blocks nnz diag J alpha) x = rd J x :=
  ⟨alphaMinusJacobianFlat_size L blocks nnz diag J alpha,
    fun x hx => alphaMinusJacobianFlat_frame L blocks nnz diag J alpha x hx⟩

/-- **The padding blocks are written** (vector layouts): the lane theorem holds for every block of
    every group, `b < ⌈blocks/L⌉·L`.  By the lane theorems of the consumers (LU: padding lanes not
    processed) these values never reach a real block. -/
theorem C13_alpha_padding_written (L blocks nnz : Nat) (diag : List Nat) (hdiag : ∀ i ∈ diag, i < nnz)
    (J : Array α) (alpha : α) (hJ : J.size = vectorSize L nnz blocks) (b : Nat)
    (hb : b < paddedBlocks L blocks) :
    sparseRow L nnz (alphaMinusJacobianFlat L blocks nnz diag J alpha) b
      = diag.foldl (fun Jr i => wr Jr i (rd Jr i + alpha)) (sparseRow L nnz J b) := by
  rw [← alphaMinusJacobianFlat_padded L blocks nnz diag J alpha]
  exact C13_alpha_flat_eq_logical L (paddedBlocks L blocks) nnz diag hdiag J alpha
    (by rw [vectorSize_paddedBlocks]; exact hJ) b hb

end Alpha

/-- **The range hypotheses hold for every configuration the builder produces**: for a well-formed
    Jacobian element set with a full diagonal, either storage order, every layout and each of the
    four LU variants, every row of every table of `LinAlg.build` is in range w.r.t. the sizes of the
    built patterns (and `MIRow.Distinct` holds), and the substitution tables have `n` rows. -/
theorem C13_tables_in_range {n : Nat} {set : List Pair} (hw : WF n set) (hdiag : ∀ i, i < n → (i, i) ∈ set)
    (csc : Bool) (L : Nat) (kind : LUKind) :
    let la := LinAlg.build kind (Pattern.mk' n csc L set)
    (∀ r ∈ la.dRows, r.InRange la.A.nnz la.Lp.nnz la.Up.nnz) ∧
    (∀ r ∈ la.mInit, r.InRange la.A.nnz la.Lp.nnz la.Up.nnz) ∧
    (∀ r ∈ la.mRows, r.InRange la.Lp.nnz la.Up.nnz) ∧
    (∀ r ∈ la.diRows, r.InRange la.A.nnz) ∧
    (∀ r ∈ la.miRows, r.InRange la.A.nnz ∧ r.Distinct) ∧
    (∀ r ∈ la.fw, r.InRange la.Lp.nnz n) ∧ (∀ r ∈ la.bw, r.InRange la.Up.nnz n) ∧
    la.fw.length = n ∧ la.bw.length = n := by
  intro la
  have h := tablesInRange_build hw hdiag csc L kind
  exact ⟨h.dRows, h.mInit, h.mRows, h.diRows, h.miRows, h.fw, h.bw, h.fwLen, h.bwLen⟩

section Built
variable {α : Type} [OfNat α 0] [OfNat α 1] [Sub α] [Mul α] [Div α]

/-- the lane theorem for the built Doolittle tables (C13b), no table hypothesis left -/
theorem C13_build_doolittle_flat_eq_cell {n : Nat} {set : List Pair} (hw : WF n set)
    (hdiag : ∀ i, i < n → (i, i) ∈ set) (csc : Bool) (L0 : Nat) (L blocks : Nat) (A Lo Up : Array α) :
    let la := LinAlg.build .doolittle (Pattern.mk' n csc L0 set)
    Lo.size = vectorSize L la.Lp.nnz blocks → Up.size = vectorSize L la.Up.nnz blocks → ∀ b, b < blocks →
    (sparseRow L la.Lp.nnz (doolittleFlat L blocks la.dRows la.A.nnz la.Lp.nnz la.Up.nnz A (Lo, Up)).1 b,
     sparseRow L la.Up.nnz (doolittleFlat L blocks la.dRows la.A.nnz la.Lp.nnz la.Up.nnz A (Lo, Up)).2 b)
      = doolittleCell la.dRows (sparseRow L la.A.nnz A b) (sparseRow L la.Lp.nnz Lo b, sparseRow L la.Up.nnz Up b) := by
  intro la hLo hUp b hb
  exact C13_doolittle_flat_eq_cell L blocks la.dRows la.A.nnz la.Lp.nnz la.Up.nnz
    (tablesInRange_build hw hdiag csc L0 .doolittle).dRows A Lo Up hLo hUp b hb

theorem C13_build_mozart_flat_eq_cell {n : Nat} {set : List Pair} (hw : WF n set)
    (hdiag : ∀ i, i < n → (i, i) ∈ set) (csc : Bool) (L0 : Nat) (L blocks : Nat) (A Lo Up : Array α) :
    let la := LinAlg.build .mozart (Pattern.mk' n csc L0 set)
    Lo.size = vectorSize L la.Lp.nnz blocks → Up.size = vectorSize L la.Up.nnz blocks → ∀ b, b < blocks →
    (sparseRow L la.Lp.nnz (mozartFlat L blocks la.mInit la.mRows la.A.nnz la.Lp.nnz la.Up.nnz A (Lo, Up)).1 b,
     sparseRow L la.Up.nnz (mozartFlat L blocks la.mInit la.mRows la.A.nnz la.Lp.nnz la.Up.nnz A (Lo, Up)).2 b)
      = mozartCell la.mInit la.mRows (sparseRow L la.A.nnz A b)
          (sparseRow L la.Lp.nnz Lo b, sparseRow L la.Up.nnz Up b) := by
  intro la hLo hUp b hb
  have h := tablesInRange_build hw hdiag csc L0 .mozart
  exact C13_mozart_flat_eq_cell L blocks la.mInit la.mRows la.A.nnz la.Lp.nnz la.Up.nnz h.mInit h.mRows
    A Lo Up hLo hUp b hb

omit [OfNat α 1] in
theorem C13_build_doolittleInPlace_flat_eq_cell {n : Nat} {set : List Pair} (hw : WF n set)
    (hdiag : ∀ i, i < n → (i, i) ∈ set) (csc : Bool) (L0 : Nat) (L blocks : Nat) (M : Array α) :
    let la := LinAlg.build .doolittleInPlace (Pattern.mk' n csc L0 set)
    M.size = vectorSize L la.A.nnz blocks → ∀ b, b < blocks →
    sparseRow L la.A.nnz (doolittleInPlaceFlat L blocks la.diRows la.A.nnz M) b
      = doolittleInPlaceCell la.diRows (sparseRow L la.A.nnz M b) := by
  intro la hM b hb
  exact C13_doolittleInPlace_flat_eq_cell L blocks la.diRows la.A.nnz
    (tablesInRange_build hw hdiag csc L0 .doolittleInPlace).diRows M hM b hb

theorem C13_build_mozartInPlace_flat_eq_cell {n : Nat} {set : List Pair} (hw : WF n set)
    (hdiag : ∀ i, i < n → (i, i) ∈ set) (csc : Bool) (L0 : Nat) (L blocks : Nat) (M : Array α) :
    let la := LinAlg.build .mozartInPlace (Pattern.mk' n csc L0 set)
    M.size = vectorSize L la.A.nnz blocks → ∀ b, b < blocks →
    sparseRow L la.A.nnz (mozartInPlaceFlat L blocks la.miRows la.A.nnz M) b
      = mozartInPlaceCell la.miRows (sparseRow L la.A.nnz M b) := by
  intro la hM b hb
  have h := tablesInRange_build hw hdiag csc L0 .mozartInPlace
  exact C13_mozartInPlace_flat_eq_cell L blocks la.miRows la.A.nnz (fun r hr => (h.miRows r hr).1)
    (fun r hr => (h.miRows r hr).2) M hM b hb

omit [OfNat α 1] in
/-- the solve with separate `L`, `U` (C13b) for the built substitution tables, any kind -/
theorem C13_build_solve_flat_eq_cell {n : Nat} {set : List Pair} (hw : WF n set)
    (hdiag : ∀ i, i < n → (i, i) ∈ set) (csc : Bool) (L0 : Nat) (kind : LUKind) (L nCells : Nat)
    (Lo Up x : Array α) (hx : x.size = (DenseShape.mk nCells n L).size) (c : Nat) (hc : c < nCells) :
    let la := LinAlg.build kind (Pattern.mk' n csc L0 set)
    flatRow ⟨nCells, n, L⟩ (solveFlat L nCells n la.fw la.bw la.Lp.nnz la.Up.nnz Lo Up x) c
      = solveCell la.fw la.bw (sparseRow L la.Lp.nnz Lo c) (sparseRow L la.Up.nnz Up c)
          (flatRow ⟨nCells, n, L⟩ x c) := by
  intro la
  have h := tablesInRange_build hw hdiag csc L0 kind
  exact C13_solve_flat_eq_cell L nCells n la.fw la.bw la.Lp.nnz la.Up.nnz h.fw h.bw (Nat.le_of_eq h.fwLen)
    (Nat.le_of_eq h.bwLen) Lo Up x hx c hc

omit [OfNat α 1] in
/-- the in-place solve for the built substitution tables of the in-place kinds -/
theorem C13_build_solveInPlace_flat_eq_cell {n : Nat} {set : List Pair} (hw : WF n set)
    (hdiag : ∀ i, i < n → (i, i) ∈ set) (csc : Bool) (L0 : Nat) (kind : LUKind) (hk : kind.inPlace = true)
    (L nCells : Nat) (M x : Array α) (hx : x.size = (DenseShape.mk nCells n L).size) (c : Nat)
    (hc : c < nCells) :
    let la := LinAlg.build kind (Pattern.mk' n csc L0 set)
    flatRow ⟨nCells, n, L⟩ (solveInPlaceFlat L nCells n la.fw la.bw la.A.nnz M x) c
      = solveInPlaceCell la.fw la.bw (sparseRow L la.A.nnz M c) (flatRow ⟨nCells, n, L⟩ x c) := by
  intro la
  have h := tablesInRange_build hw hdiag csc L0 kind
  cases kind with
  | doolittle => cases hk
  | mozart => cases hk
  | doolittleInPlace =>
    exact C13_solveInPlace_flat_eq_cell L nCells n la.fw la.bw la.A.nnz (fun r hr => (h.fw r hr).2) h.bw
      (Nat.le_of_eq h.fwLen) (Nat.le_of_eq h.bwLen) M x hx c hc
  | mozartInPlace =>
    exact C13_solveInPlace_flat_eq_cell L nCells n la.fw la.bw la.A.nnz (fun r hr => (h.fw r hr).2) h.bw
      (Nat.le_of_eq h.fwLen) (Nat.le_of_eq h.bwLen) M x hx c hc

end Built

/-! Instances with `L = 3` and 4 blocks / cells (one full group and a partial group with two padding
lanes), on the pattern and the matrices of `C13bEx`. -/
namespace C13cEx

def exPat : Pattern := Pattern.mk' 3 false 3 [(0, 0), (0, 1), (1, 0), (1, 1), (2, 1), (2, 2)]
def exM : LinAlg := LinAlg.build .mozart exPat
def exDI : LinAlg := LinAlg.build .doolittleInPlace exPat
def exMI : LinAlg := LinAlg.build .mozartInPlace exPat

theorem exNnz : (exM.A.nnz, exM.Lp.nnz, exM.Up.nnz, exDI.A.nnz, exMI.A.nnz) = (6, 5, 4, 6, 6) := by
  decide +kernel
example : (exM.A.nnz, exM.Lp.nnz, exM.Up.nnz, exDI.A.nnz, exMI.A.nnz) = (6, 5, 4, 6, 6) := exNnz

theorem exWF : WF 3 [(0, 0), (0, 1), (1, 0), (1, 1), (2, 1), (2, 2)] := ⟨by unfold PairSorted; decide, by decide⟩
theorem exDiag : ∀ i, i < 3 → (i, i) ∈ [(0, 0), (0, 1), (1, 0), (1, 1), (2, 1), (2, 2)] := by decide

theorem exMInit_inRange : ∀ r ∈ exM.mInit, r.InRange 6 5 4 := by
  have h : ∀ r ∈ exM.mInit, r.InRange exM.A.nnz exM.Lp.nnz exM.Up.nnz := (C13_tables_in_range exWF exDiag false 3 .mozart).2.1
  rwa [show exM.A.nnz = 6 from congrArg (·.1) exNnz, show exM.Lp.nnz = 5 from congrArg (·.2.1) exNnz,
    show exM.Up.nnz = 4 from congrArg (·.2.2.1) exNnz] at h
theorem exMRows_inRange : ∀ r ∈ exM.mRows, r.InRange 5 4 := by
  have h : ∀ r ∈ exM.mRows, r.InRange exM.Lp.nnz exM.Up.nnz := (C13_tables_in_range exWF exDiag false 3 .mozart).2.2.1
  rwa [show exM.Lp.nnz = 5 from congrArg (·.2.1) exNnz, show exM.Up.nnz = 4 from congrArg (·.2.2.1) exNnz] at h
theorem exDIRows_inRange : ∀ r ∈ exDI.diRows, r.InRange 6 := by
  have h : ∀ r ∈ exDI.diRows, r.InRange exDI.A.nnz := (C13_tables_in_range exWF exDiag false 3 .doolittleInPlace).2.2.2.1
  rwa [show exDI.A.nnz = 6 from congrArg (·.2.2.2.1) exNnz] at h
theorem exMIRows_inRange : ∀ r ∈ exMI.miRows, r.InRange 6 := by
  have h : ∀ r ∈ exMI.miRows, r.InRange exMI.A.nnz ∧ r.Distinct := (C13_tables_in_range exWF exDiag false 3 .mozartInPlace).2.2.2.2.1
  rw [show exMI.A.nnz = 6 from congrArg (·.2.2.2.2) exNnz] at h
  exact fun r hr => (h r hr).1
theorem exMIRows_distinct : ∀ r ∈ exMI.miRows, r.Distinct :=
  fun r hr => ((C13_tables_in_range exWF exDiag false 3 .mozartInPlace).2.2.2.2.1 r hr).2
theorem exFw_inRange : ∀ r ∈ exMI.fw, r.InRange 6 3 := by
  have h : ∀ r ∈ exMI.fw, r.InRange exMI.A.nnz 3 := (C13_tables_in_range exWF exDiag false 3 .mozartInPlace).2.2.2.2.2.1
  rwa [show exMI.A.nnz = 6 from congrArg (·.2.2.2.2) exNnz] at h
theorem exBw_inRange : ∀ r ∈ exMI.bw, r.InRange 6 3 := by
  have h : ∀ r ∈ exMI.bw, r.InRange exMI.A.nnz 3 := (C13_tables_in_range exWF exDiag false 3 .mozartInPlace).2.2.2.2.2.2.1
  rwa [show exMI.A.nnz = 6 from congrArg (·.2.2.2.2) exNnz] at h
theorem exLengths : exMI.fw.length = 3 ∧ exMI.bw.length = 3 :=
  ⟨(C13_tables_in_range exWF exDiag false 3 .mozartInPlace).2.2.2.2.2.2.2.1, (C13_tables_in_range exWF exDiag false 3 .mozartInPlace).2.2.2.2.2.2.2.2⟩
example : exMI.fw.length = 3 ∧ exMI.bw.length = 3 := exLengths

example : ∀ r ∈ exMI.miRows, r.InRange exMI.A.nnz ∧ r.Distinct :=
  (C13_tables_in_range (n := 3) (set := [(0, 0), (0, 1), (1, 0), (1, 1), (2, 1), (2, 2)])
    ⟨by unfold PairSorted; decide, by decide⟩ (by decide) false 3 .mozartInPlace).2.2.2.2.1

/-- the in-place Mozart tables `⟨a_ii, [a_ji], [⟨a_ik, [(a_jk, a_ji)]⟩]⟩`: stage 0 has `a_ii = 0`,
    column `a_ji = [2]`, one `k` with `a_ik = 1` and the pair `(a_jk, a_ji) = (3, 2)` -/
example : (exMI.miRows == [⟨0, [2], [⟨1, [(3, 2)]⟩]⟩, ⟨3, [4], []⟩, ⟨5, [], []⟩]) = true := by decide +kernel

example : vectorSize 3 6 4 = 36 ∧ vectorSize 3 5 4 = 30 ∧ vectorSize 3 4 4 = 24 := by decide

example (A Lo Up : Array Float) (hLo : Lo.size = 30) (hUp : Up.size = 24) (b : Nat) (hb : b < 4) :
    (sparseRow 3 5 (mozartFlat 3 4 exM.mInit exM.mRows 6 5 4 A (Lo, Up)).1 b,
     sparseRow 3 4 (mozartFlat 3 4 exM.mInit exM.mRows 6 5 4 A (Lo, Up)).2 b)
      = mozartCell exM.mInit exM.mRows (sparseRow 3 6 A b) (sparseRow 3 5 Lo b, sparseRow 3 4 Up b) :=
  C13_mozart_flat_eq_cell 3 4 exM.mInit exM.mRows 6 5 4 exMInit_inRange exMRows_inRange A Lo Up
    (by rw [hLo]; decide) (by rw [hUp]; decide) b hb

example (M : Array Float) (hM : M.size = 36) (b : Nat) (hb : b < 4) :
    sparseRow 3 6 (doolittleInPlaceFlat 3 4 exDI.diRows 6 M) b
      = doolittleInPlaceCell exDI.diRows (sparseRow 3 6 M b) :=
  C13_doolittleInPlace_flat_eq_cell 3 4 exDI.diRows 6 exDIRows_inRange M (by rw [hM]; decide) b hb

example (M : Array Float) (hM : M.size = 36) (b : Nat) (hb : b < 4) :
    sparseRow 3 6 (mozartInPlaceFlat 3 4 exMI.miRows 6 M) b
      = mozartInPlaceCell exMI.miRows (sparseRow 3 6 M b) :=
  C13_mozartInPlace_flat_eq_cell 3 4 exMI.miRows 6 exMIRows_inRange exMIRows_distinct M (by rw [hM]; decide) b hb

example (M x : Array Float) (hx : x.size = 18) (c : Nat) (hc : c < 4) :
    flatRow ⟨4, 3, 3⟩ (solveInPlaceFlat 3 4 3 exMI.fw exMI.bw 6 M x) c
      = solveInPlaceCell exMI.fw exMI.bw (sparseRow 3 6 M c) (flatRow ⟨4, 3, 3⟩ x c) :=
  C13_solveInPlace_flat_eq_cell' 3 4 3 exMI.fw exMI.bw 6 exFw_inRange exBw_inRange exLengths.1 exLengths.2
    M x (by rw [hx]; decide) c hc

example (J : Array Float) (alpha : Float) (hJ : J.size = 36) (b : Nat) (hb : b < 4) :
    sparseRow 3 6 (alphaMinusJacobianFlat 3 4 6 [0, 3, 5] J alpha) b
      = [0, 3, 5].foldl (fun Jr i => wr Jr i (rd Jr i + alpha)) (sparseRow 3 6 J b) :=
  C13_alpha_flat_eq_logical 3 4 6 [0, 3, 5] (by decide) J alpha (by rw [hJ]; decide) b hb

/-- block `b` of `A` is `[[2, 1, 0], [b + 1, 3, 0], [0, 1, 4]]`; padding `7` -/
def exA : Array Rat :=
  #[2, 2, 2, 1, 1, 1, 1, 2, 3, 3, 3, 3, 1, 1, 1, 4, 4, 4,   2, 7, 7, 1, 7, 7, 4, 7, 7, 3, 7, 7, 1, 7, 7, 4, 7, 7]
def exLo : Array Rat := Array.replicate 30 5
def exUp : Array Rat := Array.replicate 24 6
def exLo' : Array Rat :=
  #[1, 1, 1, 1/2, 1, 3/2, 1, 1, 1, 2/5, 1/2, 2/3, 1, 1, 1,   1, 5, 5, 2, 5, 5, 1, 5, 5, 1, 5, 5, 1, 5, 5]
def exUp' : Array Rat :=
  #[2, 2, 2, 1, 1, 1, 5/2, 2, 3/2, 4, 4, 4,   2, 6, 6, 1, 6, 6, 1, 6, 6, 4, 6, 6]
/-- the in-place factors `L - I + U` -/
def exLU : Array Rat :=
  #[2, 2, 2, 1, 1, 1, 1/2, 1, 3/2, 5/2, 2, 3/2, 2/5, 1/2, 2/3, 4, 4, 4,
    2, 7, 7, 1, 7, 7, 2, 7, 7, 1, 7, 7, 1, 7, 7, 4, 7, 7]

example : exPat.diagRanks = [0, 3, 5] := by decide +kernel

/-- Mozart gives the same factors as Doolittle (C13b); the padding lanes (lanes 1, 2 of group 1)
    keep their old content `5` / `6` -/
example : mozartFlat 3 4 exM.mInit exM.mRows 6 5 4 exA (exLo, exUp) = (exLo', exUp') := by decide +kernel
example : mozartCell exM.mInit exM.mRows (sparseRow 3 6 exA 3) (sparseRow 3 5 exLo 3, sparseRow 3 4 exUp 3)
    = (#[1, 2, 1, 1, 1], #[2, 1, 1, 4]) := by decide +kernel

/-- in place: padding lanes keep the padding content `7` -/
example : doolittleInPlaceFlat 3 4 exDI.diRows 6 exA = exLU := by decide +kernel
example : mozartInPlaceFlat 3 4 exMI.miRows 6 exA = exLU := by decide +kernel
example : sparseRow 3 6 exLU 3 = #[2, 1, 2, 1, 1, 4] := by decide +kernel
example : mozartInPlaceCell exMI.miRows (sparseRow 3 6 exA 3) = #[2, 1, 2, 1, 1, 4] := by decide +kernel
example : doolittleInPlaceCell exDI.diRows (sparseRow 3 6 exA 3) = #[2, 1, 2, 1, 1, 4] := by decide +kernel

/-- right-hand sides (2 x 3 x 3): cell `c` has `x = (c + 1, 2, 3)`, padding `1` -/
def exX : Array Rat := #[1, 2, 3, 2, 2, 2, 3, 3, 3,   4, 1, 1, 2, 1, 1, 3, 1, 1]

/-- the in-place solve writes the padding lanes (`-6/7`, `43/7`) from the padding inputs -/
example : solveInPlaceFlat 3 4 3 exMI.fw exMI.bw 6 exLU exX
    = #[1/5, 1, 7/3, 3/5, 0, -5/3, 3/5, 3/4, 7/6,   5, 1, 1, -6, -6/7, -6/7, 9/4, 43/7, 43/7] := by
  decide +kernel
example : flatRow ⟨4, 3, 3⟩ (solveInPlaceFlat 3 4 3 exMI.fw exMI.bw 6 exLU exX) 3 = #[5, -6, 9/4] := by
  decide +kernel
example : solveInPlaceCell exMI.fw exMI.bw (sparseRow 3 6 exLU 3) (flatRow ⟨4, 3, 3⟩ exX 3) = #[5, -6, 9/4] := by
  decide +kernel

/-- `AlphaMinusJacobian` with `alpha = 10`: the diagonal slots of the padding lanes are written
    (`7 + 10 = 17`), the other padding slots keep `7` -/
example : alphaMinusJacobianFlat 3 4 6 [0, 3, 5] exA (10 : Rat)
    = #[12, 12, 12, 1, 1, 1, 1, 2, 3, 13, 13, 13, 1, 1, 1, 14, 14, 14,
        12, 17, 17, 1, 7, 7, 4, 7, 7, 13, 17, 17, 1, 7, 7, 14, 17, 17] := by decide +kernel
example : paddedBlocks 3 4 = 6 := by decide

end C13cEx

end Micm

#print axioms Micm.C13_mozart_flat_eq_cell
#print axioms Micm.C13_mozart_padding_untouched
#print axioms Micm.C13_mozart_padding_block
#print axioms Micm.C13_doolittleInPlace_flat_eq_cell
#print axioms Micm.C13_doolittleInPlace_padding_untouched
#print axioms Micm.C13_doolittleInPlace_padding_block
#print axioms Micm.C13_mozartInPlace_flat_eq_cell
#print axioms Micm.C13_mozartInPlace_padding_untouched
#print axioms Micm.C13_mozartInPlace_padding_block
#print axioms Micm.C13_lu3_cell_independence
#print axioms Micm.C13_solveInPlace_flat_eq_cell
#print axioms Micm.C13_solveInPlace_flat_eq_cell'
#print axioms Micm.C13_solveInPlace_cell_independence
#print axioms Micm.C13_solveInPlace_size
#print axioms Micm.C13_alpha_flat_eq_logical
#print axioms Micm.C13_alpha_flat_eq_cfg
#print axioms Micm.C13_alpha_frame
#print axioms Micm.C13_alpha_padding_written
#print axioms Micm.C13_tables_in_range
#print axioms Micm.C13_build_doolittle_flat_eq_cell
#print axioms Micm.C13_build_mozart_flat_eq_cell
#print axioms Micm.C13_build_doolittleInPlace_flat_eq_cell
#print axioms Micm.C13_build_mozartInPlace_flat_eq_cell
#print axioms Micm.C13_build_solve_flat_eq_cell
#print axioms Micm.C13_build_solveInPlace_flat_eq_cell
