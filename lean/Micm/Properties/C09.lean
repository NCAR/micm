/-
C09 — linear invariants are conserved (forcing part).

If the weight vector `w` is orthogonal to the stoichiometry of every (resolved) reaction,
`Σ_{p ∈ products r} w p.id * p.yield = Σ_{j ∈ reactants r} w j`, then the forcing update of
`PSTables.addForcingCell` leaves `w · f` unchanged (in particular `w · f(y) = 0` from a zero
forcing vector).  Vocabulary (`RRxn`, `Resolves`, …) as in `Micm/Properties/C01.lean`.
-/
import Micm.Lemmas.ForcingField
import Mathlib.Algebra.Field.Rat

namespace Micm
open Finset

section Conservation
variable {K : Type} [Field K]

/-- `w · S = 0` and all ids `< n = f.size` imply `Σ_{i<n} w i * f'[i] = Σ_{i<n} w i * f[i]`.
    (The id bound is needed: the model drops out-of-range writes, which would break the balance.) -/
theorem C09_forcing_conserved (m : NameMap) (procs : List (Process K)) (t : PSTables K)
    (rxns : List (RRxn K)) (h : buildForcing m procs = .ok t ∨ ProcessSet.build procs m = .ok t)
    (hr : Resolves m procs rxns) (n : Nat)
    (hb : ∀ rx ∈ rxns, (∀ j ∈ rx.1, j < n) ∧ ∀ p ∈ rx.2, p.1 < n)
    (w : Nat → K)
    (hbal : ∀ rx ∈ rxns, (rx.2.map fun p => w p.1 * p.2).sum = (rx.1.map w).sum)
    (k y f : Array K) (hf : f.size = n) :
    ∑ i ∈ range n, w i * rd (t.addForcingCell k y f) i = ∑ i ∈ range n, w i * rd f i := by
  rw [built_addForcingCell h hr, wsum_forcingSpec w n y rxns k.toList f hf hb hbal]

/-- The id bound discharged from the name map (`C01_bounds`). -/
theorem C09_forcing_conserved_of_map (m : NameMap) (procs : List (Process K)) (t : PSTables K)
    (rxns : List (RRxn K)) (h : buildForcing m procs = .ok t ∨ ProcessSet.build procs m = .ok t)
    (hr : Resolves m procs rxns) (n : Nat) (hm : ∀ e ∈ m, e.2 < n)
    (w : Nat → K)
    (hbal : ∀ rx ∈ rxns, (rx.2.map fun p => w p.1 * p.2).sum = (rx.1.map w).sum)
    (k y f : Array K) (hf : f.size = n) :
    ∑ i ∈ range n, w i * rd (t.addForcingCell k y f) i = ∑ i ∈ range n, w i * rd f i :=
  C09_forcing_conserved m procs t rxns h hr n (resolves_bounds hm hr) w hbal k y f hf

/-- `w · f(y) = 0`: the forcing computed into a zero vector is orthogonal to `w`. -/
theorem C09_forcing_orthogonal (m : NameMap) (procs : List (Process K)) (t : PSTables K)
    (rxns : List (RRxn K)) (h : buildForcing m procs = .ok t ∨ ProcessSet.build procs m = .ok t)
    (hr : Resolves m procs rxns) (n : Nat) (hm : ∀ e ∈ m, e.2 < n)
    (w : Nat → K)
    (hbal : ∀ rx ∈ rxns, (rx.2.map fun p => w p.1 * p.2).sum = (rx.1.map w).sum)
    (k y : Array K) :
    ∑ i ∈ range n, w i * rd (t.addForcingCell k y (Array.replicate n 0)) i = 0 := by
  rw [C09_forcing_conserved_of_map m procs t rxns h hr n hm w hbal k y _ Array.size_replicate]
  exact Finset.sum_eq_zero fun i _ => by rw [rd_replicate_zero, mul_zero]

end Conservation

/-! ### example: a mechanism with a non-trivial invariant

`s0 → 0.8 s1 + 0.2 s2 ;  s0 + s1 (+ M, parameterized) → s2 ;  s1 + s1 + s0 → s1 + s2`
with `s0 ↦ 0, s1 ↦ 1, s2 ↦ 2` conserves `5·s0 + 4·s1 + 9·s2`.
(The C01 example mechanism, whose last reaction is `s1 + s1 + s0 → s1`, only admits `w = 0`.) -/
namespace C09Ex

def ex9Map : NameMap := [("s0", 0), ("s1", 1), ("s2", 2)]

def ex9Procs : List (Process Rat) :=
  [ { reactants := [⟨"s0", false⟩],
      products := [(⟨"s1", false⟩, 4/5), (⟨"s2", false⟩, 1/5)] },
    { reactants := [⟨"s0", false⟩, ⟨"s1", false⟩, ⟨"M", true⟩],
      products := [(⟨"s2", false⟩, 1)] },
    { reactants := [⟨"s1", false⟩, ⟨"s1", false⟩, ⟨"s0", false⟩],
      products := [(⟨"s1", false⟩, 1), (⟨"s2", false⟩, 1)] } ]

def ex9Rxns : List (RRxn Rat) :=
  [ ([0], [(1, 4/5), (2, 1/5)]), ([0, 1], [(2, 1)]), ([1, 1, 0], [(1, 1), (2, 1)]) ]

def ex9W : Nat → Rat
  | 0 => 5
  | 1 => 4
  | 2 => 9
  | _ => 0

theorem ex9Resolves : Resolves ex9Map ex9Procs ex9Rxns := by unfold Resolves; rfl

theorem ex9Build : ∃ t, ProcessSet.build ex9Procs ex9Map = .ok t :=
  (ProcessSet.build_isOk_iff ex9Map ex9Procs).2 ⟨_, (buildForcing_ok_iff _ _ _).2 ⟨ex9Rxns, ex9Resolves, rfl⟩⟩

theorem ex9MapBound : ∀ e ∈ ex9Map, e.2 < 3 := by decide

theorem ex9Balanced :
    ∀ rx ∈ ex9Rxns, (rx.2.map fun p => ex9W p.1 * p.2).sum = (rx.1.map ex9W).sum := by
  decide +kernel

example (t : PSTables Rat) (h : ProcessSet.build ex9Procs ex9Map = .ok t) (k y : Array Rat) (f0 f1 f2 : Rat) :
    let f' := t.addForcingCell k y #[f0, f1, f2]
    5 * rd f' 0 + 4 * rd f' 1 + 9 * rd f' 2 = 5 * f0 + 4 * f1 + 9 * f2 := by
  have := C09_forcing_conserved_of_map ex9Map ex9Procs t ex9Rxns (.inr h) ex9Resolves 3 ex9MapBound
    ex9W ex9Balanced k y #[f0, f1, f2] rfl
  simp only [Finset.sum_range_succ, Finset.sum_range_zero, zero_add] at this
  exact this

end C09Ex

end Micm

#print axioms Micm.C09_forcing_conserved
#print axioms Micm.C09_forcing_conserved_of_map
#print axioms Micm.C09_forcing_orthogonal
