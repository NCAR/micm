/-
C08 (backward-Euler part) — on a linear mechanism one Newton iteration solves the backward-Euler
equation exactly: from `Yn1 = Yn = y_n` the first iterate (before clipping) is `(I − H A)⁻¹ y_n`,
i.e. satisfies `(I − H A) y = y_n`; a second iteration computes `δ = 0`.

Subject: `beStep` of `Micm/Model/BackwardEuler.lean`, exact arithmetic (`[Field K]`), logical rows of one
cell `c`, configuration built as the builder does (`BuiltCfg`, all four LU variants).
Linearity is a hypothesis on the model's own forcing / Jacobian views of cell `c`:
  `f(y) = A y`   : `addForcingCell k y 0 = A·y`   (mass-action forcing assembled into a zero vector),
  `∂f/∂y = A`    : `negJac m procs k y = −A`      (`negJac` = the logical `−∂f/∂y` of C02),
for a matrix `A` that does not depend on `y` (it holds when every reaction has exactly one
non-parameterized reactant; `BEEx.exLinF`, `BEEx.exLinJ` prove it for `A → B`).
Vocabulary: `beUnclipped s kc r` = `Yn1 + δ` (the iterate before `max(·,0)`), `beNewY` its clamp,
`beForcing`, `beFactor`, `beHead` as in C05b.
-/
import Micm.Properties.C05b

namespace Micm
set_option linter.unusedSectionVars false
open Finset

section Exact
variable {K : Type} [Field K]
variable (o : Ops K) {s : SolverCfg K} (p : BEParams K) (kc : Mat K) (atol : Array K) (rtol : K)
    (T : K) {n : Nat} (c : Nat) {m : NameMap} {procs : List (Process K)} {kind : LUKind}
    {jac : Pattern}

/-- **first iteration** (one-point form: linearity is only used at the current `Yn1`).
    If `Yn1 = Yn` on the cell, `f(Yn1) = A·Yn1`, `∂f/∂y(Yn1) = A`, `H ≠ 0` and no pivot is zero, the
    un-clipped Newton iterate `y = Yn1 + δ` satisfies `(I − H A) y = Yn`. -/
theorem C08_be_linear_first (hb : BuiltCfg s m procs n kind jac) (A : Nat → Nat → K) (r : BEState K)
    (hh : r.h ≠ 0) (hY : CellShape n c r.Yn1) (hf0 : CellShape n c r.sc.f0)
    (hj : CellShape s.la.A.nnz c r.sc.jac) (hl : CellShape s.la.Lp.nnz c r.sc.lower)
    (hu : CellShape s.la.Up.nnz c r.sc.upper)
    (hpiv : ∀ i, i < n → attPivot s (beFactor s kc r) c i ≠ 0)
    (hstart : ∀ i, i < n → rd (r.Yn1.getD c #[]) i = rd (r.Yn.getD c #[]) i)
    (hlinF : ∀ i, i < n →
      rd (s.tables.addForcingCell (kc.getD c #[]) (r.Yn1.getD c #[]) (Array.replicate n 0)) i
        = ∑ j ∈ range n, A i j * rd (r.Yn1.getD c #[]) j)
    (hlinJ : ∀ i j, i < n → j < n →
      negJac m procs (kc.getD c #[]) (r.Yn1.getD c #[]) i j = - A i j) :
    ∀ i, i < n → ∑ j ∈ range n, ((if i = j then 1 else 0) - r.h * A i j)
      * rd ((beUnclipped s kc r).getD c #[]) j = rd (r.Yn.getD c #[]) i :=
  fun i hi => be_linear_first kc c hb A r hh hY hf0 hj hl hu hpiv hstart
    (fun i hi => by rw [(beForcing_cell kc c s r hf0).2]; exact hlinF i hi) hlinJ i hi

/-- **fixed point**: if `Yn1` already satisfies `(I − H A) Yn1 = Yn` and `f(Yn1) = A·Yn1`, the
    residual vanishes and `Solve` returns `δ = 0` (no pivot hypothesis is needed: the substitution
    of a zero right-hand side is zero whatever the factors hold) -/
theorem C08_be_linear_fixed (A : Nat → Nat → K) (r : BEState K) (hh : r.h ≠ 0)
    (hf0 : CellShape n c r.sc.f0)
    (hlinF : ∀ i, i < n →
      rd (s.tables.addForcingCell (kc.getD c #[]) (r.Yn1.getD c #[]) (Array.replicate n 0)) i
        = ∑ j ∈ range n, A i j * rd (r.Yn1.getD c #[]) j)
    (hfix : ∀ i, i < n → ∑ j ∈ range n, ((if i = j then 1 else 0) - r.h * A i j)
      * rd (r.Yn1.getD c #[]) j = rd (r.Yn.getD c #[]) i) :
    ∀ v, rd ((beResidual s kc r).getD c #[]) v = 0 :=
  be_linear_fixed kc c s A r hh hf0
    (fun i hi => by rw [(beForcing_cell kc c s r hf0).2]; exact hlinF i hi) hfix

/-- **C08 for backward Euler.**  Let `r` be a loop state at the start of an outer iteration
    (`iterations = 0`, the `while` test passes, `Yn1 = Yn` on cell `c`), `max_number_of_steps > 1`,
    `H ≠ 0`, the buffers of cell `c` of the configured sizes, no zero pivot, and the mechanism linear
    on cell `c` (`f(y) = A y`, `∂f/∂y = A` for every `y`).  If the first iterate is not changed by
    the clamp, then
    1. after the first iteration `Yn1` satisfies `(I − H A) Yn1 = Yn`, i.e. `Yn1 = (I − H A)⁻¹ y_n`;
    2. the second iteration leaves `δ = 0` in `forcing_`. -/
theorem C08_be_linear (hb : BuiltCfg s m procs n kind jac) (A : Nat → Nat → K) (r : BEState K)
    (h0 : r.iterations = 0) (hd : (beHead o T r).done = false) (hm : 1 < p.maxSteps)
    (hh : r.h ≠ 0) (hY : CellShape n c r.Yn1) (hf0 : CellShape n c r.sc.f0)
    (hj : CellShape s.la.A.nnz c r.sc.jac) (hl : CellShape s.la.Lp.nnz c r.sc.lower)
    (hu : CellShape s.la.Up.nnz c r.sc.upper)
    (hpiv : ∀ i, i < n → attPivot s (beFactor s kc r) c i ≠ 0)
    (hstart : ∀ i, i < n → rd (r.Yn1.getD c #[]) i = rd (r.Yn.getD c #[]) i)
    (hlinF : ∀ y : Array K, ∀ i, i < n →
      rd (s.tables.addForcingCell (kc.getD c #[]) y (Array.replicate n 0)) i
        = ∑ j ∈ range n, A i j * rd y j)
    (hlinJ : ∀ y : Array K, ∀ i j, i < n → j < n → negJac m procs (kc.getD c #[]) y i j = - A i j)
    (hnoclip : ∀ v, v < n → rd ((beNewY o s kc r).getD c #[]) v
      = rd ((beUnclipped s kc r).getD c #[]) v) :
    (∀ i, i < n → ∑ j ∈ range n, ((if i = j then 1 else 0) - r.h * A i j)
      * rd ((beStep o s p kc atol rtol T r).Yn1.getD c #[]) j = rd (r.Yn.getD c #[]) i) ∧
    (∀ v, rd ((beStep o s p kc atol rtol T (beStep o s p kc atol rtol T r)).sc.f0.getD c #[]) v = 0) :=
  by
  have hc := beConv_first o s p kc atol rtol r h0
  obtain ⟨e1, e2, e3, _, e5, _, e7⟩ := beStep_cont_fields o p kc atol rtol T r hd hc (by omega)
  have hfirst : ∀ i, i < n → ∑ j ∈ range n, ((if i = j then 1 else 0) - r.h * A i j)
      * rd ((beStep o s p kc atol rtol T r).Yn1.getD c #[]) j = rd (r.Yn.getD c #[]) i := by
    intro i hi
    rw [e1, ← C08_be_linear_first kc c hb A r hh hY hf0 hj hl hu hpiv hstart (hlinF _) (hlinJ _) i hi]
    exact sum_congr rfl fun j hj' => by rw [hnoclip j (mem_range.mp hj')]
  refine ⟨hfirst, ?_⟩
  -- the second iteration starts from the fixed point just computed
  have hf0' : CellShape n c (beStep o s p kc atol rtol T r).sc.f0 := by
    rw [e5]; exact beResidual_shape kc c s r hf0
  rw [beStep_sc o s p kc atol rtol T (beStep o s p kc atol rtol T r) e7]
  exact C08_be_linear_fixed kc c A _ (by rw [e3]; exact hh) hf0' (hlinF _)
    (fun i hi => by rw [e3, e2]; exact hfirst i hi)

end Exact

/-! ### the hypotheses are satisfiable: `A → B` is linear with `A = [[−k, 0], [k, 0]]` -/

namespace BEEx

def exA (k0 : ℚ) : Nat → Nat → ℚ := fun i j =>
  if j = 0 then (if i = 0 then -k0 else if i = 1 then k0 else 0) else 0

theorem exLinJ (k y : Array ℚ) (i j : Nat) (hi : i < 2) (hj : j < 2) :
    negJac nmap procs k y i j = - exA (rd k 0) i j := by
  have e1 : specReactIds nmap [(⟨"A", false⟩ : SpecRef)] = [0] := by decide
  have e2 : specProdIds nmap [((⟨"B", false⟩ : SpecRef), (1 : ℚ))] = [(1, 1)] := by decide
  have hi' : i = 0 ∨ i = 1 := by omega
  have hj' : j = 0 ∨ j = 1 := by omega
  rcases hi' with rfl | rfl <;> rcases hj' with rfl | rfl <;>
    simp [negJac, procs, List.zipIdx, e1, e2, jacNet, dMonomial, exA]

theorem exLinF (k y : Array ℚ) (i : Nat) (hi : i < 2) :
    rd (tables.addForcingCell k y (Array.replicate 2 0)) i
      = ∑ j ∈ range 2, exA (rd k 0) i j * rd y j := by
  rw [ProcessSet.build_ok_addForcingCell exBuild exResolves k y _]
  have hi' : i = 0 ∨ i = 1 := by omega
  rcases k with ⟨l⟩
  cases l with
  | nil =>
    rcases hi' with rfl | rfl <;> simp [forcingSpec, rxns, exA, rd]
  | cons k0 ks =>
    have hl : (⟨k0 :: ks⟩ : Array ℚ).toList = k0 :: ks := rfl
    have hk : rd (⟨k0 :: ks⟩ : Array ℚ) 0 = k0 := rfl
    rw [hl, hk]
    unfold rxns
    rw [forcingSpec_cons]
    rcases hi' with rfl | rfl <;>
      simp [forcingSpec, rxnStep, rxnRate, exA, rd_wr, rd_replicate_zero]

/-- at the initial state of the run (`k = 1`, `Y₀ = (1,0)`, `time_step = 1`) the clamp does not change
    the first iterate -/
theorem exNoClip (kind : LUKind) :
    ∀ v, v < 2 → rd ((beNewY ratOps (cfg kind) #[#[1]] (init kind params 1)).getD 0 #[]) v
      = rd ((beUnclipped (cfg kind) #[#[1]] (init kind params 1)).getD 0 #[]) v := by
  cases kind <;> decide +kernel

/-- `C08_be_linear` on the run, `A = [[−1,0],[1,0]]`, `H = 1` (shapes and pivots from `exNewtonHyps`
    at the initial state `iter kind params 1 0`) -/
theorem exLinear (kind : LUKind) :
    (∀ i, i < 2 → ∑ j ∈ range 2, ((if i = j then 1 else 0) - (init kind params 1).h * exA 1 i j)
      * rd ((beStep ratOps (cfg kind) params #[#[1]] #[1/10, 1/10] (1/10) 1
          (init kind params 1)).Yn1.getD 0 #[]) j = rd ((init kind params 1).Yn.getD 0 #[]) i) ∧
    (∀ v, rd ((beStep ratOps (cfg kind) params #[#[1]] #[1/10, 1/10] (1/10) 1
      (beStep ratOps (cfg kind) params #[#[1]] #[1/10, 1/10] (1/10) 1
        (init kind params 1))).sc.f0.getD 0 #[]) v = 0) := by
  obtain ⟨hd, hY, hf0, hj, hl, hu, hpiv⟩ := exNewtonHyps kind 0 (by decide)
  have hh : beInitialH ratOps params 1 ≠ 0 := by decide +kernel
  exact C08_be_linear ratOps params #[#[1]] #[1/10, 1/10] (1/10) 1 0 (exBuilt kind) (exA 1)
    (init kind params 1) rfl hd (by decide) hh hY hf0 hj hl hu hpiv (fun _ _ => rfl)
    (fun y => exLinF #[1] y) (fun y => exLinJ #[1] y) (exNoClip kind)

/-- evaluated: `y = (½, ½) = (I − A)⁻¹ (1, 0)` and `δ₂ = 0` -/
example : (iter .doolittle params 1 1).Yn1 = #[#[1/2, 1/2]] ∧
    (iter .doolittle params 1 2).sc.f0 = #[#[0, 0]] := by decide +kernel

end BEEx

#print axioms C08_be_linear_first
#print axioms C08_be_linear_fixed
#print axioms C08_be_linear
#print axioms BEEx.exLinJ
#print axioms BEEx.exLinF
#print axioms BEEx.exLinear

end Micm
