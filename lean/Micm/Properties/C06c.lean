/-
C06 (backward-Euler part) — counters, time and state bookkeeping of `BackwardEuler::Solve`.

Subject: `beStep` / `beLoop` / `beSolve` of `Micm/Model/BackwardEuler.lean`.  Vocabulary
(`Micm/Lemmas/BackwardEuler.lean`):
* `beHead o T r`                 the state after the `while (t < time_step)` test;
* `beCompletes … r : Bool`       the iteration from `r` ends an outer iteration (accept or reject);
* `beOuterCount … N r`           number of outer iterations completed by the first `N` iterations;
* `beInit h Y sc`, `beInitialH`  the state in which `beSolve` enters the loop; the first `H`
                                 (`h_start == 0 ? time_step : min(h_start, time_step)`);
* `BECountInv`, `BECtlInv p`, `BETimeInv T`  the loop invariants (fields spelled out in the theorems).

Repaired defect recorded here (`C06_be_old_overshoot`): the source used to start with
`H = h_start == 0 ? time_step : h_start`, *not* clipped to `time_step` (`H` was clipped by
`min(H, time_step − t)` only at the *end* of an outer iteration).  With `h_start > time_step` the first
outer iteration then integrated over `h_start`, and the solve reported `Converged` with
`final_time = h_start > time_step`.  `beSolveOld` below is a copy of `beSolve` with that first step; the
current source and model clip the first step, and the time bounds below need only `0 ≤ h_start`.
-/
import Micm.Lemmas.BackwardEuler

namespace Micm
set_option linter.unusedSectionVars false

section Any
variable {α : Type} [OfNat α 0] [OfNat α 1] [OfNat α 2] [Add α] [Sub α] [Mul α] [Div α]
variable (o : Ops α) (s : SolverCfg α) (p : BEParams α) (kc : Mat α) (atol : Array α) (rtol : α)
    (T : α)

/-- **counters, one iteration** (any carrier, any state): `accepted` and `rejected` never decrease,
    and their sum grows by exactly one when the iteration completes an outer iteration, by zero
    otherwise. -/
theorem C06_be_counters_step (r : BEState α) :
    r.stats.accepted ≤ (beStep o s p kc atol rtol T r).stats.accepted ∧
    r.stats.rejected ≤ (beStep o s p kc atol rtol T r).stats.rejected ∧
    (beStep o s p kc atol rtol T r).stats.accepted + (beStep o s p kc atol rtol T r).stats.rejected =
      r.stats.accepted + r.stats.rejected + (if beCompletes o s p kc atol rtol T r then 1 else 0) := by
  have hs := beStep_spec o s p kc atol rtol T r
  generalize beStep o s p kc atol rtol T r = r' at hs ⊢
  unfold beCompletes
  cases hs with
  | exit h => rw [h]; exact ⟨Nat.le_refl _, Nat.le_refl _, rfl⟩
  | cont h hc hm => rw [h, hc, decide_eq_true hm]; exact ⟨Nat.le_refl _, Nat.le_refl _, rfl⟩
  | giveUp h hc hm => rw [h, hc, decide_eq_false hm]; exact ⟨Nat.le_refl _, Nat.le_succ _, rfl⟩
  | retry h hc hm => rw [h, hc, decide_eq_false hm]; exact ⟨Nat.le_refl _, Nat.le_succ _, rfl⟩
  | accept h hc => rw [h, hc]; exact ⟨Nat.le_succ _, Nat.le_refl _, Nat.add_right_comm _ _ _⟩

/-- **counters, the loop** (any carrier).  From a state in which the five per-iteration counters
    agree with the length of the trace and the control invariants hold (both are true of the initial
    state of `beSolve`: `C06_be_counters_solve`), where `beLoop` stops:
    * `function_calls = jacobian_updates = decompositions = solves = number_of_steps`
      = number of Newton iterations made (`trace.length`);
    * every completed outer iteration made between 1 and `max 1 max_number_of_steps` Newton
      iterations: `accepted + rejected + iterations ≤ trace.length ≤ (accepted + rejected)·max 1 maxSteps + iterations`;
    * `rejected = n_convergence_failures (+1 at the give-up exit)`, hence `rejected ≤ reductions.length + 1`
      for the whole solve (`n_convergence_failures` is never reset). -/
theorem C06_be_counters (fuel : Nat) (r : BEState α) (hc : BECountInv r) (hi : BECtlInv p r) :
    let r' := beLoop o s p kc atol rtol T fuel r
    (r'.stats.functionCalls = r'.trace.length ∧ r'.stats.jacobianUpdates = r'.trace.length ∧
     r'.stats.decompositions = r'.trace.length ∧ r'.stats.solves = r'.trace.length ∧
     r'.stats.numberOfSteps = r'.trace.length) ∧
    r'.stats.accepted + r'.stats.rejected + r'.iterations ≤ r'.trace.length ∧
    r'.trace.length ≤ (r'.stats.accepted + r'.stats.rejected) * max 1 p.maxSteps + r'.iterations ∧
    r'.stats.rejected =
      r'.nFail + (if r'.status = .acceptingUnconvergedIntegration then 1 else 0) ∧
    r'.stats.rejected ≤ p.reductions.length + 1 := by
  intro r'
  have h1 := BECountInv_loop o s p kc atol rtol T fuel r hc
  have h2 := BECtlInv_loop o s p kc atol rtol T fuel r hi
  refine ⟨h1, h2.lower, h2.upper, h2.rej, ?_⟩
  have e := h2.rej
  have f := h2.nFail
  show (beLoop o s p kc atol rtol T fuel r).stats.rejected ≤ p.reductions.length + 1
  split at e <;> omega

/-- `accepted + rejected` = number of completed outer iterations, along the iterates of the loop -/
theorem C06_be_outer_iterations (N : Nat) (r : BEState α) :
    ((beStep o s p kc atol rtol T)^[N] r).stats.accepted +
      ((beStep o s p kc atol rtol T)^[N] r).stats.rejected =
      r.stats.accepted + r.stats.rejected + beOuterCount o s p kc atol rtol T N r := by
  induction N with
  | zero => simp [beOuterCount]
  | succ N ih =>
    rw [Function.iterate_succ_apply',
      (C06_be_counters_step o s p kc atol rtol T _).2.2, ih]
    unfold beOuterCount
    rw [List.range_succ, List.filter_append, List.length_append]
    by_cases hcpl : beCompletes o s p kc atol rtol T ((beStep o s p kc atol rtol T)^[N] r) = true
    · simp [hcpl]; omega
    · simp [hcpl]

/-- **counters, the whole solve** (any carrier): the result of `beSolve` has all five per-iteration
    counters equal to the number of reported iterations, `rejected ≤ reductions.length + 1`, and
    `accepted + rejected` equal to the number of outer iterations completed by the `N ≤ fuel`
    iterations that were run. -/
theorem C06_be_counters_solve (Y : Mat α) (sc : Scratch α) (fuel : Nat) :
    let res := beSolve o s p kc atol rtol T Y sc fuel
    res.stats.functionCalls = res.trace.length ∧ res.stats.jacobianUpdates = res.trace.length ∧
    res.stats.decompositions = res.trace.length ∧ res.stats.solves = res.trace.length ∧
    res.stats.numberOfSteps = res.trace.length ∧
    res.stats.accepted + res.stats.rejected ≤ res.trace.length ∧
    res.trace.length ≤ (res.stats.accepted + res.stats.rejected + 1) * max 1 p.maxSteps ∧
    res.stats.rejected ≤ p.reductions.length + 1 ∧
    ∃ N, N ≤ fuel ∧ res.stats.accepted + res.stats.rejected =
      beOuterCount o s p kc atol rtol T N (beInit (beInitialH o p T) Y sc) := by
  intro res
  obtain ⟨⟨c1, c2, c3, c4, c5⟩, c6, c7, _, c9⟩ := C06_be_counters o s p kc atol rtol T fuel
    (beInit (beInitialH o p T) Y sc) (BECountInv_init _ _ _) (BECtlInv_init p _ _ _)
  have hi := (BECtlInv_loop o s p kc atol rtol T fuel _ (BECtlInv_init p (beInitialH o p T) Y sc)).iters
  have hl : res.trace.length = (beLoop o s p kc atol rtol T fuel (beInit (beInitialH o p T) Y sc)).trace.length := by
    simp only [res, beSolve_eq, List.length_map, List.length_reverse]
  have hst : res.stats = (beLoop o s p kc atol rtol T fuel (beInit (beInitialH o p T) Y sc)).stats := rfl
  rw [hl, hst]
  refine ⟨c1, c2, c3, c4, c5, by omega, ?_, c9, ?_⟩
  · have hM : 1 ≤ max 1 p.maxSteps := Nat.le_max_left _ _
    have hM2 : p.maxSteps ≤ max 1 p.maxSteps := Nat.le_max_right _ _
    rw [Nat.add_mul, Nat.one_mul]
    rcases hi with h | h <;> omega
  · obtain ⟨N, hN, _, hcase⟩ := beLoop_eq_iterate o s p kc atol rtol T fuel
      (beInit (beInitialH o p T) Y sc)
    refine ⟨N, hN, ?_⟩
    have := C06_be_outer_iterations o s p kc atol rtol T N (beInit (beInitialH o p T) Y sc)
    rcases hcase with ⟨_, h⟩ | ⟨_, _, h⟩
    · rw [h, this]; simp [beInit]
    · rw [h]; simp only []; rw [this]; simp [beInit]

/-- **state on failure** (any carrier).  `Yn` (the last accepted solution) changes only when an outer
    iteration is accepted, and then becomes the new `Yn1`. -/
theorem C06_be_Yn (r : BEState α) :
    ((beStep o s p kc atol rtol T r).Yn = r.Yn ∧
      (beStep o s p kc atol rtol T r).stats.accepted = r.stats.accepted) ∨
    ((beStep o s p kc atol rtol T r).Yn = (beStep o s p kc atol rtol T r).Yn1 ∧
      (beStep o s p kc atol rtol T r).stats.accepted = r.stats.accepted + 1 ∧
      (beStep o s p kc atol rtol T r).status = .converged) :=
  beStep_Yn o s p kc atol rtol T r

/-- **state on failure** (any carrier).  An iteration that counts a rejection and does not end the
    solve (a failed outer iteration that is retried) leaves `Yn1 = Yn =` the last accepted solution,
    does not advance `t`, and starts a fresh outer iteration. -/
theorem C06_be_state_on_failure (r : BEState α)
    (h1 : (beStep o s p kc atol rtol T r).stats.rejected = r.stats.rejected + 1)
    (h2 : (beStep o s p kc atol rtol T r).done = false) :
    (beStep o s p kc atol rtol T r).Yn1 = r.Yn ∧ (beStep o s p kc atol rtol T r).Yn = r.Yn ∧
    (beStep o s p kc atol rtol T r).t = r.t ∧ (beStep o s p kc atol rtol T r).iterations = 0 ∧
    (beStep o s p kc atol rtol T r).stats.accepted = r.stats.accepted := by
  obtain ⟨a, b, c, d⟩ := beStep_retry_of_rejected o s p kc atol rtol T r h1 h2
  rw [beStep_of_retry o s p kc atol rtol T r a b c d]
  simp [beRetry, beNewton]

/-- at the start of every outer iteration `Yn1 = Yn` (from the initial state of `beSolve`, where
    `Yn.Copy(Yn1)`) -/
theorem C06_be_start_state (Y : Mat α) (sc : Scratch α) (fuel : Nat) :
    let r' := beLoop o s p kc atol rtol T fuel (beInit (beInitialH o p T) Y sc)
    r'.iterations = 0 → r'.done = false → r'.Yn1 = r'.Yn :=
  (BECtlInv_loop o s p kc atol rtol T fuel _ (BECtlInv_init p (beInitialH o p T) Y sc)).start

end Any

section Ordered
variable {K : Type} [Field K] [LinearOrder K] [IsStrictOrderedRing K]
variable {o : Ops K} (ho : OrderedOps o) (s : SolverCfg K) (p : BEParams K) (kc : Mat K)
    (atol : Array K) (rtol : K) (T : K)

include ho in
/-- **time, along the loop** (ordered field, comparisons as in `OrderedOps`).  Hypotheses:
    `0 < time_step`, `0 ≤ h_start` (no upper bound: the first `H` is `min(h_start, time_step)`), every
    reduction factor `≥ 0` (nothing else about the factors is needed: the clip
    `H = min(H, time_step − t)` does the rest).  Then in every loop state
    `rₖ` reached from the initial state of `beSolve` through not-`done` states:
    `0 ≤ t ≤ time_step`, `0 ≤ H`, and while the loop is running `H ≤ time_step − t`
    (so an accepted outer iteration never steps past `time_step`). -/
theorem C06_be_time_iterates (hT : 0 < T) (hs0 : 0 ≤ p.hstart)
    (hred : ∀ x ∈ p.reductions, 0 ≤ x) (Y : Mat K) (sc : Scratch K) (k : Nat)
    (hk : ∀ j, j < k →
      ((beStep o s p kc atol rtol T)^[j] (beInit (beInitialH o p T) Y sc)).done = false) :
    let r := (beStep o s p kc atol rtol T)^[k] (beInit (beInitialH o p T) Y sc)
    0 ≤ r.t ∧ r.t ≤ T ∧ 0 ≤ r.h ∧ (r.done = false → r.h ≤ T - r.t) := by
  have hinit : BETimeInv T (beInit (beInitialH o p T) Y sc) := by
    obtain ⟨b0, bT⟩ := beInitialH_bounds ho p T hT hs0
    exact BETimeInv_init T hT _ b0 bT Y sc
  have : BETimeInv T ((beStep o s p kc atol rtol T)^[k] (beInit (beInitialH o p T) Y sc)) := by
    induction k with
    | zero => exact hinit
    | succ k ih =>
      rw [Function.iterate_succ_apply']
      exact BETimeInv_step ho s p kc atol rtol T hred _ (hk k (by omega)) (ih (fun j hj => hk j (by omega)))
  exact ⟨this.t0, this.tT, this.h0, this.hle⟩

include ho in
/-- **time, the whole solve** (same hypotheses): `0 ≤ final_time ≤ time_step`; the reported status is
    `Converged`, `AcceptingUnconvergedIntegration` or (model only) `outOfFuel`; and
    `Converged ⇒ final_time = time_step` exactly — whereas `AcceptingUnconvergedIntegration` may stop
    earlier (`BEEx` example below: `final_time = 1/8`). -/
theorem C06_be_time (hT : 0 < T) (hs0 : 0 ≤ p.hstart)
    (hred : ∀ x ∈ p.reductions, 0 ≤ x) (Y : Mat K) (sc : Scratch K) (fuel : Nat) :
    let res := beSolve o s p kc atol rtol T Y sc fuel
    0 ≤ res.finalTime ∧ res.finalTime ≤ T ∧
    (res.status = .converged → res.finalTime = T) ∧
    (res.status = .converged ∨ res.status = .acceptingUnconvergedIntegration ∨
      res.status = .outOfFuel) := by
  intro res
  have hinit : BETimeInv T (beInit (beInitialH o p T) Y sc) := by
    obtain ⟨b0, bT⟩ := beInitialH_bounds ho p T hT hs0
    exact BETimeInv_init T hT _ b0 bT Y sc
  obtain ⟨h1, h2, _, h4, h5⟩ := beLoop_time ho s p kc atol rtol T hred fuel _ hinit
  exact ⟨h1, h2, h4, h5⟩

include ho in
/-- without any assumption on `h_start` or the reduction factors only this remains:
    `Converged ⇒ time_step ≤ final_time` (the loop exits by the test `¬ (t < time_step)`) -/
theorem C06_be_time_lower (Y : Mat K) (sc : Scratch K) (fuel : Nat) :
    (beSolve o s p kc atol rtol T Y sc fuel).status = .converged →
      T ≤ (beSolve o s p kc atol rtol T Y sc fuel).finalTime := by
  intro hc
  rw [beSolve_eq] at hc ⊢
  simp only [] at hc ⊢
  rcases beLoop_inv' o s p kc atol rtol T (BEFinInv T)
    (fun r hd _ => BEFinInv_step ho s p kc atol rtol T r hd) fuel
    (beInit (beInitialH o p T) Y sc) (fun h => by simp [beInit] at h) with ⟨h1, h2⟩ | ⟨r', _, _, h3⟩
  · rcases h1 h2 with h | h
    · rw [hc] at h; cases h
    · exact h
  · rw [h3] at hc; simp at hc

end Ordered

/-! ### examples on `A → B` (`k = 1`, `Y₀ = (1,0)`) over `ℚ` -/

namespace BEEx

/-- the hypotheses of `C06_be_time` hold for the default parameters and `time_step = 1` … -/
example : (0 : ℚ) < 1 ∧ 0 ≤ params.hstart ∧ ∀ x ∈ params.reductions, (0 : ℚ) ≤ x := by
  decide +kernel

/-- … also with `h_start = 1/4`: three accepted outer iterations `H = ¼, ¼, ½` (doubling after two
    successes, clipped to `time_step − t`), `final_time = time_step` -/
example : (run .doolittle { params with hstart := 1/4 } 1 20).status = .converged ∧
    (run .doolittle { params with hstart := 1/4 } 1 20).finalTime = 1 ∧
    (run .doolittle { params with hstart := 1/4 } 1 20).trace.map (·.h) = [1/4, 1/4, 1/4, 1/4, 1/2, 1/2] ∧
    (run .doolittle { params with hstart := 1/4 } 1 20).stats =
      { functionCalls := 6, jacobianUpdates := 6, numberOfSteps := 6, accepted := 3, rejected := 0,
        decompositions := 6, solves := 6 } := by
  decide +kernel

/-- `AcceptingUnconvergedIntegration` stops early: with `max_number_of_steps = 1` (no convergence
    test is ever made) and reductions `½, ¼`, the solve gives up at `final_time = 1/8 < 1` after three
    rejections; `Y` is the un-converged iterate, the returned `Yn` (`sc.ynew`) the initial state -/
example :
    let res := run .doolittle { params with maxSteps := 1, reductions := [1/2, 1/4] } 1 10
    res.status = .acceptingUnconvergedIntegration ∧ res.finalTime = 1/8 ∧
    res.stats.rejected = 3 ∧ res.stats.accepted = 0 ∧ res.trace.map (·.h) = [1, 1/2, 1/8] ∧
    res.Y = #[#[8/9, 1/9]] ∧ res.sc.ynew = #[#[1, 0]] := by
  decide +kernel

/-- `h_start = 2 > time_step = 1` (allowed by `C06_be_time`): the first `H` is clipped to
    `min(2, 1) = 1`, the solve reports `Converged` with `final_time = time_step = 1` and the
    backward-Euler value for `H = 1`, `y = 1/(1+1)` -/
example :
    (run .doolittle { params with hstart := 2 } 1 10).status = .converged ∧
    (run .doolittle { params with hstart := 2 } 1 10).finalTime = 1 ∧
    (run .doolittle { params with hstart := 2 } 1 10).trace.map (·.h) = [1, 1] ∧
    (run .doolittle { params with hstart := 2 } 1 10).Y = #[#[1/2, 1/2]] := by
  decide +kernel

/-- copy of `beSolve` with the first step of the source *before* the repair,
    `H = h_start == 0 ? time_step : h_start` (everything else identical) -/
def beSolveOld {α : Type} [OfNat α 0] [OfNat α 1] [OfNat α 2] [Add α] [Sub α] [Mul α] [Div α]
    (o : Ops α) (s : SolverCfg α) (p : BEParams α) (kc : Mat α) (atol : Array α) (rtol : α)
    (timeStep : α) (Y : Mat α) (sc : Scratch α) (fuel : Nat) : SolveResult α :=
  let h := if o.eq p.hstart 0 then timeStep else p.hstart
  let r := beLoop o s p kc atol rtol timeStep fuel (beInit h Y sc)
  { status := r.status, finalTime := r.t, stats := r.stats, Y := r.Yn1, sc := { r.sc with ynew := r.Yn },
    trace := r.trace.reverse.map fun it =>
      { h := it.h, alpha := 1 / it.h, matrix := it.matrix, error := 0, accepted := true } }

/-- the copy differs from `beSolve` in the first step only: they agree whenever the clip is inactive
    (`h_start = 0`, or `h_start ≤ time_step`) -/
theorem beSolveOld_eq_beSolve {K : Type} [Field K] [LinearOrder K] [IsStrictOrderedRing K]
    {o : Ops K} (ho : OrderedOps o) (s : SolverCfg K) (p : BEParams K) (kc : Mat K) (atol : Array K)
    (rtol T : K) (Y : Mat K) (sc : Scratch K) (fuel : Nat) (h : p.hstart = 0 ∨ p.hstart ≤ T) :
    beSolveOld o s p kc atol rtol T Y sc fuel = beSolve o s p kc atol rtol T Y sc fuel := by
  have e : (if o.eq p.hstart 0 then T else p.hstart) = beInitialH o p T := by
    rw [beInitialH_eq ho, ho.eq]
    simp only [decide_eq_true_eq]
    split
    · rfl
    · rw [min_eq_left (h.resolve_left ‹_›)]
  rw [beSolve_eq]; unfold beSolveOld; rw [e]

/-- **overshoot of the old source** (repaired): with `h_start = 2 > time_step = 1` the first outer
    iteration integrated over `H = 2`; the solve reported `Converged` with `final_time = 2 > time_step`
    and the backward-Euler value for `H = 2`, `y = 1/(1+2)` -/
theorem C06_be_old_overshoot :
    let res := beSolveOld ratOps (cfg .doolittle) { params with hstart := 2 } #[#[1]] #[1/10, 1/10] (1/10)
      1 #[#[1, 0]] (scratch .doolittle) 10
    res.status = .converged ∧ res.finalTime = 2 ∧ res.Y = #[#[1/3, 2/3]] := by
  decide +kernel

end BEEx

#print axioms C06_be_counters_step
#print axioms C06_be_counters
#print axioms C06_be_outer_iterations
#print axioms C06_be_counters_solve
#print axioms C06_be_Yn
#print axioms C06_be_state_on_failure
#print axioms C06_be_start_state
#print axioms C06_be_time_iterates
#print axioms C06_be_time
#print axioms C06_be_time_lower
#print axioms BEEx.beSolveOld_eq_beSolve
#print axioms BEEx.C06_be_old_overshoot

end Micm
