/-
  C17 — States have value semantics.

  Model: `Micm/Model/History.lean` — a store of `State` objects; what is modelled concretely is
  the dynamic kind of the polymorphic member `temporary_variables_` after each construction /
  copy / move (`hStep`, `hRun`).  `clone = true` is the current source (copy constructor and copy assignment
  of state.hpp use `other.temporary_variables_->Clone()`), `clone = false` the source before the fix
  (`std::make_unique<TemporaryVariables>(*other.temporary_variables_)`: the base class only).
  `Solve` downcasts the member with `static_cast`; on a wrong dynamic kind the outcome is `ub`.

  Spec: `specStep` / `specRun` — a store of independent plain values (no `temp` at all).

  The numerical content `σ`, the fresh value and the effect `solveF` of `Solve` are arbitrary.
  Histories are arbitrary op lists (ops on a dead slot yield `noState` in both machines, so no
  well-formedness predicate is needed).
-/
import Micm.Lemmas.Special
namespace Micm

variable {σ ρ : Type}

/-- Current source (`clone = true`), every history from a store in which every live object
    holds the solver's own kind of temporaries (e.g. any reachable store):
    * that invariant holds again at the end,
    * no op yields `ub`,
    * the outputs are those of the abstract store of independent values,
    * the final values are those of the abstract store. -/
theorem C17_value_semantics_from (kind : TempKind) (fresh : σ) (solveF : σ → σ × ρ)
    (st : HStore σ) (hst : ∀ i o, st i = some o → o.temp = kind) (ops : List (HOp σ)) :
    let r := hRun true kind fresh solveF st ops
    let sp := specRun fresh solveF (fun i => (st i).map (·.val)) ops
    (∀ i o, r.1 i = some o → o.temp = kind) ∧
    (∀ out ∈ r.2, out ≠ HOut.ub) ∧
    r.2 = sp.2 ∧
    (∀ i, (r.1 i).map (·.val) = sp.1 i) := by
  obtain ⟨h1, h2, h3⟩ := hRun_refines kind fresh solveF ops st hst
  refine ⟨h1, ?_, h3, fun i => congrFun h2 i⟩
  intro out hout hub
  rw [h3] at hout
  exact specRun_no_ub fresh solveF ops _ out hout hub

/-- In particular every history from the empty store. -/
theorem C17_value_semantics (kind : TempKind) (fresh : σ) (solveF : σ → σ × ρ) (ops : List (HOp σ)) :
    let r := hRun true kind fresh solveF (fun _ => none) ops
    let sp := specRun fresh solveF (fun _ => none) ops
    (∀ i o, r.1 i = some o → o.temp = kind) ∧
    (∀ out ∈ r.2, out ≠ HOut.ub) ∧
    r.2 = sp.2 ∧
    (∀ i, (r.1 i).map (·.val) = sp.1 i) :=
  C17_value_semantics_from kind fresh solveF (fun _ => none) (HInv_empty kind) ops

/-- A copy is independent of its source.  In any store satisfying the invariant (in particular
    any store reachable from the empty one, by `C17_value_semantics`) with `s` live and `s ≠ d`:
    after `copyConstruct s d` (or `copyAssign s d`), `solve d`
    * returns the result that `solve s` would have returned,
    * leaves `s` (and every slot other than `d`) exactly as it was before the copy,
    * leaves in `d` the value that solving on `s` would have produced. -/
theorem C17_copy_independent (kind : TempKind) (fresh : σ) (solveF : σ → σ × ρ)
    (st : HStore σ) (hst : ∀ i o, st i = some o → o.temp = kind)
    (s d : Nat) (hsd : s ≠ d) (o : HObj σ) (hs : st s = some o)
    (op : HOp σ) (hop : op = .copyConstruct s d ∨ op = .copyAssign s d) :
    let st1 := (hStep true kind fresh solveF st op).1
    let r := hStep true kind fresh solveF st1 (.solve d)
    r.2 = .result (solveF o.val).2 ∧
    r.2 = (hStep true kind fresh solveF st (.solve s)).2 ∧
    r.1 s = some o ∧
    (∀ j, j ≠ d → r.1 j = st j) ∧
    (r.1 d).map (·.val) = some (solveF o.val).1 ∧
    (r.1 d).map (·.val) = ((hStep true kind fresh solveF st (.solve s)).1 s).map (·.val) := by
  have hk := hst s o hs
  -- either copy puts `o.val`, with a `temp` cloned to the right kind, into slot `d ≠ s`; `Solve` on `d` then
  -- downcasts successfully, reads that value and writes slot `d` only
  rcases hop with rfl | rfl <;>
  · simp only [hStep, hs, copyTemp, if_true, hk, HStore.upd]
    simp [hsd]
    intro j hj; simp [hj]

theorem C17_copy_independent_reachable (kind : TempKind) (fresh : σ) (solveF : σ → σ × ρ)
    (pre : List (HOp σ)) (s d : Nat) (hsd : s ≠ d) (o : HObj σ)
    (hs : (hRun true kind fresh solveF (fun _ => none) pre).1 s = some o) :
    let st := (hRun true kind fresh solveF (fun _ => none) pre).1
    let st1 := (hStep true kind fresh solveF st (.copyConstruct s d)).1
    let r := hStep true kind fresh solveF st1 (.solve d)
    r.2 = .result (solveF o.val).2 ∧
    r.2 = (hStep true kind fresh solveF st (.solve s)).2 ∧
    r.1 s = some o ∧
    (r.1 d).map (·.val) = some (solveF o.val).1 := by
  have hinv := (C17_value_semantics kind fresh solveF pre).1
  obtain ⟨h1, h2, h3, _, h5, _⟩ :=
    C17_copy_independent kind fresh solveF _ hinv s d hsd o hs _ (Or.inl rfl)
  exact ⟨h1, h2, h3, h5⟩

/-- The defect that was fixed: with the old copy (`clone = false`) and a Rosenbrock solver,
    `GetState; copy; Solve(copy)` is undefined behaviour (bad downcast of the sliced temporaries). -/
theorem C17_old_copy_is_ub (fresh : σ) (solveF : σ → σ × ρ) :
    (hRun false .rosenbrock fresh solveF (fun _ => none)
      [.new 0, .copyConstruct 0 1, .solve 1]).2 = [.ok, .ok, .ub] := by
  rfl

example (fresh : σ) (solveF : σ → σ × ρ) :
    (hRun true .rosenbrock fresh solveF (fun _ => none)
      [.new 0, .copyConstruct 0 1, .solve 1]).2 = [.ok, .ok, .result (solveF fresh).2] := by
  rfl

/-- the same holds for backward Euler on the old source -/
theorem C17_old_copy_is_ub_be (fresh : σ) (solveF : σ → σ × ρ) :
    (hRun false .backwardEuler fresh solveF (fun _ => none)
      [.new 0, .copyAssign 0 1, .solve 1]).2 = [.ok, .ok, .ub] := by
  rfl

example :
    let solveF : Nat → Nat × Nat := fun v => (v + 1, v)
    let r := hRun true .rosenbrock 7 solveF (fun _ => none)
      [.new 0, .set 0 (· * 2), .copyConstruct 0 1, .solve 1, .solve 1, .solve 0, .moveAssign 1 2, .solve 1, .solve 2]
    (r.1 0).map (·.val) = some 15 ∧ (r.1 1).map (·.val) = none ∧ (r.1 2).map (·.val) = some 17 := by
  decide

#print axioms C17_value_semantics
#print axioms C17_value_semantics_from
#print axioms C17_copy_independent
#print axioms C17_copy_independent_reachable
#print axioms C17_old_copy_is_ub
#print axioms C17_old_copy_is_ub_be

end Micm
