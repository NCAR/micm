/-
C13 (second part) — grid cells are independent; any cell count works:
Jacobian, Doolittle LU decomposition and linear solve on flat storage.

The flat-storage kernels of `Micm/Model/FlatKernels2.lean` (`PSTables.subtractJacobianFlat`,
`doolittleFlat`, `solveFlat`: the loops of `SubtractJacobianTerms`,
`LuDecompositionDoolittle::Decompose`, `LinearSolver::Solve` for the standard layout `L = 0` — one
cell / block after the other — and for the vector layouts `L ≥ 1` — groups of `L` lanes; Jacobian and
solve run all `L` lanes of every group, padding included, the LU runs `min L (blocks - g*L)` lanes)
against the per-cell kernels `PSTables.subtractJacobianCell` (`ProcessSet.lean`), `doolittleCell`,
`solveCell` (`LU.lean`) — the ones C03 / C04 / C05 speak of.

Storage conventions (definitions in `Micm/Lemmas/DenseAddr.lean`, `LaneView.lean`, `Lanes2.lean`, restated by
the first `example`s below):
 * `slot L nnz b k`  — slot of element rank `k` of block `b` of a sparse block matrix with `nnz`
   elements per block; this is `Pattern.slot` (C19) as a function of `L`, `nnz`;
 * `vectorSize L nnz blocks` — its storage size (`Pattern.vectorSize`);
 * `sparseRow L nnz data b` — logical block `b` (the `nnz` values at `slot L nnz b 0 …`);
 * dense matrices: `DenseShape.addr`, `flatRow` as in `C13.lean`;
 * `DRow.InRange r nnzA nnzL nnzU`, `SubRow.InRange r nnz n`: every element rank of a table row is
   inside its pattern (a rank `≥ nnz` — e.g. the sentinel of `Pattern.rk` — would address another
   lane / group); `doolittleRows`, `solverRows` use a rank only for present elements.

Everything is parametric in the element type: only the notation classes, no algebraic law, so every
statement holds verbatim for `Float` (bit for bit).

Hypotheses of the lane theorems: the *written* array has the container's size (the model drops
out-of-range writes), table ids / ranks are in range.  No size hypothesis on arrays that are only
read.  The Jacobian cursor walk needs no list-length condition: the flat and the per-cell kernel walk
the same streams (`jReactIds`, `jYields`, `flat`) with the same cursors and both index the rate
constants by `info.pid` (unlike the forcing kernel, whose per-cell form consumes a list of rate
constants); the only requirement is `info.pid < nRxn`.  The solve needs `fw.length ≤ n` (forward row
index `0, 1, …` stays a column of `x`) and `bw.length ≤ n` (only used to exclude `n = 0` with a
non-empty backward table; the backward index starts at `n - 1 = x.size - 1` and saturates at 0);
`solverRows` gives `fw.length = bw.length = n`.
-/
import Micm.Lemmas.Lanes2
namespace Micm

example (L nnz b k : Nat) :
    slot L nnz b k = if L = 0 then k + b * nnz else k * L + b % L + (b / L) * L * nnz := rfl
example (L nnz blocks : Nat) :
    vectorSize L nnz blocks = if L = 0 then blocks * nnz else ((blocks + L - 1) / L) * L * nnz := rfl
example (p : Pattern) (b k : Nat) : p.slot b k = slot p.L p.nnz b k := rfl
example (p : Pattern) (blocks : Nat) : p.vectorSize blocks = vectorSize p.L p.nnz blocks := rfl
example {α : Type} [OfNat α 0] (L nnz : Nat) (data : Array α) (b : Nat) :
    sparseRow L nnz data b = ((List.range nnz).map fun k => rd data (slot L nnz b k)).toArray := rfl
example (r : DRow) (nnzA nnzL nnzU : Nat) :
    r.InRange nnzA nnzL nnzU ↔
      (∀ e ∈ r.u, (∀ a, e.a = some a → a < nnzA) ∧ e.t < nnzU ∧ ∀ p ∈ e.pairs, p.1 < nnzL ∧ p.2 < nnzU) ∧
      r.lii < nnzL ∧
      (∀ e ∈ r.l, (∀ a, e.a = some a → a < nnzA) ∧ e.t < nnzL ∧ ∀ p ∈ e.pairs, p.1 < nnzL ∧ p.2 < nnzU) ∧
      r.uii < nnzU := Iff.rfl
example (r : SubRow) (nnz n : Nat) :
    r.InRange nnz n ↔ r.diag < nnz ∧ ∀ p ∈ r.pairs, p.1 < nnz ∧ p.2 < n := Iff.rfl

/-- slots of real blocks are in range (C19 for the explicit `slot`) -/
theorem C13_slot_lt {L nnz blocks b k : Nat} (hb : b < blocks) (hk : k < nnz) :
    slot L nnz b k < vectorSize L nnz blocks := slot_lt hb hk

/-- the kernels' address of (group `b / L`, element rank `k`, lane `b % L`) — resp. of (block `b`,
    rank `k`) with one lane of stride 1 for the standard layout — is the container's slot (C19) -/
theorem C13_kernel_slot (L nnz b k : Nat) :
    (L = 0 → slot L nnz b k = b * nnz + k * 1 + 0) ∧
    (L ≠ 0 → slot L nnz b k = b / L * (L * nnz) + k * L + b % L) :=
  ⟨fun hL => by subst hL; rw [slot_eq_lane]; rfl,
    fun hL => by rw [slot_eq_lane]; simp only [laneOff, laneStride, laneIdx, hL, if_false]⟩

/-- **Bounds.**  Every address the flat kernels form in a sparse block array is inside its storage:
    standard layout, block `b < blocks`; vector layout, group `g < ⌈blocks / L⌉`, lane `l < L`
    (a fortiori `l < min L (blocks - g*L)`); element ranks `k < nnz`.  (Dense arrays: `C13_bounds`.) -/
theorem C13_sparse_bounds (L nnz blocks : Nat) :
    (∀ b k, b < blocks → k < nnz → b * nnz + k * 1 + 0 < vectorSize 0 nnz blocks) ∧
    (L ≠ 0 → ∀ g k l, g < (blocks + L - 1) / L → k < nnz → l < L →
      g * (L * nnz) + k * L + l < vectorSize L nnz blocks) :=
  ⟨fun b k hb hk => by rw [Nat.mul_one, Nat.add_zero]; exact row_addr_lt hb hk,
    fun hL _ _ _ hg hk hl => vec_addr_lt hL hg hk hl⟩

section Jacobian
variable {α : Type} [OfNat α 0] [Add α] [Sub α] [Mul α]

/-- **Lane theorem, Jacobian.**  Both layouts (`L = 0`, every `L ≥ 1`), every cell count (also
    `nCells < L`, `nCells % L ≠ 0`), every real cell `c < nCells`: logical block `c` of the flat
    kernel's result is the per-cell kernel applied to logical row `c` of the rate constants and of
    the state and to logical block `c` of the incoming Jacobian. -/
theorem C13_jacobian_flat_eq_cell (t : PSTables α) (flat : List Nat) (L nCells nRxn nSpecies nnz : Nat)
    (K Y J : Array α) (hJ : J.size = vectorSize L nnz nCells)
    (hjr : ∀ i ∈ t.jReactIds, i < nSpecies) (hpid : ∀ info ∈ t.jInfo, info.pid < nRxn)
    (hflat : ∀ f ∈ flat, f < nnz) (c : Nat) (hc : c < nCells) :
    sparseRow L nnz (t.subtractJacobianFlat flat L nCells nRxn nSpecies nnz K Y J) c
      = t.subtractJacobianCell flat (flatRow ⟨nCells, nRxn, L⟩ K c) (flatRow ⟨nCells, nSpecies, L⟩ Y c)
          (sparseRow L nnz J c) := by
  have V0 := View.ofSparseRow hJ hc
  have hK := reads_sparseRow L nRxn K c
  have hY := reads_sparseRow L nSpecies Y c
  simp only [flatRow_eq_sparseRow]
  apply View.sparseRow_eq
  unfold PSTables.subtractJacobianFlat PSTables.subtractJacobianFlatRow PSTables.subtractJacobianFlatVec
    PSTables.subtractJacobianCell
  simp only [slot_lane] at V0 hK hY ⊢
  exact blockLoop_rel _
    (fun L nc off J => jacVecGo L K Y (off nRxn) (off nSpecies) (off nnz) t.jInfo t.jReactIds t.jYields flat J)
    _ L nCells c hc
    (fun nc _ _ J j h => jacVecGo_view _ _ (laneIdx_lt L c) K Y _ _ _ _ _ nRxn nSpecies nnz hK hY _ _ _ _
      hpid hjr hflat J j h)
    (fun nc off' _ hd J j h => (jacVecGo_keeps (· < nnz) _ K Y _ _ _ _ _ _ _ J hflat).view_other
      (Nat.le_refl _) (laneIdx_lt L c) hd h)
    V0

/-- element form: the slot of (cell `c`, element rank `k`) holds entry `k` of the per-cell result -/
theorem C13_jacobian_flat_slot (t : PSTables α) (flat : List Nat) (L nCells nRxn nSpecies nnz : Nat)
    (K Y J : Array α) (hJ : J.size = vectorSize L nnz nCells)
    (hjr : ∀ i ∈ t.jReactIds, i < nSpecies) (hpid : ∀ info ∈ t.jInfo, info.pid < nRxn)
    (hflat : ∀ f ∈ flat, f < nnz) (c k : Nat) (hc : c < nCells) (hk : k < nnz) :
    rd (t.subtractJacobianFlat flat L nCells nRxn nSpecies nnz K Y J) (slot L nnz c k)
      = rd (t.subtractJacobianCell flat (flatRow ⟨nCells, nRxn, L⟩ K c) (flatRow ⟨nCells, nSpecies, L⟩ Y c)
          (sparseRow L nnz J c)) k := by
  rw [← C13_jacobian_flat_eq_cell t flat L nCells nRxn nSpecies nnz K Y J hJ hjr hpid hflat c hc,
    rd_sparseRow L nnz _ c k hk]

/-- **Cell independence, Jacobian.**  Two runs — different cell counts, positions of the cell,
    layouts — whose inputs agree on the cell's logical rows / block agree on the cell's block of the
    result: other cells, their number and order, padding lanes and the group length never matter. -/
theorem C13_jacobian_cell_independence (t : PSTables α) (flat : List Nat) (nRxn nSpecies nnz : Nat)
    (L nCells : Nat) (K Y J : Array α) (L' nCells' : Nat) (K' Y' J' : Array α)
    (hJ : J.size = vectorSize L nnz nCells) (hJ' : J'.size = vectorSize L' nnz nCells')
    (hjr : ∀ i ∈ t.jReactIds, i < nSpecies) (hpid : ∀ info ∈ t.jInfo, info.pid < nRxn)
    (hflat : ∀ f ∈ flat, f < nnz) (c c' : Nat) (hc : c < nCells) (hc' : c' < nCells')
    (hKrow : flatRow ⟨nCells, nRxn, L⟩ K c = flatRow ⟨nCells', nRxn, L'⟩ K' c')
    (hYrow : flatRow ⟨nCells, nSpecies, L⟩ Y c = flatRow ⟨nCells', nSpecies, L'⟩ Y' c')
    (hJrow : sparseRow L nnz J c = sparseRow L' nnz J' c') :
    sparseRow L nnz (t.subtractJacobianFlat flat L nCells nRxn nSpecies nnz K Y J) c
      = sparseRow L' nnz (t.subtractJacobianFlat flat L' nCells' nRxn nSpecies nnz K' Y' J') c' := by
  rw [C13_jacobian_flat_eq_cell t flat L nCells nRxn nSpecies nnz K Y J hJ hjr hpid hflat c hc,
    C13_jacobian_flat_eq_cell t flat L' nCells' nRxn nSpecies nnz K' Y' J' hJ' hjr hpid hflat c' hc',
    hKrow, hYrow, hJrow]

/-- the Jacobian kernel keeps the storage size (padding lanes *are* written, from padding inputs;
    by cell independence those values never reach a real cell) -/
theorem C13_jacobian_size (t : PSTables α) (flat : List Nat) (L nCells nRxn nSpecies nnz : Nat)
    (K Y J : Array α) : (t.subtractJacobianFlat flat L nCells nRxn nSpecies nnz K Y J).size = J.size := by
  unfold PSTables.subtractJacobianFlat PSTables.subtractJacobianFlatRow PSTables.subtractJacobianFlatVec
  exact blockLoop_size (fun J => J)
    (fun L _ off J => jacVecGo L K Y (off nRxn) (off nSpecies) (off nnz) t.jInfo t.jReactIds t.jYields flat J)
    (fun L _ _ J => (jacVecGo_keeps (fun _ => True) L K Y _ _ _ _ _ _ _ J (fun _ _ => trivial)).1)
    L nCells J

end Jacobian

section LU
variable {α : Type} [OfNat α 0] [OfNat α 1] [Sub α] [Mul α] [Div α]

/-- **Lane theorem, LU.**  Both layouts, every block count, every real block `b < blocks`: logical
    block `b` of the flat `(L, U)` result is `doolittleCell` on logical block `b` of `A`, `L`, `U`. -/
theorem C13_doolittle_flat_eq_cell (L blocks : Nat) (rows : List DRow) (nnzA nnzL nnzU : Nat)
    (hrows : ∀ r ∈ rows, r.InRange nnzA nnzL nnzU) (A Lo Up : Array α)
    (hLo : Lo.size = vectorSize L nnzL blocks) (hUp : Up.size = vectorSize L nnzU blocks)
    (b : Nat) (hb : b < blocks) :
    (sparseRow L nnzL (doolittleFlat L blocks rows nnzA nnzL nnzU A (Lo, Up)).1 b,
     sparseRow L nnzU (doolittleFlat L blocks rows nnzA nnzL nnzU A (Lo, Up)).2 b)
      = doolittleCell rows (sparseRow L nnzA A b) (sparseRow L nnzL Lo b, sparseRow L nnzU Up b) := by
  have VL := View.ofSparseRow hLo hb
  have VU := View.ofSparseRow hUp hb
  have hA := reads_sparseRow L nnzA A b
  apply View.sparseRow_eq₂
  unfold doolittleFlat
  simp only [slot_lane] at VL VU hA ⊢
  exact blockLoop_rel _
    (fun L nc off S => doolittleVecGroup L nc rows A (off nnzA) (off nnzL) (off nnzU) S) _ L blocks b hb
    (fun nc hm hnc S s h => doolittleVecGroup_view _ nc _ hm hnc rows nnzA nnzL nnzU hrows A _ _ _ _ hA S s h)
    (fun nc off' hnc hd S s h => (doolittleVecGroup_keeps _ nc rows nnzA nnzL nnzU hrows A _ _ _ S).view_other
      hnc (laneIdx_lt L b) hd h)
    ⟨VL, VU⟩

/-- **Padding lanes are not touched by the LU** (the vector kernel runs `min L (blocks - g*L)`
    lanes): the sizes are kept and every slot that is not the slot of an element of a real block
    keeps its content. -/
theorem C13_doolittle_padding_untouched (L blocks : Nat) (rows : List DRow) (nnzA nnzL nnzU : Nat)
    (hrows : ∀ r ∈ rows, r.InRange nnzA nnzL nnzU) (A Lo Up : Array α) :
    ((doolittleFlat L blocks rows nnzA nnzL nnzU A (Lo, Up)).1.size = Lo.size ∧
      ∀ x, (∀ b k, b < blocks → k < nnzL → slot L nnzL b k ≠ x) →
        rd (doolittleFlat L blocks rows nnzA nnzL nnzU A (Lo, Up)).1 x = rd Lo x) ∧
    ((doolittleFlat L blocks rows nnzA nnzL nnzU A (Lo, Up)).2.size = Up.size ∧
      ∀ x, (∀ b k, b < blocks → k < nnzU → slot L nnzU b k ≠ x) →
        rd (doolittleFlat L blocks rows nnzA nnzL nnzU A (Lo, Up)).2 x = rd Up x) :=
  ⟨blockLoop_frame Prod.fst nnzL
      (fun L nc off S => doolittleVecGroup L nc rows A (off nnzA) (off nnzL) (off nnzU) S)
      (fun L nc _ S => (doolittleVecGroup_keeps L nc rows nnzA nnzL nnzU hrows A _ _ _ S).1) L blocks (Lo, Up) _ rfl,
    blockLoop_frame Prod.snd nnzU
      (fun L nc off S => doolittleVecGroup L nc rows A (off nnzA) (off nnzL) (off nnzU) S)
      (fun L nc _ S => (doolittleVecGroup_keeps L nc rows nnzA nnzL nnzU hrows A _ _ _ S).2) L blocks (Lo, Up) _ rfl⟩

/-- in particular the slots of the padding blocks `blocks ≤ b < ⌈blocks/L⌉·L` keep their content -/
theorem C13_doolittle_padding_block (L blocks : Nat) (rows : List DRow) (nnzA nnzL nnzU : Nat)
    (hrows : ∀ r ∈ rows, r.InRange nnzA nnzL nnzU) (A Lo Up : Array α) (b : Nat) (hb : blocks ≤ b) :
    sparseRow L nnzL (doolittleFlat L blocks rows nnzA nnzL nnzU A (Lo, Up)).1 b = sparseRow L nnzL Lo b ∧
    sparseRow L nnzU (doolittleFlat L blocks rows nnzA nnzL nnzU A (Lo, Up)).2 b = sparseRow L nnzU Up b := by
  obtain ⟨⟨_, fL⟩, ⟨_, fU⟩⟩ := C13_doolittle_padding_untouched L blocks rows nnzA nnzL nnzU hrows A Lo Up
  exact ⟨sparseRow_padding fL b hb, sparseRow_padding fU b hb⟩

/-- **Block independence, LU**, as `C13_jacobian_cell_independence`: only the block's own `A`, `L`, `U` matter. -/
theorem C13_lu_cell_independence (rows : List DRow) (nnzA nnzL nnzU : Nat)
    (hrows : ∀ r ∈ rows, r.InRange nnzA nnzL nnzU)
    (L blocks : Nat) (A Lo Up : Array α) (L' blocks' : Nat) (A' Lo' Up' : Array α)
    (hLo : Lo.size = vectorSize L nnzL blocks) (hUp : Up.size = vectorSize L nnzU blocks)
    (hLo' : Lo'.size = vectorSize L' nnzL blocks') (hUp' : Up'.size = vectorSize L' nnzU blocks')
    (b b' : Nat) (hb : b < blocks) (hb' : b' < blocks')
    (hArow : sparseRow L nnzA A b = sparseRow L' nnzA A' b')
    (hLrow : sparseRow L nnzL Lo b = sparseRow L' nnzL Lo' b')
    (hUrow : sparseRow L nnzU Up b = sparseRow L' nnzU Up' b') :
    sparseRow L nnzL (doolittleFlat L blocks rows nnzA nnzL nnzU A (Lo, Up)).1 b
      = sparseRow L' nnzL (doolittleFlat L' blocks' rows nnzA nnzL nnzU A' (Lo', Up')).1 b' ∧
    sparseRow L nnzU (doolittleFlat L blocks rows nnzA nnzL nnzU A (Lo, Up)).2 b
      = sparseRow L' nnzU (doolittleFlat L' blocks' rows nnzA nnzL nnzU A' (Lo', Up')).2 b' := by
  have h1 := C13_doolittle_flat_eq_cell L blocks rows nnzA nnzL nnzU hrows A Lo Up hLo hUp b hb
  have h2 := C13_doolittle_flat_eq_cell L' blocks' rows nnzA nnzL nnzU hrows A' Lo' Up' hLo' hUp' b' hb'
  rw [hArow, hLrow, hUrow, ← h2] at h1
  exact ⟨congrArg Prod.fst h1, congrArg Prod.snd h1⟩

end LU

section Solve
variable {α : Type} [OfNat α 0] [Sub α] [Mul α] [Div α]

/-- **Lane theorem, solve.**  Both layouts, every cell count, every real cell: logical row `c` of the
    flat solve is `solveCell` on logical blocks `c` of `L`, `U` and logical row `c` of `x`. -/
theorem C13_solve_flat_eq_cell (L nCells n : Nat) (fw bw : List SubRow) (nnzL nnzU : Nat)
    (hfw : ∀ r ∈ fw, r.InRange nnzL n) (hbw : ∀ r ∈ bw, r.InRange nnzU n)
    (hfwl : fw.length ≤ n) (hbwl : bw.length ≤ n) (Lo Up x : Array α)
    (hx : x.size = (DenseShape.mk nCells n L).size) (c : Nat) (hc : c < nCells) :
    flatRow ⟨nCells, n, L⟩ (solveFlat L nCells n fw bw nnzL nnzU Lo Up x) c
      = solveCell fw bw (sparseRow L nnzL Lo c) (sparseRow L nnzU Up c) (flatRow ⟨nCells, n, L⟩ x c) := by
  have V0 := View.ofSparseRow (L := L) (nnz := n) (blocks := nCells) hx hc
  have hLo := reads_sparseRow L nnzL Lo c
  have hUp := reads_sparseRow L nnzU Up c
  simp only [flatRow_eq_sparseRow]
  apply View.sparseRow_eq
  unfold solveFlat
  simp only [slot_lane] at V0 hLo hUp ⊢
  exact blockLoop_rel _
    (fun L nc off x => solveVecGroup L n fw bw Lo Up (off n) (off nnzL) (off nnzU) x) _ L nCells c hc
    (fun nc _ _ X x h => solveVecGroup_view _ _ (laneIdx_lt L c) n nnzL nnzU fw bw hfw hbw hfwl hbwl Lo Up
      _ _ _ _ _ hLo hUp X x h)
    (fun nc off' _ hd X x h => (solveVecGroup_keeps _ n fw bw hfwl hbwl Lo Up _ _ _ X).view_other
      (Nat.le_refl _) (laneIdx_lt L c) hd h)
    V0

/-- the same with the source's shape `fw.length = bw.length = n` (`solverRows`) -/
theorem C13_solve_flat_eq_cell' (L nCells n : Nat) (fw bw : List SubRow) (nnzL nnzU : Nat)
    (hfw : ∀ r ∈ fw, r.InRange nnzL n) (hbw : ∀ r ∈ bw, r.InRange nnzU n)
    (hfwl : fw.length = n) (hbwl : bw.length = n) (Lo Up x : Array α)
    (hx : x.size = (DenseShape.mk nCells n L).size) (c : Nat) (hc : c < nCells) :
    flatRow ⟨nCells, n, L⟩ (solveFlat L nCells n fw bw nnzL nnzU Lo Up x) c
      = solveCell fw bw (sparseRow L nnzL Lo c) (sparseRow L nnzU Up c) (flatRow ⟨nCells, n, L⟩ x c) :=
  C13_solve_flat_eq_cell L nCells n fw bw nnzL nnzU hfw hbw (by omega) (by omega) Lo Up x hx c hc

/-- **Cell independence, solve**: only the cell's own `L`, `U` blocks and row of `x` matter. -/
theorem C13_solve_cell_independence (n : Nat) (fw bw : List SubRow) (nnzL nnzU : Nat)
    (hfw : ∀ r ∈ fw, r.InRange nnzL n) (hbw : ∀ r ∈ bw, r.InRange nnzU n)
    (hfwl : fw.length ≤ n) (hbwl : bw.length ≤ n)
    (L nCells : Nat) (Lo Up x : Array α) (L' nCells' : Nat) (Lo' Up' x' : Array α)
    (hx : x.size = (DenseShape.mk nCells n L).size) (hx' : x'.size = (DenseShape.mk nCells' n L').size)
    (c c' : Nat) (hc : c < nCells) (hc' : c' < nCells')
    (hLrow : sparseRow L nnzL Lo c = sparseRow L' nnzL Lo' c')
    (hUrow : sparseRow L nnzU Up c = sparseRow L' nnzU Up' c')
    (hxrow : flatRow ⟨nCells, n, L⟩ x c = flatRow ⟨nCells', n, L'⟩ x' c') :
    flatRow ⟨nCells, n, L⟩ (solveFlat L nCells n fw bw nnzL nnzU Lo Up x) c
      = flatRow ⟨nCells', n, L'⟩ (solveFlat L' nCells' n fw bw nnzL nnzU Lo' Up' x') c' := by
  rw [C13_solve_flat_eq_cell L nCells n fw bw nnzL nnzU hfw hbw hfwl hbwl Lo Up x hx c hc,
    C13_solve_flat_eq_cell L' nCells' n fw bw nnzL nnzU hfw hbw hfwl hbwl Lo' Up' x' hx' c' hc',
    hLrow, hUrow, hxrow]

/-- the solve keeps the storage size (padding lanes are written, from padding inputs) -/
theorem C13_solve_size (L nCells n : Nat) (fw bw : List SubRow) (hfwl : fw.length ≤ n) (hbwl : bw.length ≤ n)
    (nnzL nnzU : Nat) (Lo Up x : Array α) :
    (solveFlat L nCells n fw bw nnzL nnzU Lo Up x).size = x.size :=
  blockLoop_size (fun x => x) (fun L _ off x => solveVecGroup L n fw bw Lo Up (off n) (off nnzL) (off nnzU) x)
    (fun L _ _ x => (solveVecGroup_keeps L n fw bw hfwl hbwl Lo Up _ _ _ x).1) L nCells x

end Solve

/-! Instances with `L = 3` and 4 cells / blocks: one full group and a partial group with two padding lanes. -/
namespace C13bEx

def exFlat : List Nat := [0, 2,  1, 0, 3,  2, 3, 0, 1]

/-- 3 species, 2 reactions, 4 elements per block; three `ProcessInfo` entries (0, 1 and 1 dependents;
    1, 1 and 2 products) -/
def exTJ : PSTables Float :=
  { jInfo := [⟨0, 0, 0, 1⟩, ⟨1, 0, 1, 1⟩, ⟨1, 1, 1, 2⟩], jReactIds := [1, 0], jYields := [0.5, 1.0, 1.0, 3.0] }

example : vectorSize 3 4 4 = 24 := by decide

example (K Y J : Array Float) (hJ : J.size = 24) (c : Nat) (hc : c < 4) :
    sparseRow 3 4 (exTJ.subtractJacobianFlat exFlat 3 4 2 3 4 K Y J) c
      = exTJ.subtractJacobianCell exFlat (flatRow ⟨4, 2, 3⟩ K c) (flatRow ⟨4, 3, 3⟩ Y c) (sparseRow 3 4 J c) :=
  C13_jacobian_flat_eq_cell exTJ exFlat 3 4 2 3 4 K Y J (by rw [hJ]; decide) (by decide) (by decide)
    (by decide) c hc

/-- cell 3 (partial group) of a vector run against cell 0 of a standard-layout run with 2 cells -/
example (K Y J K' Y' J' : Array Float) (hJ : J.size = 24) (hJ' : J'.size = 8)
    (hK : flatRow ⟨4, 2, 3⟩ K 3 = flatRow ⟨2, 2, 0⟩ K' 0)
    (hY : flatRow ⟨4, 3, 3⟩ Y 3 = flatRow ⟨2, 3, 0⟩ Y' 0)
    (hJr : sparseRow 3 4 J 3 = sparseRow 0 4 J' 0) :
    sparseRow 3 4 (exTJ.subtractJacobianFlat exFlat 3 4 2 3 4 K Y J) 3
      = sparseRow 0 4 (exTJ.subtractJacobianFlat exFlat 0 2 2 3 4 K' Y' J') 0 :=
  C13_jacobian_cell_independence exTJ exFlat 2 3 4 3 4 K Y J 0 2 K' Y' J' (by rw [hJ]; decide)
    (by rw [hJ']; decide) (by decide) (by decide) (by decide) 3 0 (by decide) (by decide) hK hY hJr

def exTJI : PSTables Int :=
  { jInfo := [⟨0, 0, 0, 1⟩, ⟨1, 0, 1, 1⟩, ⟨1, 1, 1, 2⟩], jReactIds := [1, 0], jYields := [2, 1, 1, 3] }
/-- rate constants (2 groups x 2 reactions x 3 lanes): cell `c` has `k = (c + 1, 2)`, padding `7` -/
def exK : Array Int := #[1, 2, 3, 2, 2, 2,   4, 7, 7, 2, 7, 7]
/-- state (2 x 3 x 3): cell `c` has `y = (c + 1, 2, 1)`, padding `9` -/
def exY : Array Int := #[1, 2, 3, 2, 2, 2, 1, 1, 1,   4, 9, 9, 2, 9, 9, 1, 9, 9]
def exJ : Array Int := Array.replicate 24 0

theorem exJacobian_eq : exTJI.subtractJacobianFlat exFlat 3 4 2 3 4 exK exY exJ
    = #[3, 2, 1, -2, -8, -14, 0, 0, 0, -2, 0, 2,   0, 7, 7, -20, -126, -126, 0, 49, 49, 4, 0, 0] := by
  decide +kernel

/-- the padding lanes (slots 13, 14, 16, 17, 19, 20, …) are written, from the padding inputs -/
example : exTJI.subtractJacobianFlat exFlat 3 4 2 3 4 exK exY exJ
    = #[3, 2, 1, -2, -8, -14, 0, 0, 0, -2, 0, 2,   0, 7, 7, -20, -126, -126, 0, 49, 49, 4, 0, 0] :=
  exJacobian_eq

/-- the real cell of the partial group: both sides of the lane theorem -/
example : sparseRow 3 4 (exTJI.subtractJacobianFlat exFlat 3 4 2 3 4 exK exY exJ) 3 = #[0, -20, 0, 4] := by
  rw [exJacobian_eq]; decide
example : exTJI.subtractJacobianCell exFlat (flatRow ⟨4, 2, 3⟩ exK 3) (flatRow ⟨4, 3, 3⟩ exY 3)
    (sparseRow 3 4 exJ 3) = #[0, -20, 0, 4] := by
  decide +kernel

def exLA : LinAlg := LinAlg.build .doolittle (Pattern.mk' 3 false 3 [(0, 0), (0, 1), (1, 0), (1, 1), (2, 1), (2, 2)])

example : (exLA.A.nnz, exLA.Lp.nnz, exLA.Up.nnz) = (6, 5, 4) := by decide +kernel
theorem exRows_inRange : ∀ r ∈ exLA.dRows, r.InRange 6 5 4 := by decide +kernel
theorem exFw_inRange : ∀ r ∈ exLA.fw, r.InRange 5 3 := by decide +kernel
theorem exBw_inRange : ∀ r ∈ exLA.bw, r.InRange 4 3 := by decide +kernel
theorem exLA_lengths : exLA.fw.length = 3 ∧ exLA.bw.length = 3 := by decide +kernel
example : exLA.fw.length = 3 ∧ exLA.bw.length = 3 := exLA_lengths

example : vectorSize 3 6 4 = 36 ∧ vectorSize 3 5 4 = 30 ∧ vectorSize 3 4 4 = 24 := by decide

example (A Lo Up : Array Float) (hLo : Lo.size = 30) (hUp : Up.size = 24) (b : Nat) (hb : b < 4) :
    (sparseRow 3 5 (doolittleFlat 3 4 exLA.dRows 6 5 4 A (Lo, Up)).1 b,
     sparseRow 3 4 (doolittleFlat 3 4 exLA.dRows 6 5 4 A (Lo, Up)).2 b)
      = doolittleCell exLA.dRows (sparseRow 3 6 A b) (sparseRow 3 5 Lo b, sparseRow 3 4 Up b) :=
  C13_doolittle_flat_eq_cell 3 4 exLA.dRows 6 5 4 exRows_inRange A Lo Up (by rw [hLo]; decide)
    (by rw [hUp]; decide) b hb

example (Lo Up x : Array Float) (hx : x.size = 18) (c : Nat) (hc : c < 4) :
    flatRow ⟨4, 3, 3⟩ (solveFlat 3 4 3 exLA.fw exLA.bw 5 4 Lo Up x) c
      = solveCell exLA.fw exLA.bw (sparseRow 3 5 Lo c) (sparseRow 3 4 Up c) (flatRow ⟨4, 3, 3⟩ x c) :=
  C13_solve_flat_eq_cell 3 4 3 exLA.fw exLA.bw 5 4 exFw_inRange exBw_inRange (Nat.le_of_eq exLA_lengths.1)
    (Nat.le_of_eq exLA_lengths.2) Lo Up x (by rw [hx]; decide) c hc

/-- block `b` of `A` is `[[2, 1, 0], [b + 1, 3, 0], [0, 1, 4]]`; padding `7` -/
def exA : Array Rat :=
  #[2, 2, 2, 1, 1, 1, 1, 2, 3, 3, 3, 3, 1, 1, 1, 4, 4, 4,   2, 7, 7, 1, 7, 7, 4, 7, 7, 3, 7, 7, 1, 7, 7, 4, 7, 7]
def exLo : Array Rat := Array.replicate 30 5
def exUp : Array Rat := Array.replicate 24 6
def exLo' : Array Rat :=
  #[1, 1, 1, 1/2, 1, 3/2, 1, 1, 1, 2/5, 1/2, 2/3, 1, 1, 1,   1, 5, 5, 2, 5, 5, 1, 5, 5, 1, 5, 5, 1, 5, 5]
def exUp' : Array Rat :=
  #[2, 2, 2, 1, 1, 1, 5/2, 2, 3/2, 4, 4, 4,   2, 6, 6, 1, 6, 6, 1, 6, 6, 4, 6, 6]

/-- the padding lanes (lanes 1, 2 of group 1) keep their old content `5` / `6` -/
example : doolittleFlat 3 4 exLA.dRows 6 5 4 exA (exLo, exUp) = (exLo', exUp') := by decide +kernel

example : doolittleCell exLA.dRows (sparseRow 3 6 exA 3) (sparseRow 3 5 exLo 3, sparseRow 3 4 exUp 3)
    = (#[1, 2, 1, 1, 1], #[2, 1, 1, 4]) := by decide +kernel
example : (sparseRow 3 5 exLo' 3, sparseRow 3 4 exUp' 3) = ((#[1, 2, 1, 1, 1], #[2, 1, 1, 4]) : Array Rat × Array Rat) := by
  decide +kernel

/-- right-hand sides (2 x 3 x 3): cell `c` has `x = (c + 1, 2, 3)`, padding `1` -/
def exX : Array Rat := #[1, 2, 3, 2, 2, 2, 3, 3, 3,   4, 1, 1, 2, 1, 1, 3, 1, 1]

/-- padding lanes are written (`1/30`, `0`) from the padding inputs -/
example : solveFlat 3 4 3 exLA.fw exLA.bw 5 4 exLo' exUp' exX
    = #[1/5, 1, 7/3, 3/5, 0, -5/3, 3/5, 3/4, 7/6,   5, 1/30, 1/30, -6, 0, 0, 9/4, 1/30, 1/30] := by
  decide +kernel
example : flatRow ⟨4, 3, 3⟩ (solveFlat 3 4 3 exLA.fw exLA.bw 5 4 exLo' exUp' exX) 3 = #[5, -6, 9/4] := by
  decide +kernel
example : solveCell exLA.fw exLA.bw (sparseRow 3 5 exLo' 3) (sparseRow 3 4 exUp' 3) (flatRow ⟨4, 3, 3⟩ exX 3)
    = #[5, -6, 9/4] := by
  decide +kernel

end C13bEx

end Micm

#print axioms Micm.C13_slot_lt
#print axioms Micm.C13_kernel_slot
#print axioms Micm.C13_sparse_bounds
#print axioms Micm.C13_jacobian_flat_eq_cell
#print axioms Micm.C13_jacobian_flat_slot
#print axioms Micm.C13_jacobian_cell_independence
#print axioms Micm.C13_jacobian_size
#print axioms Micm.C13_doolittle_flat_eq_cell
#print axioms Micm.C13_doolittle_padding_untouched
#print axioms Micm.C13_doolittle_padding_block
#print axioms Micm.C13_lu_cell_independence
#print axioms Micm.C13_solve_flat_eq_cell
#print axioms Micm.C13_solve_flat_eq_cell'
#print axioms Micm.C13_solve_cell_independence
#print axioms Micm.C13_solve_size
