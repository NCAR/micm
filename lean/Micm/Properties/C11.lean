/-
  C11 — a State can be reused indefinitely: the contents of the scratch storage never matter.

  All statements are about the model definitions `rosStep`, `rosLoop`, `rosSolve`, `beStep`,
  `beSolve` themselves, for an ARBITRARY carrier `α` (dataflow only, no arithmetic law): they hold
  for `Float`.

  `Scratch` = `jacobian_`, `lower_matrix_`, `upper_matrix_`, `Ynew`/`Yn`, `initial_forcing`/`forcing`,
  `K[0..stages)`, `Yerror`.  `ScratchShapeEq sc sc'` : same outer sizes and same row sizes for each of
  them (and for each `K[i]`).  Two runs are compared by writing the second state as
  `{ r with sc := sc' }`; "equal in everything except the scratch" is then literally an equation.

  LU hypothesis.  The in-place variants never touch `lower_matrix_`/`upper_matrix_`; for them nothing
  is assumed (`…_inplace`).  For the separate-`L`/`U` variants the kernels must write every `L`/`U`
  slot before reading it.  This is the explicit hypothesis
      `LUOverwritesFor s sc.lower sc.upper`
  ("for every cell, `doolittleCell`/`mozartCell` on arrays of these sizes gives a result independent of
  their prior contents"; as *array* equality, any carrier).  `LUInv s sc` packages it as
  "`inPlace = false → LUOverwritesFor …`" so that one theorem covers all four variants.
  The hypothesis is discharged for any CONCRETE configuration and ANY carrier by the decidable
  dataflow check `luCheck` (`C11_LUOverwrites_of_check`, Lemmas/ScratchLU.lean): see the examples at the
  end.  (`C03_prior_contents` proves the corresponding fact for every pattern triple satisfying `LUSetup`,
  but over a field and for the logical views.)

  `C11_history*`: for a list of solves on one State, each solve's result equals the result of the
  same call on a fresh zero-filled scratch *of the shape the scratch has at that point*
  (`zeroScratch`).  That the shape itself never changes is not proved here (it needs well-shapedness
  of the inputs; not needed for any statement below).
-/
import Micm.Lemmas.Scratch
import Micm.Lemmas.ScratchLU
namespace Micm
set_option linter.unusedSectionVars false

section Ros
variable {α : Type} [OfNat α 0] [OfNat α 1] [Add α] [Sub α] [Mul α] [Div α]
variable (o : Ops α) (cs : Consts α) (s : SolverCfg α) (p : RosParams α) (kc : Mat α)
    (atol : Array α) (rtol : α) (timeStep hm : α)

/-- **One iteration of the Rosenbrock loop** in relational form and at ANY point of the loop: inside a
    step the two scratches must also agree on the objects computed by the step prologue (initial
    forcing, Jacobian) — the form that iterates (`ScratchSim_loop`) -/
theorem C11_rosStep_scratch_indep_rel (r : RState α) (sc' : Scratch α)
    (h : ScratchRel r.inStep r.sc sc') (hlu : LUInv s r.sc) :
    ∃ sc'', rosStep o cs s p kc atol rtol timeStep hm { r with sc := sc' } =
        { rosStep o cs s p kc atol rtol timeStep hm r with sc := sc'' } ∧
      ScratchRel (rosStep o cs s p kc atol rtol timeStep hm r).inStep
        (rosStep o cs s p kc atol rtol timeStep hm r).sc sc'' ∧
      LUInv s (rosStep o cs s p kc atol rtol timeStep hm r).sc :=
  ⟨_, ScratchSim_step o cs s p kc atol rtol timeStep hm r { r with sc := sc' } ⟨rfl, h, hlu⟩⟩

/-- **One iteration of the Rosenbrock loop, all LU variants.**  Two states `r`, `r'` that agree in
    everything but the scratch, at a step start, with shape-equal scratch (and `r.sc` fit for the
    solver, `LUInv`): `rosStep` yields states equal in `Y, ctl, stats, status, inStep, lastAlpha` and
    in the ghost trace; the scratches are again shape-equal, inside a step they even agree on the
    initial forcing and the Jacobian, and `LUInv` is preserved. -/
theorem C11_rosStep_scratch_indep (r r' : RState α)
    (hY : r'.Y = r.Y) (hctl : r'.ctl = r.ctl) (hstats : r'.stats = r.stats) (hstatus : r'.status = r.status)
    (hin : r'.inStep = r.inStep) (hla : r'.lastAlpha = r.lastAlpha) (htr : r'.trace = r.trace)
    (hstart : r.inStep = false) (hsh : ScratchShapeEq r.sc r'.sc) (hlu : LUInv s r.sc) :
    (rosStep o cs s p kc atol rtol timeStep hm r').Y = (rosStep o cs s p kc atol rtol timeStep hm r).Y ∧
    (rosStep o cs s p kc atol rtol timeStep hm r').ctl = (rosStep o cs s p kc atol rtol timeStep hm r).ctl ∧
    (rosStep o cs s p kc atol rtol timeStep hm r').stats = (rosStep o cs s p kc atol rtol timeStep hm r).stats ∧
    (rosStep o cs s p kc atol rtol timeStep hm r').status = (rosStep o cs s p kc atol rtol timeStep hm r).status ∧
    (rosStep o cs s p kc atol rtol timeStep hm r').inStep = (rosStep o cs s p kc atol rtol timeStep hm r).inStep ∧
    (rosStep o cs s p kc atol rtol timeStep hm r').lastAlpha =
      (rosStep o cs s p kc atol rtol timeStep hm r).lastAlpha ∧
    (rosStep o cs s p kc atol rtol timeStep hm r').trace = (rosStep o cs s p kc atol rtol timeStep hm r).trace ∧
    ScratchShapeEq (rosStep o cs s p kc atol rtol timeStep hm r).sc
      (rosStep o cs s p kc atol rtol timeStep hm r').sc ∧
    ((rosStep o cs s p kc atol rtol timeStep hm r).inStep = true →
      (rosStep o cs s p kc atol rtol timeStep hm r).sc.f0 = (rosStep o cs s p kc atol rtol timeStep hm r').sc.f0 ∧
      (rosStep o cs s p kc atol rtol timeStep hm r).sc.jac = (rosStep o cs s p kc atol rtol timeStep hm r').sc.jac) ∧
    LUInv s (rosStep o cs s p kc atol rtol timeStep hm r).sc := by
  have e := RState.eq_with_sc hY hctl hstats hstatus hin hla htr
  obtain ⟨sc2, e2, hrel, hlu2⟩ := C11_rosStep_scratch_indep_rel o cs s p kc atol rtol timeStep hm r r'.sc
    ⟨hsh, fun hc => by rw [hstart] at hc; cases hc⟩ hlu
  rw [e, e2]
  exact ⟨rfl, rfl, rfl, rfl, rfl, rfl, rfl, hrel.1, hrel.2, hlu2⟩

/-- **In-place variants** (`DoolittleInPlace`, `MozartInPlace`): no LU hypothesis at all. -/
theorem C11_rosStep_scratch_indep_inplace (hk : s.la.kind.inPlace = true) (r : RState α) (sc' : Scratch α)
    (hstart : r.inStep = false) (hsh : ScratchShapeEq r.sc sc') :
    ∃ sc'', rosStep o cs s p kc atol rtol timeStep hm { r with sc := sc' } =
        { rosStep o cs s p kc atol rtol timeStep hm r with sc := sc'' } ∧
      ScratchShapeEq (rosStep o cs s p kc atol rtol timeStep hm r).sc sc'' := by
  obtain ⟨sc2, e2, hrel, _⟩ := C11_rosStep_scratch_indep_rel o cs s p kc atol rtol timeStep hm r sc'
    ⟨hsh, fun hc => by rw [hstart] at hc; cases hc⟩ (LUInv_inplace s hk r.sc)
  exact ⟨sc2, e2, hrel.1⟩

/-- **Separate-`L`/`U` variants** (`Doolittle`, `Mozart`) from the explicit LU dataflow hypothesis
    `LUOverwritesFor`: on arrays of the sizes of the cells of `lower_matrix_`/`upper_matrix_`, the LU
    kernel's result is independent of their prior contents. -/
theorem C11_rosStep_scratch_indep_separate (r : RState α) (sc' : Scratch α)
    (hstart : r.inStep = false) (hsh : ScratchShapeEq r.sc sc')
    (hlu : LUOverwritesFor s r.sc.lower r.sc.upper) :
    ∃ sc'', rosStep o cs s p kc atol rtol timeStep hm { r with sc := sc' } =
        { rosStep o cs s p kc atol rtol timeStep hm r with sc := sc'' } ∧
      ScratchShapeEq (rosStep o cs s p kc atol rtol timeStep hm r).sc sc'' ∧
      LUOverwritesFor s (rosStep o cs s p kc atol rtol timeStep hm r).sc.lower
        (rosStep o cs s p kc atol rtol timeStep hm r).sc.upper := by
  obtain ⟨sc2, e2, hrel, hlu2⟩ := C11_rosStep_scratch_indep_rel o cs s p kc atol rtol timeStep hm r sc'
    ⟨hsh, fun hc => by rw [hstart] at hc; cases hc⟩ (fun _ => hlu)
  refine ⟨sc2, e2, hrel.1, ?_⟩
  cases hk : s.la.kind.inPlace
  · exact hlu2 hk
  · -- for an in-place solver `rosStep` leaves `lower`/`upper` untouched
    rw [(rosStep_lu_inplace o cs s p kc atol rtol timeStep hm hk r).1,
      (rosStep_lu_inplace o cs s p kc atol rtol timeStep hm hk r).2]
    exact hlu

/-- **The whole solve.**  Same inputs, shape-equal initial scratch ⇒ same
    `status, finalTime, stats, Y, trace`; the returned scratches are again shape-equal and the
    returned scratch is again fit for the solver (so the statement can be iterated). -/
theorem C11_rosSolve_scratch_indep (Y : Mat α) (sc sc' : Scratch α) (fuel : Nat)
    (hsh : ScratchShapeEq sc sc') (hlu : LUInv s sc) :
    (rosSolve o cs s p kc atol rtol timeStep Y sc' fuel).status =
      (rosSolve o cs s p kc atol rtol timeStep Y sc fuel).status ∧
    (rosSolve o cs s p kc atol rtol timeStep Y sc' fuel).finalTime =
      (rosSolve o cs s p kc atol rtol timeStep Y sc fuel).finalTime ∧
    (rosSolve o cs s p kc atol rtol timeStep Y sc' fuel).stats =
      (rosSolve o cs s p kc atol rtol timeStep Y sc fuel).stats ∧
    (rosSolve o cs s p kc atol rtol timeStep Y sc' fuel).Y =
      (rosSolve o cs s p kc atol rtol timeStep Y sc fuel).Y ∧
    (rosSolve o cs s p kc atol rtol timeStep Y sc' fuel).trace =
      (rosSolve o cs s p kc atol rtol timeStep Y sc fuel).trace ∧
    ScratchShapeEq (rosSolve o cs s p kc atol rtol timeStep Y sc fuel).sc
      (rosSolve o cs s p kc atol rtol timeStep Y sc' fuel).sc ∧
    LUInv s (rosSolve o cs s p kc atol rtol timeStep Y sc fuel).sc := by
  obtain ⟨e, hrel, hlu2⟩ := ScratchSim_loop o cs s p kc atol rtol timeStep (hmaxEff o p timeStep) fuel
    (rosInit (initialH o cs p timeStep) Y sc) (rosInit (initialH o cs p timeStep) Y sc')
    ⟨rfl, ⟨hsh, fun hc => nomatch hc⟩, hlu⟩
  rw [rosSolve_eq, rosSolve_eq, e]
  exact ⟨rfl, rfl, rfl, rfl, rfl, hrel.1, hlu2⟩

/-- in-place variants: no LU hypothesis -/
theorem C11_rosSolve_scratch_indep_inplace (hk : s.la.kind.inPlace = true) (Y : Mat α)
    (sc sc' : Scratch α) (fuel : Nat) (hsh : ScratchShapeEq sc sc') :
    (rosSolve o cs s p kc atol rtol timeStep Y sc' fuel).core =
      (rosSolve o cs s p kc atol rtol timeStep Y sc fuel).core ∧
    ScratchShapeEq (rosSolve o cs s p kc atol rtol timeStep Y sc fuel).sc
      (rosSolve o cs s p kc atol rtol timeStep Y sc' fuel).sc := by
  obtain ⟨h1, h2, h3, h4, h5, h6, _⟩ :=
    C11_rosSolve_scratch_indep o cs s p kc atol rtol timeStep Y sc sc' fuel hsh (LUInv_inplace s hk sc)
  exact ⟨by simp only [SolveResult.core, h1, h2, h3, h4, h5], h6⟩

/-- **Histories.**  Any list of Rosenbrock solves on one State (the scratch left by each solve —
    whatever its outcome: converged, rejected steps, NaN, max steps, out of fuel — feeds the next):
    the `k`-th result equals the result of the same call on a fresh zero-filled scratch of the
    same shape.  `rosHistory` pairs each result with the scratch the solve started from. -/
theorem C11_history (sc0 : Scratch α) (hlu : LUInv s sc0) (ins : List (SolveIn α)) :
    ∀ e ∈ (rosHistory o cs s sc0 ins).zip ins,
      ScratchShapeEq e.1.1 (zeroScratch e.1.1) ∧
      e.1.2.core =
        (rosSolve o cs s e.2.p e.2.kc e.2.atol e.2.rtol e.2.timeStep e.2.Y (zeroScratch e.1.1) e.2.fuel).core := by
  induction ins generalizing sc0 with
  | nil => intro e he; simp [rosHistory] at he
  | cons i is ih =>
    intro e he
    simp only [rosHistory, List.zip_cons_cons, List.mem_cons] at he
    obtain ⟨h1, h2, h3, h4, h5, _, hlu'⟩ :=
      C11_rosSolve_scratch_indep o cs s i.p i.kc i.atol i.rtol i.timeStep i.Y sc0 (zeroScratch sc0) i.fuel
        (zeroScratch_shape sc0) hlu
    rcases he with rfl | he
    · refine ⟨zeroScratch_shape sc0, ?_⟩
      simp only [SolveResult.core, h1, h2, h3, h4, h5]
    · exact ih _ hlu' e he

end Ros

section BE
variable {α : Type} [OfNat α 0] [OfNat α 1] [OfNat α 2] [Add α] [Sub α] [Mul α] [Div α]
variable (o : Ops α) (s : SolverCfg α) (p : BEParams α) (kc : Mat α) (atol : Array α) (rtol : α)
    (timeStep : α)

/-- one Newton iteration of backward Euler: every scratch object it reads (`forcing`, `jacobian`)
    is `Fill(0)`-ed first, so shape-equal scratch suffices at every iteration -/
theorem C11_beStep_scratch_indep (r : BEState α) (sc' : Scratch α) (hsh : ScratchShapeEq r.sc sc')
    (hlu : LUInv s r.sc) :
    ∃ sc'', beStep o s p kc atol rtol timeStep { r with sc := sc' } =
        { beStep o s p kc atol rtol timeStep r with sc := sc'' } ∧
      ScratchShapeEq (beStep o s p kc atol rtol timeStep r).sc sc'' ∧
      LUInv s (beStep o s p kc atol rtol timeStep r).sc :=
  ⟨_, BEScratchSim_step o s p kc atol rtol timeStep r { r with sc := sc' } ⟨rfl, hsh, hlu⟩⟩

theorem C11_beSolve_scratch_indep (Y : Mat α) (sc sc' : Scratch α) (fuel : Nat)
    (hsh : ScratchShapeEq sc sc') (hlu : LUInv s sc) :
    (beSolve o s p kc atol rtol timeStep Y sc' fuel).core = (beSolve o s p kc atol rtol timeStep Y sc fuel).core ∧
    ScratchShapeEq (beSolve o s p kc atol rtol timeStep Y sc fuel).sc
      (beSolve o s p kc atol rtol timeStep Y sc' fuel).sc ∧
    LUInv s (beSolve o s p kc atol rtol timeStep Y sc fuel).sc := by
  obtain ⟨e, hrel, hlu2⟩ := BEScratchSim_loop o s p kc atol rtol timeStep fuel
    { Yn1 := Y, Yn := Y, t := 0,
      h := if o.eq p.hstart 0 = true then timeStep else cmin o p.hstart timeStep,
      nSucc := 0, nFail := 0, iterations := 0, stats := {}, status := .notYetCalled, done := false,
      sc := sc, trace := [] }
    { Yn1 := Y, Yn := Y, t := 0,
      h := if o.eq p.hstart 0 = true then timeStep else cmin o p.hstart timeStep,
      nSucc := 0, nFail := 0, iterations := 0, stats := {}, status := .notYetCalled, done := false,
      sc := sc', trace := [] } ⟨rfl, hsh, hlu⟩
  unfold beSolve SolveResult.core
  simp only [] at e ⊢
  rw [e]
  exact ⟨rfl, ⟨hrel.jac, hrel.lower, hrel.upper, rfl, hrel.f0, hrel.k, hrel.yerr⟩, hlu2⟩

theorem C11_history_be (sc0 : Scratch α) (hlu : LUInv s sc0) (ins : List (BESolveIn α)) :
    ∀ e ∈ (beHistory o s sc0 ins).zip ins,
      ScratchShapeEq e.1.1 (zeroScratch e.1.1) ∧
      e.1.2.core =
        (beSolve o s e.2.p e.2.kc e.2.atol e.2.rtol e.2.timeStep e.2.Y (zeroScratch e.1.1) e.2.fuel).core := by
  induction ins generalizing sc0 with
  | nil => intro e he; simp [beHistory] at he
  | cons i is ih =>
    intro e he
    simp only [beHistory, List.zip_cons_cons, List.mem_cons] at he
    obtain ⟨h1, _, hlu'⟩ :=
      C11_beSolve_scratch_indep o s i.p i.kc i.atol i.rtol i.timeStep i.Y sc0 (zeroScratch sc0) i.fuel
        (zeroScratch_shape sc0) hlu
    rcases he with rfl | he
    · exact ⟨zeroScratch_shape sc0, h1.symm⟩
    · exact ih _ hlu' e he

end BE

section Check
variable {α : Type} [OfNat α 0] [OfNat α 1] [Add α] [Sub α] [Mul α] [Div α]

/-- the decidable dataflow check implies the LU hypothesis, for any carrier -/
theorem C11_LUOverwrites_of_check (s : SolverCfg α) (nL nU : Nat) (h : luCheck s.la nL nU = true) :
    LUOverwrites s nL nU := luCheck_sound s nL nU h

/-- for the in-place variants every scratch is fit for the solver -/
theorem C11_LUInv_inplace (s : SolverCfg α) (hk : s.la.kind.inPlace = true) (sc : Scratch α) : LUInv s sc :=
  LUInv_inplace s hk sc

/-- for the separate variants: the check, plus all `L`/`U` cells of the checked sizes -/
theorem C11_LUInv_of_check (s : SolverCfg α) (sc : Scratch α) (nL nU : Nat)
    (h : luCheck s.la nL nU = true) (hsz : sc.lower.size = sc.upper.size)
    (hL : ∀ c, c < sc.lower.size → (sc.lower.getD c #[]).size = nL)
    (hU : ∀ c, c < sc.upper.size → (sc.upper.getD c #[]).size = nU) : LUInv s sc :=
  LUInv_of_check s sc nL nU h hsz hL hU

end Check

/-- 3×3 Jacobian pattern without (0,2),(1,2),(2,1); fill-in at `L(2,1)` (the pattern of C03's example) -/
def c11A : Pattern := Pattern.mk' 3 false 0 [(0,0),(0,1),(1,0),(1,1),(2,0),(2,2)]

def c11cfg (kind : LUKind) : SolverCfg Float :=
  { nSpecies := 3, L := 0, tables := {}, flatIds := [], la := LinAlg.build kind c11A, diag := [0, 3, 5] }

example : (LinAlg.build .doolittle c11A).Lp.nnz = 6 ∧ (LinAlg.build .doolittle c11A).Up.nnz = 4 := by
  decide +kernel

example : LUOverwrites (c11cfg .doolittle) 6 4 :=
  C11_LUOverwrites_of_check _ 6 4 (by decide +kernel)
example : LUOverwrites (c11cfg .mozart) 6 4 :=
  C11_LUOverwrites_of_check _ 6 4 (by decide +kernel)

/-- the check is not vacuous: it rejects arrays with a slot no table entry writes -/
example : luCheck (c11cfg .doolittle).la 7 4 = false := by decide +kernel

def c11sc (x : Float) : Scratch Float :=
  { jac := #[Array.replicate 6 x, Array.replicate 6 x], lower := #[Array.replicate 6 x, Array.replicate 6 x],
    upper := #[Array.replicate 4 x, Array.replicate 4 x], ynew := #[Array.replicate 3 x, Array.replicate 3 x],
    f0 := #[Array.replicate 3 x, Array.replicate 3 x],
    k := #[#[Array.replicate 3 x, Array.replicate 3 x], #[Array.replicate 3 x, Array.replicate 3 x]],
    yerr := #[Array.replicate 3 x, Array.replicate 3 x] }

example (x : Float) : LUInv (c11cfg .doolittle) (c11sc x) := by
  refine C11_LUInv_of_check _ _ 6 4 (by decide +kernel) rfl ?_ ?_
  · intro c hc
    match c, hc with
    | 0, _ => rfl
    | 1, _ => rfl
  · intro c hc
    match c, hc with
    | 0, _ => rfl
    | 1, _ => rfl

example (x y : Float) : ScratchShapeEq (c11sc x) (c11sc y) := by
  constructor <;> simp [c11sc, shape, kshape]

example (sc : Scratch Float) : ScratchShapeEq sc (zeroScratch sc) := zeroScratch_shape sc

#print axioms C11_rosStep_scratch_indep
#print axioms C11_rosStep_scratch_indep_rel
#print axioms C11_rosStep_scratch_indep_inplace
#print axioms C11_rosStep_scratch_indep_separate
#print axioms C11_rosSolve_scratch_indep
#print axioms C11_rosSolve_scratch_indep_inplace
#print axioms C11_history
#print axioms C11_beStep_scratch_indep
#print axioms C11_beSolve_scratch_indep
#print axioms C11_history_be
#print axioms C11_LUOverwrites_of_check
#print axioms C11_LUInv_inplace
#print axioms C11_LUInv_of_check

end Micm
