/-
C06 (termination) — `Solve` terminates: the Rosenbrock retry loop and the whole flattened loop.

The source's inner `while (!accepted)` has no bound of its own, and the model's loop takes fuel.  Over an
ordered field (`OrderedOps o`), with legal controller parameters, `safety < 1`, the explicit hypothesis on
the uninterpreted `pow` (`1 ≤ x → 1 ≤ pow x (1/order)`, as in `C07_reject_shrinks`) and a **positive
minimum step `h_min`**:

* every rejection leaves `H' ≤ q·H` with `q = max (max factor_min safety_factor) rejection_factor_decrease < 1`;
* an attempt with `H < h_min` is accepted whatever its error, so a step that starts with `H ≤ T` sees at
  most `N` rejections for any `N` with `T·q^N < h_min`;
* a new step is only started while `number_of_steps ≤ max_number_of_steps`;

hence every `rosSolve` makes at most `max_number_of_steps + N + 1` attempts, and with more fuel than that
the model never reports `outOfFuel`: the status is one the implementation returns.  On an Archimedean
field such an `N` always exists.

What is NOT proved (and is false in this model without further assumptions): termination with the default
`h_min = 0`.  There the loop stops only because the error estimate of a genuine Rosenbrock step tends to 0
with `H` (analysis, not modelled) or, in binary64, because `H` underflows.  `C06_ros_hmin_zero_may_not_terminate`
exhibits the obstruction inside the model (an error norm that never drops below 1 is consistent with
`OrderedOps`, whose `sqrt` is uninterpreted).
-/
import Mathlib.Algebra.Order.Archimedean.Basic
import Micm.Lemmas.Termination
import Micm.Properties.C06b

namespace Micm
set_option linter.unusedSectionVars false

section Termination
variable {K : Type} [Field K] [LinearOrder K] [IsStrictOrderedRing K]
variable {o : Ops K} (cs : Consts K) (s : SolverCfg K) (p : RosParams K) (kc : Mat K)
    (atol : Array K) (rtol : K) (T hm : K)

/-- the rejection factor `q` lies in `(0, 1)` -/
theorem C06_rejFactor_bounds (lp : LegalParams p) (hs1 : p.safety < 1) :
    0 < rejFactor p ∧ rejFactor p < 1 :=
  ⟨rejFactor_pos p lp, rejFactor_lt_one p lp hs1⟩

/-- **every rejection shrinks `H` by at least the factor `q`** -/
theorem C06_reject_factor (ho : OrderedOps o) (lp : LegalParams p)
    (hpow : ∀ x, 1 ≤ x → 1 ≤ o.pow x (1 / p.order)) (c : Ctl K) (e : K)
    (hd : (ctlDecide o p hm c e).1 = .reject) (hh : 0 ≤ c.h) :
    (ctlDecide o p hm c e).2.h ≤ c.h * rejFactor p := by
  obtain ⟨f, _, f1, e'⟩ := ho.reject_factor p hm lp hpow c e hd
  rw [e']
  exact mul_le_mul_of_nonneg_left f1 hh

/-- **bound on the attempts of a solve** (any fuel): for `0 ≤ T` and any `N` with `T·q^N < h_min`, the
    result of `rosSolve` has `number_of_steps ≤ max_number_of_steps + N + 1` -/
theorem C06_ros_attempt_bound (ho : OrderedOps o) (lp : LegalParams p) (hs1 : p.safety < 1)
    (hpow : ∀ x, 1 ≤ x → 1 ≤ o.pow x (1 / p.order)) (hro : 0 ≤ p.roundOff) (hT : 0 ≤ T) (N : Nat)
    (hN : T * rejFactor p ^ N < p.hmin) (Y : Mat K) (sc : Scratch K) (fuel : Nat) :
    (rosSolve o cs s p kc atol rtol T Y sc fuel).stats.numberOfSteps ≤ p.maxSteps + N + 1 := by
  rw [rosSolve_eq]
  exact (TermInv_loop cs s p kc atol rtol T _ ho lp hs1 hpow hro hT N hN fuel _
    ⟨TimeInv_init p T _ Y sc hT, TermInv_init p T N _ Y sc⟩).total

/-- **C06_ros_terminates**: with more fuel than `max_number_of_steps + N + 1` the solve never runs out of
    fuel — the modelled `Solve` terminates, and its status is `Converged`, `ConvergenceExceededMaxSteps`
    or `StepSizeTooSmall` (over an ordered field there is no NaN/Inf exit). -/
theorem C06_ros_terminates (ho : OrderedOps o) (lp : LegalParams p) (hs1 : p.safety < 1)
    (hpow : ∀ x, 1 ≤ x → 1 ≤ o.pow x (1 / p.order)) (hro : 0 ≤ p.roundOff) (hT : 0 ≤ T) (N : Nat)
    (hN : T * rejFactor p ^ N < p.hmin) (Y : Mat K) (sc : Scratch K) (fuel : Nat)
    (hfuel : p.maxSteps + N + 1 < fuel) :
    (rosSolve o cs s p kc atol rtol T Y sc fuel).status ≠ .outOfFuel := by
  rw [rosSolve_eq]
  exact rosLoop_terminates cs s p kc atol rtol T _ ho lp hs1 hpow hro hT N hN fuel hfuel _ Y sc

/-- on an Archimedean field a suitable `N` exists whenever `h_min > 0`: **`Solve` terminates for every
    `h_min > 0`** (there is a fuel bound `F`, depending only on `T`, `h_min`, `q` and `max_number_of_steps`,
    beyond which the result no longer depends on running out of fuel) -/
theorem C06_ros_terminates_archimedean [Archimedean K] (ho : OrderedOps o) (lp : LegalParams p)
    (hs1 : p.safety < 1) (hpow : ∀ x, 1 ≤ x → 1 ≤ o.pow x (1 / p.order)) (hro : 0 ≤ p.roundOff)
    (hT : 0 ≤ T) (hmin : 0 < p.hmin) :
    ∃ F : Nat, ∀ (Y : Mat K) (sc : Scratch K) (fuel : Nat), F < fuel →
      (rosSolve o cs s p kc atol rtol T Y sc fuel).status ≠ .outOfFuel ∧
      (rosSolve o cs s p kc atol rtol T Y sc fuel).stats.numberOfSteps ≤ F := by
  obtain ⟨q0, q1⟩ := C06_rejFactor_bounds p lp hs1
  have hex : ∃ N : Nat, T * rejFactor p ^ N < p.hmin := by
    rcases eq_or_lt_of_le hT with h0 | hpos
    · exact ⟨0, by rw [← h0, zero_mul]; exact hmin⟩
    · have hd := div_pos hmin hpos
      obtain ⟨N, hN⟩ := exists_pow_lt_of_lt_one hd q1
      exact ⟨N, (lt_div_iff₀' hpos).mp hN⟩
  obtain ⟨N, hN⟩ := hex
  exact ⟨p.maxSteps + N + 1, fun Y sc fuel hf =>
    ⟨C06_ros_terminates cs s p kc atol rtol T ho lp hs1 hpow hro hT N hN Y sc fuel hf,
     C06_ros_attempt_bound cs s p kc atol rtol T ho lp hs1 hpow hro hT N hN Y sc fuel⟩⟩

end Termination

/-! ### the hypotheses are satisfiable (`y' = −y` over `ℚ`) -/

namespace TermEx

def params : RosParams ℚ := { Ex.params with hmin := 1/100 }

theorem C06_termEx_legal : LegalParams params :=
  { C06_exParams_legal with hmin_nonneg := by decide +kernel }

theorem C06_termEx_rejFactor : rejFactor params = 9/10 := by decide +kernel

theorem C06_termEx_N : (1000 : ℚ) * rejFactor params ^ 110 < params.hmin := by
  rw [C06_termEx_rejFactor]; simp only [params, Ex.params]; norm_num

def run (T : ℚ) (fuel : Nat) : SolveResult ℚ :=
  rosSolve ratOps Ex.consts (Ex.cfg .doolittle) params #[#[1]] #[1/10] (1/10) T #[#[1]] Ex.scratch fuel

/-- `1111 = max_number_of_steps + N + 1` with `N = 110`. -/
example (fuel : Nat) (hf : 1111 < fuel) : (run 1000 fuel).status ≠ .outOfFuel :=
  C06_ros_terminates Ex.consts (Ex.cfg .doolittle) params #[#[1]] #[1/10] (1/10) 1000 ratOps_ordered
    C06_termEx_legal (by decide +kernel) (fun _ h => h) (by decide +kernel) (by decide +kernel) 110
    C06_termEx_N #[#[1]] Ex.scratch fuel hf

end TermEx

namespace StuckEx
open Ex

/-- an `Ops ℚ` that agrees with the order of `ℚ` (so `OrderedOps` holds) whose uninterpreted `sqrt` is the
    constant 2: every error norm is then `max 2 error_min = 2 ≥ 1` -/
def badOps : Ops ℚ := orderOps (fun _ => 2) (fun x _ => x) Nat.cast

theorem badOps_ordered : OrderedOps badOps := orderOps_ordered _ _ _

theorem attError_bad (s : SolverCfg ℚ) (p : RosParams ℚ) (kc : Mat ℚ) (atol : Array ℚ) (rtol : ℚ) (r : RState ℚ) :
    attError badOps consts s p kc atol rtol r = 2 := by
  unfold attError normalizedError
  rw [badOps_ordered.cmax_eq]
  simp only [badOps, orderOps, consts]
  norm_num

variable (s : SolverCfg ℚ) (kc : Mat ℚ) (atol : Array ℚ) (rtol T hm : ℚ)

/-- From such a state no iteration gets out (`stuck_step`). -/
def Stuck (r : RState ℚ) : Prop := r.status = .running ∧ r.inStep = true ∧ 0 < r.ctl.h

theorem stuck_step (r r' : RState ℚ) (hp : rosPrologue badOps consts s params kc T r = r')
    (h : Stuck r') : Stuck (rosStep badOps consts s params kc atol rtol T hm r) := by
  obtain ⟨hr, hi, hh⟩ := h
  have hd : (attDecide badOps consts s params kc atol rtol hm r').1 = .reject := by
    unfold attDecide
    rw [attError_bad, badOps_ordered.reject_iff]
    exact ⟨by norm_num, le_of_lt hh⟩
  rw [rosStep_attempt _ _ _ _ _ _ _ _ _ _ (by rw [hp]; exact hr), hp]
  refine ⟨?_, ?_, ?_⟩
  · rw [rosAttempt_status, hd]; exact hr
  · rw [rosAttempt_inStep, hd]; exact hi
  · obtain ⟨f, f0, _, e⟩ := badOps_ordered.reject_factor params hm C06_exParams_legal
      (fun _ h => h) r'.ctl _ hd
    rw [rosAttempt_ctl, show (attDecide badOps consts s params kc atol rtol hm r').2 = _ from e]
    exact mul_pos hh f0

theorem stuck_loop (fuel : Nat) (r r' : RState ℚ) (hr : r.status = .running)
    (hp : rosPrologue badOps consts s params kc T r = r') (h : Stuck r') :
    (rosLoop badOps consts s params kc atol rtol T hm fuel r).status = .outOfFuel := by
  induction fuel generalizing r r' with
  | zero => rw [rosLoop_zero, if_pos hr]
  | succ n ih =>
    rw [rosLoop_succ, if_pos hr]
    have h' := stuck_step s kc atol rtol T hm r r' hp h
    exact ih _ _ h'.1 (by unfold rosPrologue; rw [if_pos h'.2.1]) h'

theorem initialH_one : initialH badOps consts params 1 = 1 := by decide +kernel

theorem hmaxEff_one : hmaxEff badOps params 1 = 1 := by decide +kernel

theorem first_prologue (Y : Mat ℚ) (sc : Scratch ℚ) :
    rosPrologue badOps consts s params kc 1 (rosInit 1 Y sc) =
      startStep badOps s kc 1 (rosInit 1 Y sc) := by
  unfold rosPrologue
  simp only [rosInit, badOps, orderOps, params, consts]
  norm_num

/-- **the hypothesis `h_min > 0` of `C06_ros_terminates` cannot simply be dropped**: `OrderedOps` leaves `sqrt`
    uninterpreted, and with `sqrt ≡ 2` (error norm 2 on every attempt) and the default `h_min = 0` the
    model's `Solve` of `y' = −y` over `[0, 1]` is still running after any number of attempts -/
theorem C06_ros_hmin_zero_may_not_terminate (fuel : Nat) :
    (rosSolve badOps consts (cfg .doolittle) params #[#[1]] #[1/10] (1/10) 1 #[#[1]] scratch fuel).status
      = .outOfFuel := by
  rw [rosSolve_eq]
  simp only [initialH_one, hmaxEff_one]
  -- the first iteration starts the step (`H = min 1 |1 − 0|`) and makes the first rejected attempt
  exact stuck_loop _ _ _ _ _ _ fuel _ _ rfl (first_prologue _ _ _ _) ⟨rfl, rfl, by decide +kernel⟩

end StuckEx
end Micm
