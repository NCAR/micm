/-
C14 / C17 (copy-assignment between States of different solvers) — `State::operator=(const State&)` as modelled by
`MState.assign`: the target takes the source's name map together with the source's data, so whatever the internal
species order of the solver the target came from, a by-name read on the assigned State is a by-name read on the
source; writing by name on the copy afterwards addresses the same species there (the source, an immutable value of the
model, is compared with the implementation's source State through the `after_a` field of the stream).

The correspondence stream `cpassign` runs exactly these calls on the implementation (two solvers for one species set
with different declaration orders, optionally Markowitz-reordered, `dst = src`, by-name reads, `SetConcentration` on
the copy, a Solve of the copy against a Solve of a copy-constructed State).
-/
import Micm.Properties.C20c

namespace Micm
set_option linter.unusedSectionVars false

section Assign
variable {α : Type} [OfNat α 0]

/-- **by-name reads after `dst = src` are the source's**, whatever name map `dst` had before -/
theorem C14_assign_reads_source (dst src : MState α) (name : String) (c : Nat) :
    (dst.assign src).concentration name c = src.concentration name c ∧
    (dst.assign src).parameter name c = src.parameter name c ∧
    (dst.assign src).varMap = src.varMap ∧ (dst.assign src).atol = src.atol := ⟨rfl, rfl, rfl, rfl⟩

/-- **a by-name write on the assigned copy** lands on that species of the copy (for every earlier name map of the
    target), leaves every other species of the copy as the source had it -/
theorem C14_assign_then_set (dst src st' : MState α) (wf : src.WF) (name : String) (vals : List α)
    (h : (dst.assign src).setConcentration name vals = .ok st') :
    (∀ c, c < src.nCells → st'.concentration name c = some (vals.getD c 0)) ∧
    (∀ other, other ≠ name → ∀ c, st'.concentration other c = src.concentration other c) := by
  have := C20_set_get_by_name (dst.assign src) st' wf name vals h
  exact ⟨this.1, this.2.1⟩

end Assign

example :
    let a : MState Int := { varMap := [("s0", 1), ("s1", 0)], parMap := [], nVars := 2, nPars := 0,
                            vars := #[#[20, 10]], pars := #[#[]], atol := #[], rtol := 0 }
    let b : MState Int := { a with varMap := [("s0", 0), ("s1", 1)], vars := #[#[7, 8]] }
    (b.assign a).concentration "s0" 0 = some 10 ∧ b.concentration "s0" 0 = some 7 := by
  decide

#print axioms C14_assign_reads_source
#print axioms C14_assign_then_set
end Micm
