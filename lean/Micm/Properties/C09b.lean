/-
C09 (Rosenbrock part) — "if every reaction conserves a weighted sum of species (w·stoichiometry = 0),
that weighted sum of concentrations is unchanged by Solve, for all parameter sets and any number of
internal steps, as long as nothing was clipped".

Exact arithmetic (`[Field K]`), per grid cell `c`, on the logical rows (`n` species).
The theorems are about `rosStep` / `rosSolve` themselves — i.e. about the state *before* the
`variables_.Max(0.0)` clamp of `Solver::Solve` ("nothing was clipped"; `C09_clamp_noop`).

Vocabulary (definitions in `Micm/Lemmas/Conservation.lean`):
* `negJac m procs k y i j`   the logical `−∂f_i/∂y_j` — the expression of `C02_jacobian_zero`;
* `CellShape n c M`          cell `c` of the per-cell matrix `M` exists and has `n` entries;
* `BuiltCfg s m procs n kind jac`  `s` is a configuration as `SolverBuilder` assembles it
                             (`builtCfg_of_builder`: it holds for the builder's construction);
* `attPivot s (L,U) c i`     the `i`-th diagonal element of `U` of cell `c` after `Factor`;
* `FullInv s p kc w n c σ r` the loop invariant of cell `c`: buffers of cell `c` have the configured
                             sizes (dense `n`, sparse `nnz`), `w·Y[c] = σ`, inside a step the initial
                             forcing is `⊥ w` and the Jacobian buffer holds the (shifted) `−J(Y)`.
Hypothesis on the mechanism: `Resolves m procs rxns` and, for every resolved reaction,
`Σ_products w·yield = Σ_reactants w`  (same shape as `C09_forcing_conserved`).
The only numerical hypothesis is "no zero pivot" in the factorisations of the attempts made.
No hypothesis `H ≠ 0` / `γ ≠ 0` is needed: for a zero shift, solvability forces `w = 0` on the cell.
-/
import Micm.Lemmas.Conservation
import Mathlib.Algebra.Order.Field.Basic

namespace Micm
set_option linter.unusedSectionVars false
open Finset

section Algebra
variable {K : Type} [Field K]

/-- **A1 — `wᵀJ = 0`**: under `w·S = 0` every column of the logical Jacobian is orthogonal to `w`
    (no calculus: per reaction `Σ_i w_i net_r(i) = 0`, so its contribution to each column sums to 0) -/
theorem C09_jacobian_orthogonal (m : NameMap) (procs : List (Process K)) (rxns : List (RRxn K))
    (hr : Resolves m procs rxns) (n : Nat) (hm : ∀ e ∈ m, e.2 < n) (w : Nat → K)
    (hbal : ∀ rx ∈ rxns, (rx.2.map fun p => w p.1 * p.2).sum = (rx.1.map w).sum)
    (k y : Array K) (j : Nat) :
    ∑ i ∈ range n, w i *
      (- (procs.zipIdx.map fun pi =>
          jacNet (specReactIds m pi.1.reactants) (specProdIds m pi.1.products) i
            * (rd k pi.2 * dMonomial (rd y) (specReactIds m pi.1.reactants) j)).sum) = 0 :=
  negJac_orthogonal m procs rxns hr n hm w hbal k y j

/-- **A2 — one stage**: if `Σ_i w_i M_ij = α w_j` (i.e. `M = αI − J'` with `wᵀJ' = 0`) and `M x = b`
    on the indices `< n`, then `w·b = α (w·x)`; for `α ≠ 0`, `w·x = (w·b)/α`, in particular
    `w·b = 0 ⇒ w·x = 0` -/
theorem C09_stage_orthogonal (n : Nat) (w : Nat → K) (M : Nat → Nat → K) (α : K) (x b : Nat → K)
    (hM : ∀ j, j < n → ∑ i ∈ range n, w i * M i j = α * w j)
    (hx : ∀ i, i < n → ∑ j ∈ range n, M i j * x j = b i) :
    ∑ i ∈ range n, w i * b i = α * ∑ j ∈ range n, w j * x j ∧
    (α ≠ 0 → ∑ j ∈ range n, w j * x j = (∑ i ∈ range n, w i * b i) / α) ∧
    (α ≠ 0 → ∑ i ∈ range n, w i * b i = 0 → ∑ j ∈ range n, w j * x j = 0) := by
  have h := wdot_of_solve n w M α x b hM hx
  refine ⟨h, fun hα => by rw [h, mul_div_cancel_left₀ _ hα], fun hα h0 => ?_⟩
  rw [h] at h0
  exact (mul_eq_zero.mp h0).resolve_left hα

end Algebra

section Rosenbrock
variable {K : Type} [Field K]
variable (o : Ops K) (cs : Consts K) {s : SolverCfg K} (p : RosParams K) (kc : Mat K)
    (atol : Array K) (rtol : K) (T hm : K) (w : Nat → K) {n : Nat} (c : Nat)
    {m : NameMap} {procs : List (Process K)} {kind : LUKind} {jac : Pattern}

/-- the matrix of an attempt, read through the pattern of `state.jacobian_`, is `a·I − ∂f/∂y` on all
    of `n × n`, hence `Σ_i w_i M_ij = a·w_j` (A1 transported to the sparse storage, all four LU variants) -/
theorem C09_matrix_columns (hb : BuiltCfg s m procs n kind jac) (rxns : List (RRxn K))
    (hr : Resolves m procs rxns)
    (hbal : ∀ rx ∈ rxns, (rx.2.map fun p => w p.1 * p.2).sum = (rx.1.map w).sum)
    (Y B : Mat K) (hB : CellShape s.la.A.nnz c B) (a : K) (j : Nat) (hj : j < n) :
    (∀ i, i < n →
      view s.la.A ((s.alphaMinusJacobian (s.jacobian kc Y (fillM B 0)) a).getD c #[]) i j
        = (if i = j then a else 0) + negJac m procs (kc.getD c #[]) (Y.getD c #[]) i j) ∧
    ∑ i ∈ range n, w i *
      view s.la.A ((s.alphaMinusJacobian (s.jacobian kc Y (fillM B 0)) a).getD c #[]) i j = a * w j := by
  exact ⟨fun i hi => view_shifted_jacobian hb kc Y B c hB a i j hi hj,
    wsum_shifted_jacobian hb rxns hr w hbal kc Y B c hB a j hj⟩

/-- **A3 — one attempt** (abstract linear solver): from the post-prologue state `r`, if the forcing
    is `⊥ w` at every state (`ForcOrth`, which `C09_forcing_orthogonal` gives) and the solve of this
    attempt maps `⊥ w` to `⊥ w` (`WSolve`), then every stage vector satisfies `w·K_i = 0`,
    `w·Ynew = w·Y` and `w·Yerr = 0` -/
theorem C09_rosenbrock_attempt_abstract (hf : ForcOrth s kc w n c) (r : RState K)
    (hs : WSolve s w n c (attFactor s p r).1 (attFactor s p r).2.1 (attFactor s p r).2.2)
    (hk : p.stages ≤ r.sc.k.size)
    (hksh : ∀ i, i < p.stages → CellShape n c (r.sc.k.getD i #[]))
    (hf0s : CellShape n c r.sc.f0) (hf0 : ∑ i ∈ range n, w i * rd (r.sc.f0.getD c #[]) i = 0)
    (hY : CellShape n c r.Y) (hye : CellShape n c r.sc.yerr) :
    (∀ i, i < p.stages →
      ∑ v ∈ range n, w v * rd (((attStages s p kc r).1.getD i #[]).getD c #[]) v = 0) ∧
    ∑ v ∈ range n, w v * rd ((attYnew s p kc r).getD c #[]) v
      = ∑ v ∈ range n, w v * rd (r.Y.getD c #[]) v ∧
    ∑ v ∈ range n, w v * rd ((attYerr s p kc r).getD c #[]) v = 0 := by
  obtain ⟨a1, ⟨_, a3⟩, ⟨_, a5⟩⟩ := attempt_conserves s p kc w n c hf r hs hk hksh hf0s hf0 hY hye
  exact ⟨fun i hi => (a1 i hi).2, a3, a5⟩

/-- **A3 — one attempt** (the model's `Factor`/`Solve`, all four LU variants of `LinAlg.build`):
    an iteration of the loop that records the attempt `att`, from a state satisfying the invariant,
    with no zero pivot in cell `c` of the factorisation of `att.matrix`:
    `w·K_i = 0` for every stage, `w·Yerr = 0`, and `w·Y` is unchanged (accepted or rejected) -/
theorem C09_rosenbrock_attempt (hb : BuiltCfg s m procs n kind jac) (rxns : List (RRxn K))
    (hr : Resolves m procs rxns)
    (hbal : ∀ rx ∈ rxns, (rx.2.map fun p => w p.1 * p.2).sum = (rx.1.map w).sum)
    (σ : K) (r : RState K) (h : FullInv s p kc w n c σ r) (att : Attempt K)
    (ht : (rosStep o cs s p kc atol rtol T hm r).trace = att :: r.trace)
    (hpiv : ∀ i, i < n → attPivot s (s.factor att.matrix r.sc.lower r.sc.upper) c i ≠ 0) :
    (∀ i, i < p.stages → ∑ v ∈ range n,
      w v * rd (((rosStep o cs s p kc atol rtol T hm r).sc.k.getD i #[]).getD c #[]) v = 0) ∧
    ∑ v ∈ range n, w v * rd ((rosStep o cs s p kc atol rtol T hm r).sc.yerr.getD c #[]) v = 0 ∧
    ∑ v ∈ range n, w v * rd ((rosStep o cs s p kc atol rtol T hm r).Y.getD c #[]) v
      = ∑ v ∈ range n, w v * rd (r.Y.getD c #[]) v := by
  obtain ⟨hs, rfl⟩ := rosStep_trace_cons o cs s p kc atol rtol T hm r att ht
  have hf := forcOrth_of_balanced kc w c hb rxns hr hbal
  have hsp := SparseOK_prologue o cs p kc T c r h.sparse
  have hco := ConsInv_prologue o cs s p kc T w n c hf σ r h.cons
  have hin := rosPrologue_running_inStep o cs s p kc T r hs
  obtain ⟨B, hB⟩ := ShiftInv_prologue o cs s p kc T r h.shift hs hin
  -- the attempt factorises `att.matrix` on the `L`/`U` the prologue left untouched
  obtain ⟨_, f2, f3, _⟩ := rosPrologue_frame_sc o cs s p kc T r
  have hpiv' : ∀ i, i < n → attPivot s (attFactor s p (rosPrologue o cs s p kc T r)) c i ≠ 0 := by
    unfold attFactor; rw [f2, f3]; exact hpiv
  have hws := wsolve_attempt p kc w c hb rxns hr hbal _ B hB hsp hpiv'
  obtain ⟨a1, ⟨_, a3⟩, ⟨_, a5⟩⟩ := attempt_conserves s p kc w n c hf _ hws hco.1.ksz hco.1.k hco.1.f0
    (hco.f0 hs hin) hco.1.Y hco.1.yerr
  have fY := (rosPrologue_frame o cs s p kc T r).2.1
  -- rejected: `Y` is kept; otherwise it becomes `Ynew`
  have hY : wdot w n ((rosAttempt o cs s p kc atol rtol hm (rosPrologue o cs s p kc T r)).Y.getD c #[])
      = wdot w n (r.Y.getD c #[]) := by
    rw [rosAttempt_Y]
    split
    · rw [fY]
    · rw [a3, fY]
  rw [rosStep_attempt o cs s p kc atol rtol T hm r hs, rosAttempt_k, rosAttempt_yerr]
  exact ⟨fun i hi => (a1 i hi).2, a5, hY⟩

/-- the invariant is established by the initial state of `rosSolve` (cell `c` of the inputs well
    shaped) … -/
theorem C09_invariant_init (h0 : K) (Y : Mat K) (sc : Scratch K)
    (hY : CellShape n c Y) (hf0 : CellShape n c sc.f0) (hye : CellShape n c sc.yerr)
    (hks : p.stages ≤ sc.k.size) (hk : ∀ i, i < p.stages → CellShape n c (sc.k.getD i #[]))
    (hj : CellShape s.la.A.nnz c sc.jac) (hl : CellShape s.la.Lp.nnz c sc.lower)
    (hu : CellShape s.la.Up.nnz c sc.upper) :
    FullInv s p kc w n c (∑ v ∈ range n, w v * rd (Y.getD c #[]) v) (rosInit h0 Y sc) :=
  ⟨⟨⟨hY, hf0, hye, hks, hk⟩, rfl, fun _ h => by cases h⟩, ⟨hj, hl, hu⟩, fun _ h => by cases h⟩

/-- … and preserved by every iteration whose attempt (if it makes one) has no zero pivot in cell `c` -/
theorem C09_invariant_step (hb : BuiltCfg s m procs n kind jac) (rxns : List (RRxn K))
    (hr : Resolves m procs rxns)
    (hbal : ∀ rx ∈ rxns, (rx.2.map fun p => w p.1 * p.2).sum = (rx.1.map w).sum)
    (σ : K) (r : RState K) (h : FullInv s p kc w n c σ r)
    (hpiv : (rosPrologue o cs s p kc T r).status = .running → ∀ i, i < n →
      attPivot s (attFactor s p (rosPrologue o cs s p kc T r)) c i ≠ 0) :
    FullInv s p kc w n c σ (rosStep o cs s p kc atol rtol T hm r) := by
  have hf := forcOrth_of_balanced kc w c hb rxns hr hbal
  have hsp := SparseOK_prologue o cs p kc T c r h.sparse
  have hsh := ShiftInv_prologue o cs s p kc T r h.shift
  refine ⟨?_, ?_, ?_⟩
  · apply ConsInv_step o cs s p kc atol rtol T hm w n c hf σ r h.cons
    intro hrun
    obtain ⟨B, hB⟩ := hsh hrun (rosPrologue_running_inStep o cs s p kc T r hrun)
    exact wsolve_attempt p kc w c hb rxns hr hbal _ B hB hsp (hpiv hrun)
  · exact rosStep_inv o cs s p kc atol rtol T hm (SparseOK s c) r (fun _ => hsp)
      (fun r' _ _ h' => SparseOK_attempt o cs p kc atol rtol hm c r' h') h.sparse
  · exact rosStep_inv o cs s p kc atol rtol T hm (ShiftInv s kc) r (fun _ => hsh)
      (fun r' h1 _ => ShiftInv_attempt o cs s p kc atol rtol hm r' h1) h.shift

/-- **A4 — the whole solve**: `w·Y[c]` is the same after `rosSolve` as before (any status, any
    number of accepted/rejected attempts, any LU variant, any controller parameters), provided no
    attempt made along the way (iteration `k < fuel`) hits a zero pivot in cell `c`.
    `rₖ` is the state at the start of iteration `k`; `rosPrologue rₖ` the state in which its attempt
    starts; `attFactor` its factorisation. -/
theorem C09_rosenbrock_solve (hb : BuiltCfg s m procs n kind jac) (rxns : List (RRxn K))
    (hr : Resolves m procs rxns)
    (hbal : ∀ rx ∈ rxns, (rx.2.map fun p => w p.1 * p.2).sum = (rx.1.map w).sum)
    (Y : Mat K) (sc : Scratch K) (fuel : Nat)
    (hY : CellShape n c Y) (hf0 : CellShape n c sc.f0) (hye : CellShape n c sc.yerr)
    (hks : p.stages ≤ sc.k.size) (hk : ∀ i, i < p.stages → CellShape n c (sc.k.getD i #[]))
    (hj : CellShape s.la.A.nnz c sc.jac) (hl : CellShape s.la.Lp.nnz c sc.lower)
    (hu : CellShape s.la.Up.nnz c sc.upper)
    (hpiv : ∀ k, k < fuel →
      (rosPrologue o cs s p kc T ((rosStep o cs s p kc atol rtol T (hmaxEff o p T))^[k]
        (rosInit (initialH o cs p T) Y sc))).status = .running →
      ∀ i, i < n → attPivot s
        (attFactor s p (rosPrologue o cs s p kc T ((rosStep o cs s p kc atol rtol T (hmaxEff o p T))^[k]
          (rosInit (initialH o cs p T) Y sc)))) c i ≠ 0) :
    ∑ v ∈ range n, w v * rd ((rosSolve o cs s p kc atol rtol T Y sc fuel).Y.getD c #[]) v
      = ∑ v ∈ range n, w v * rd (Y.getD c #[]) v := by
  have h := rosLoop_iterate_inv o cs s p kc atol rtol T (hmaxEff o p T) (FullInv s p kc w n c _)
    (FullInv_outOfFuel p kc w c _) fuel _
    (C09_invariant_init p kc w c (initialH o cs p T) Y sc hY hf0 hye hks hk hj hl hu)
    fun k hk hP => by
      rw [Function.iterate_succ_apply']
      exact C09_invariant_step o cs p kc atol rtol T _ w c hb rxns hr hbal _ _ hP (hpiv k hk)
  rw [rosSolve_eq]
  exact h.cons.sum

/-- the same along the iterates of the loop: after any number `N` of iterations `w·Y[c]` is the
    initial value (so it is invariant "along the whole solve", not only at its end) -/
theorem C09_rosenbrock_iterates (hb : BuiltCfg s m procs n kind jac) (rxns : List (RRxn K))
    (hr : Resolves m procs rxns)
    (hbal : ∀ rx ∈ rxns, (rx.2.map fun p => w p.1 * p.2).sum = (rx.1.map w).sum)
    (h0 : K) (Y : Mat K) (sc : Scratch K) (N : Nat)
    (hY : CellShape n c Y) (hf0 : CellShape n c sc.f0) (hye : CellShape n c sc.yerr)
    (hks : p.stages ≤ sc.k.size) (hk : ∀ i, i < p.stages → CellShape n c (sc.k.getD i #[]))
    (hj : CellShape s.la.A.nnz c sc.jac) (hl : CellShape s.la.Lp.nnz c sc.lower)
    (hu : CellShape s.la.Up.nnz c sc.upper)
    (hpiv : ∀ k, k < N →
      (rosPrologue o cs s p kc T ((rosStep o cs s p kc atol rtol T hm)^[k] (rosInit h0 Y sc))).status
        = .running →
      ∀ i, i < n → attPivot s
        (attFactor s p (rosPrologue o cs s p kc T ((rosStep o cs s p kc atol rtol T hm)^[k]
          (rosInit h0 Y sc)))) c i ≠ 0) :
    ∑ v ∈ range n, w v * rd (((rosStep o cs s p kc atol rtol T hm)^[N] (rosInit h0 Y sc)).Y.getD c #[]) v
      = ∑ v ∈ range n, w v * rd (Y.getD c #[]) v :=
  (iterate_inv _ (FullInv s p kc w n c _) _ N
    (C09_invariant_init p kc w c h0 Y sc hY hf0 hye hks hk hj hl hu) fun k hk hP => by
      rw [Function.iterate_succ_apply']
      exact C09_invariant_step o cs p kc atol rtol T hm w c hb rxns hr hbal _ _ hP (hpiv k hk)).cons.sum

/-- A4 for an abstract linear solver: only `ForcOrth` and, for every attempt made, `WSolve` -/
theorem C09_rosenbrock_solve_abstract (hf : ForcOrth s kc w n c) (Y : Mat K) (sc : Scratch K) (fuel : Nat)
    (hY : CellShape n c Y) (hf0 : CellShape n c sc.f0) (hye : CellShape n c sc.yerr)
    (hks : p.stages ≤ sc.k.size) (hk : ∀ i, i < p.stages → CellShape n c (sc.k.getD i #[]))
    (hs : ∀ k, k < fuel →
      (rosPrologue o cs s p kc T ((rosStep o cs s p kc atol rtol T (hmaxEff o p T))^[k]
        (rosInit (initialH o cs p T) Y sc))).status = .running →
      WSolve s w n c
        (attFactor s p (rosPrologue o cs s p kc T ((rosStep o cs s p kc atol rtol T (hmaxEff o p T))^[k]
          (rosInit (initialH o cs p T) Y sc)))).1
        (attFactor s p (rosPrologue o cs s p kc T ((rosStep o cs s p kc atol rtol T (hmaxEff o p T))^[k]
          (rosInit (initialH o cs p T) Y sc)))).2.1
        (attFactor s p (rosPrologue o cs s p kc T ((rosStep o cs s p kc atol rtol T (hmaxEff o p T))^[k]
          (rosInit (initialH o cs p T) Y sc)))).2.2) :
    ∑ v ∈ range n, w v * rd ((rosSolve o cs s p kc atol rtol T Y sc fuel).Y.getD c #[]) v
      = ∑ v ∈ range n, w v * rd (Y.getD c #[]) v := by
  have h := rosLoop_iterate_inv o cs s p kc atol rtol T (hmaxEff o p T) (ConsInv p w n c _)
    (fun r h => ConsInv_stop p w n c _ r h _ nofun) fuel (rosInit (initialH o cs p T) Y sc)
    ⟨⟨hY, hf0, hye, hks, hk⟩, rfl, fun _ h => by cases h⟩
    fun k hk hP => by
      rw [Function.iterate_succ_apply']
      exact ConsInv_step o cs s p kc atol rtol T _ w n c hf _ _ hP (hs k hk)
  rw [rosSolve_eq]
  exact h.sum

end Rosenbrock

section Clamp
variable {K : Type} [Field K] [LinearOrder K] [IsStrictOrderedRing K]

/-- the clamp `variables_.Max(0.0)` of `Solver::Solve` is the identity on a non-negative state, so
    the conserved sum of `rosSolve` is the one `Solver::Solve` returns -/
theorem C09_clamp_noop {o : Ops K} (ho : OrderedOps o) (Y : Mat K)
    (h : ∀ c v, 0 ≤ rd (Y.getD c #[]) v) : clampNonNeg o Y = Y := by
  unfold clampNonNeg
  apply Array.ext (by simp)
  intro c h1 h2
  simp only [Array.getElem_map]
  apply Array.ext (by simp)
  intro v h3 h4
  simp only [Array.getElem_map]
  rw [ho.cmax_eq]
  have := h c v
  have e : rd (Y.getD c #[]) v = Y[c][v] := by
    simp [rd, Array.getD, h2, show v < Y[c].size from h4]
  rw [e] at this
  exact max_eq_left this

end Clamp

/-! ### a concrete instance: `A → B`, `B + B → C` conserves `A + B + 2C` -/

namespace C09bEx

def procs : List (Process ℚ) :=
  [ { reactants := [⟨"A", false⟩], products := [(⟨"B", false⟩, 1)] },
    { reactants := [⟨"B", false⟩, ⟨"B", false⟩], products := [(⟨"C", false⟩, 1)] } ]

def nmap : NameMap := [("A", 0), ("B", 1), ("C", 2)]

def rxns : List (RRxn ℚ) := [([0], [(1, 1)]), ([1, 1], [(2, 1)])]

def w : Nat → ℚ
  | 0 => 1
  | 1 => 1
  | 2 => 2
  | _ => 0

def tables : PSTables ℚ :=
  { nReact := [1, 2], reactIds := [0, 1, 1], nProd := [1, 1], prodIds := [1, 2], yields := [1, 1],
    jInfo := [⟨0, 0, 0, 1⟩, ⟨1, 1, 1, 1⟩, ⟨1, 1, 1, 1⟩],
    jReactIds := [1, 1], jProdIds := [1, 2, 2], jYields := [1, 1, 1] }

theorem exBuild : ProcessSet.build procs nmap = .ok tables := rfl

theorem exResolves : Resolves nmap procs rxns := by unfold Resolves; rfl

theorem exBalanced : ∀ rx ∈ rxns, (rx.2.map fun p => w p.1 * p.2).sum = (rx.1.map w).sum := by
  decide +kernel

/-- the Jacobian pattern the builder creates: `(0,0) (1,0) (1,1) (2,1) (2,2)` -/
def jacP : Pattern := Pattern.mk' 3 false 0 (buildJacobianSet 3 tables.nonZeroJacobianElements)

def flat : List Nat := [0, 1, 2, 2, 3, 2, 2, 3]

theorem exFlat (kind : LUKind) : tables.jacobianFlatIds (LinAlg.build kind jacP).A = .ok flat := by
  cases kind <;> decide +kernel

def cfg (kind : LUKind) : SolverCfg ℚ :=
  { nSpecies := 3, L := 0, tables := tables, flatIds := flat, la := LinAlg.build kind jacP,
    diag := (LinAlg.build kind jacP).A.diagRanks }

theorem exBuilt (kind : LUKind) : BuiltCfg (cfg kind) nmap procs 3 kind jacP :=
  builtCfg_of_builder procs nmap tables exBuild (by decide) (by decide) (by decide)
    3 (by decide) false 0 0 kind flat (exFlat kind)

/-- a two-stage table (any coefficients do: conservation does not depend on them) -/
def params : RosParams ℚ :=
  { Ex.params with stages := 2, a := #[1], c := #[-2], m := #[3/2, 1/2], e := #[1/2, 1/2],
                   newF := #[true, true], order := 2 }

def scratch (kind : LUKind) : Scratch ℚ :=
  let d : Mat ℚ := #[#[0, 0, 0]]
  { jac := #[Array.replicate (cfg kind).la.A.nnz 7], lower := #[Array.replicate (cfg kind).la.Lp.nnz 7],
    upper := #[Array.replicate (cfg kind).la.Up.nnz 7], ynew := d, f0 := d, k := #[d, d], yerr := d }

/-- rate constants `k = (1, 1/2)`, `Y₀ = (1, 0, 0)`, `atol = rtol = 1/10` -/
def run (kind : LUKind) (T : ℚ) (fuel : Nat) : SolveResult ℚ :=
  rosSolve ratOps Ex.consts (cfg kind) params #[#[1, 1/2]] #[1/10, 1/10, 1/10] (1/10) T #[#[1, 0, 0]]
    (scratch kind) fuel

example : (run .doolittle 50 4).trace.map (fun a => (a.h, a.accepted))
      = [(50, false), (10, false), (2, true), (2, true)] ∧
    (run .doolittle 50 4).Y = #[#[1/16, 41507/93312, 45973/186624]] ∧
    (1 : ℚ) * (1/16) + 1 * (41507/93312) + 2 * (45973/186624) = 1 := by
  decide +kernel

/-- `C09_rosenbrock_solve` on this run, every LU variant. -/
theorem exConserved (kind : LUKind) :
    ∑ v ∈ range 3, w v * rd ((run kind 50 4).Y.getD 0 #[]) v
      = ∑ v ∈ range 3, w v * rd ((#[#[1, 0, 0]] : Mat ℚ).getD 0 #[]) v := by
  unfold run
  apply C09_rosenbrock_solve ratOps Ex.consts params #[#[1, 1/2]] #[1/10, 1/10, 1/10] (1/10) 50 w 0
    (exBuilt kind) rxns exResolves exBalanced
  · decide
  · cases kind <;> decide
  · cases kind <;> decide
  · cases kind <;> decide
  · cases kind <;> decide +kernel
  · cases kind <;> decide +kernel
  · cases kind <;> decide +kernel
  · cases kind <;> decide +kernel
  · cases kind <;> decide +kernel

example (kind : LUKind) : ∑ v ∈ range 3, w v * rd ((run kind 50 4).Y.getD 0 #[]) v = 1 := by
  rw [exConserved]; decide +kernel

end C09bEx

#print axioms C09_jacobian_orthogonal
#print axioms C09_stage_orthogonal
#print axioms C09_matrix_columns
#print axioms C09_rosenbrock_attempt_abstract
#print axioms C09_rosenbrock_attempt
#print axioms C09_invariant_init
#print axioms C09_invariant_step
#print axioms C09_rosenbrock_solve
#print axioms C09_rosenbrock_iterates
#print axioms C09_rosenbrock_solve_abstract
#print axioms C09_clamp_noop
#print axioms builtCfg_of_builder
#print axioms C09bEx.exConserved

end Micm
