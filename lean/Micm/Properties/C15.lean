/-
C15 — each reaction gets its own rate constant.

"The rate constant of reaction r in cell c equals the formula of r's type evaluated at cell c's
conditions and r's own custom parameters (looked up by label), multiplied by r's parameterized
reactants; for any mix of types (0, 1 or 2 custom parameters each), every layout and cell count."

The formulas (`RateKind.calc`) are OPAQUE here: every theorem is about the offset walking and holds
for an arbitrary carrier type (no algebra is used).  That the formulas, generated from the source,
are the documented ones is `Micm/Properties/C15b.lean`; their values are compared numerically by
the harness (DESIGN.md §4 C15), not proved.

Model definitions the theorems are about:
* `rateConstGo`, `calculateRateConstants` (`Micm/Model/RateConst.lean`, executed by the driver and
  compared bit-for-bit with the C++ for both layouts);
* `labelsOf` (`GetCustomParameterLabels`), `paramMap` (`custom_rate_parameter_map_`),
  `setCustomRateParameter`/`fillParams` (`State::SetCustomRateParameter`), and
  `calculateRateConstantsVec` (flat-storage transcription of the VECTOR overload of
  `Process::CalculateRateConstants`) in `Micm/Spec/RateFlat.lean`.  These are NOT executed by the
  harness; the flat vector model is a transcription checked only by `C15_vector_eq_rowwise`.

`paramOffset procs r = Σ_{r' < r} procs[r'].kind.nParams`, `nParamsTotal procs = Σ_r nParams`.
-/
import Micm.Lemmas.RateAssoc
import Micm.Properties.C19
namespace Micm

section
variable {α : Type} [OfNat α 0] [OfNat α 1] [Add α] [Sub α] [Mul α] [Div α] [Neg α]
variable (t : TOps α) (pi av : α)

/-- one rate constant per reaction; reaction `r` is evaluated on exactly its own parameter slice
    `[off_r, off_r + n_r)` of the cell's parameter row and multiplied by its fixed reactants -/
theorem C15_association (c : Conditions α) (procs : List (RateProc α)) (params : List α) :
    (rateConstGo t pi av c procs params).length = procs.length ∧
    ∀ r (hr : r < procs.length),
      (rateConstGo t pi av c procs params)[r]'(by rw [rateConstGo_length]; exact hr) =
        procs[r].kind.calc t pi av c
            ((params.drop (paramOffset procs r)).take procs[r].kind.nParams)
          * fixedReactants c procs[r].nParamReactants :=
  ⟨rateConstGo_length t pi av c procs params, rateConstGo_getElem t pi av c procs params⟩

/-- shape of `CalculateRateConstants`' result: `cells × reactions` -/
theorem C15_shape (procs : List (RateProc α)) (conds : Array (Conditions α)) (params : Mat α) :
    (calculateRateConstants t pi av procs conds params).size = conds.size ∧
    ∀ c (hc : c < conds.size),
      ((calculateRateConstants t pi av procs conds params)[c]'(by
        rw [calculateRateConstants_size]; exact hc)).size = procs.length :=
  ⟨calculateRateConstants_size t pi av procs conds params,
    calculateRateConstants_row_size t pi av procs conds params⟩

/-- `rate_constants[c][r]` is the formula of `r` at `conditions[c]` on `r`'s slice of
    `custom_rate_parameters[c]`, times `r`'s fixed reactants at `conditions[c]` -/
theorem C15_association_cells (procs : List (RateProc α)) (conds : Array (Conditions α))
    (params : Mat α) (c : Nat) (hc : c < conds.size) (r : Nat) (hr : r < procs.length) :
    ((calculateRateConstants t pi av procs conds params)[c]'(by
        rw [calculateRateConstants_size]; exact hc))[r]'(by
        rw [calculateRateConstants_row_size t pi av procs conds params c hc]; exact hr) =
      procs[r].kind.calc t pi av conds[c]
          (((params.getD c #[]).toList.drop (paramOffset procs r)).take procs[r].kind.nParams)
        * fixedReactants conds[c] procs[r].nParamReactants := by
  simp only [calculateRateConstants_row t pi av procs conds params c hc, List.getElem_toArray]
  exact rateConstGo_getElem t pi av conds[c] procs _ r hr

/-- C13 for rate constants: row `c` of the result depends only on `conditions[c]` and
    `custom_rate_parameters[c]` (not on other cells, nor on the number of cells) -/
theorem C15_cell_independence (procs : List (RateProc α))
    (conds conds' : Array (Conditions α)) (params params' : Mat α)
    (c : Nat) (hc : c < conds.size) (hc' : c < conds'.size)
    (hcond : conds[c] = conds'[c]) (hpar : params.getD c #[] = params'.getD c #[]) :
    (calculateRateConstants t pi av procs conds params)[c]'(by
        rw [calculateRateConstants_size]; exact hc) =
      (calculateRateConstants t pi av procs conds' params')[c]'(by
        rw [calculateRateConstants_size]; exact hc') := by
  rw [calculateRateConstants_row t pi av procs conds params c hc,
    calculateRateConstants_row t pi av procs conds' params' c hc', hcond, hpar]

end

section
variable {α : Type}

/-- `GetCustomParameterLabels` yields one label per custom-parameter column -/
theorem C15_labels_length (procs : List (RateProc α)) :
    (labelsOf procs).length = nParamsTotal procs ∧
    ∀ r (hr : r < procs.length),
      procs[r].kind.labels.length = procs[r].kind.nParams ∧
      paramOffset procs r + procs[r].kind.nParams ≤ nParamsTotal procs ∧
      paramOffset procs (r + 1) = paramOffset procs r + procs[r].kind.nParams :=
  ⟨labelsOf_length procs, fun r hr =>
    ⟨RateKind.labels_length _, paramOffset_add_le procs r hr, paramOffset_succ procs r hr⟩⟩

/-- the labels of reaction `r` occupy exactly positions `[off_r, off_r + n_r)` of the label list -/
theorem C15_labels_positions (procs : List (RateProc α)) (r : Nat) (hr : r < procs.length) :
    ((labelsOf procs).drop (paramOffset procs r)).take procs[r].kind.nParams =
      procs[r].kind.labels :=
  labelsOf_slice procs r hr

/-- `custom_rate_parameter_map_`: with pairwise distinct labels, `find(label)` returns the
    label's position; an unknown label is not found; whatever it returns points at that label -/
theorem C15_label_map (labels : List String) :
    (labels.Nodup → ∀ j l, labels[j]? = some l → paramMap labels l = some j) ∧
    (∀ l, l ∉ labels → paramMap labels l = none) ∧
    (∀ l j, paramMap labels l = some j → labels[j]? = some l) :=
  ⟨fun hnd j l h => paramMap_nodup labels hnd j l h, paramMap_not_mem labels,
    paramMap_some labels⟩

variable [OfNat α 0]

/-- after any successful sequence of `SetCustomRateParameter(label, values)` calls on a parameter
    matrix with one column per label (pairwise distinct labels), column `k` holds in every cell
    the values most recently passed for the label at position `k` (its initial content if that
    label was never set); the shape is unchanged -/
theorem C15_set_by_label (labels : List String) (hnd : labels.Nodup)
    (sets : List (String × Array α)) (params0 params : Mat α)
    (hrows : ∀ c (hc : c < params0.size), params0[c].size = labels.length)
    (hfill : fillParams labels params0 sets = some params) :
    params.size = params0.size ∧
    (∀ c (hc : c < params.size), params[c].size = labels.length) ∧
    ∀ c, c < params0.size → ∀ k (hk : k < labels.length),
      (params.getD c #[])[k]? =
        match lastSet sets labels[k] with
        | some vals => some (vals.getD c 0)
        | none => (params0.getD c #[])[k]? := by
  induction sets generalizing params0 with
  | nil =>
    simp only [fillParams, Option.some.injEq] at hfill
    subst hfill
    exact ⟨rfl, hrows, fun c _ k _ => by simp [lastSet]⟩
  | cons lv rest ih =>
    obtain ⟨l, v⟩ := lv
    unfold fillParams at hfill
    split at hfill
    · cases hfill
    · next params1 h1 =>
      obtain ⟨j, hj, _, hsz1, hel⟩ := setCustomRateParameter_spec labels params0 params1 l v h1
      have hrows1 : ∀ c (hc : c < params1.size), params1[c].size = labels.length := by
        intro c hc
        have hc0 : c < params0.size := hsz1 ▸ hc
        have h := hel c hc0
        rw [Array.getElem?_eq_getElem hc] at h
        simp only [Option.some.injEq] at h
        rw [h, Array.size_setIfInBounds, hrows c hc0]
      obtain ⟨hs, hr, hv⟩ := ih params1 hrows1 hfill
      refine ⟨hs.trans hsz1, hr, fun c hc k hk => ?_⟩
      -- the first call wrote column `j` of `params1`; the rest started from `params1`.  A later call for
      -- label `k` wins; if there is none, column `k` is as the first call left it: written iff `j = k`,
      -- and the label map is injective both ways because the labels are distinct
      rw [hv c (hsz1 ▸ hc) k hk]
      simp only [lastSet]
      cases hls : lastSet rest labels[k] with
      | some vals => rfl
      | none =>
        simp only
        have h1c : params1.getD c #[] = params0[c].setIfInBounds j (v.getD c 0) := by
          have h := hel c hc
          rw [Array.getD_eq_getD_getElem?, h]; rfl
        have h0c : params0.getD c #[] = params0[c] := by
          rw [Array.getD_eq_getD_getElem?, Array.getElem?_eq_getElem hc]; rfl
        rw [h1c, h0c]
        by_cases hl : l = labels[k]
        · rw [if_pos hl]
          have hjk : j = k := by
            have := paramMap_nodup labels hnd k l (by rw [hl]; exact List.getElem?_eq_getElem hk)
            rw [hj] at this
            exact Option.some.inj this
          subst hjk
          rw [Array.getElem?_setIfInBounds_self_of_lt (by rw [hrows c hc]; exact hk)]
        · rw [if_neg hl]
          have hjk : j ≠ k := by
            intro hjk
            have := paramMap_some labels l j hj
            rw [hjk, List.getElem?_eq_getElem hk] at this
            exact hl (Option.some.inj this).symm
          rw [Array.getElem?_setIfInBounds_ne hjk]

/-- the slice of cell `c`'s parameter row that the offset walk hands to reaction `r` is
    `[v_ℓ(c) for ℓ in r's labels]`, `v_ℓ` = the values most recently set for label `ℓ` -/
theorem C15_labels_reach_their_reaction (procs : List (RateProc α))
    (hnd : (labelsOf procs).Nodup) (sets : List (String × Array α)) (params0 params : Mat α)
    (hrows : ∀ c (hc : c < params0.size), params0[c].size = (labelsOf procs).length)
    (hfill : fillParams (labelsOf procs) params0 sets = some params)
    (c : Nat) (hc : c < params0.size) (r : Nat) (hr : r < procs.length)
    (hset : ∀ l ∈ procs[r].kind.labels, (lastSet sets l).isSome) :
    ((params.getD c #[]).toList.drop (paramOffset procs r)).take procs[r].kind.nParams =
      procs[r].kind.labels.map fun l => ((lastSet sets l).getD #[]).getD c 0 := by
  obtain ⟨_, _, hv⟩ := C15_set_by_label (labelsOf procs) hnd sets params0 params hrows hfill
  apply List.ext_getElem?
  intro k
  by_cases hk : k < procs[r].kind.nParams
  · have hkl : k < procs[r].kind.labels.length := by rw [RateKind.labels_length]; exact hk
    have hlab := labelsOf_getElem procs r hr k hkl
    have hlt : paramOffset procs r + k < (labelsOf procs).length := by
      rw [labelsOf_length]; have := paramOffset_add_le procs r hr; omega
    have hlab' : (labelsOf procs)[paramOffset procs r + k] = procs[r].kind.labels[k] := by
      rw [List.getElem?_eq_getElem hlt] at hlab; exact Option.some.inj hlab
    rw [List.getElem?_take_of_lt hk, List.getElem?_drop, Array.getElem?_toList,
      hv c hc _ hlt, hlab', List.getElem?_map, List.getElem?_eq_getElem hkl]
    have := hset _ (List.getElem_mem hkl)
    cases hls : lastSet sets procs[r].kind.labels[k] with
    | none => rw [hls] at this; cases this
    | some vals => simp [hls]
  · rw [List.getElem?_eq_none (by simp; omega), List.getElem?_eq_none (by
      rw [List.length_map, RateKind.labels_length]; omega)]

end

section
variable {α : Type} [OfNat α 0] [OfNat α 1] [Add α] [Sub α] [Mul α] [Div α] [Neg α]
variable (t : TOps α) (pi av : α)

/-- end to end: set parameters by label, then `CalculateRateConstants`: reaction `r` in cell `c`
    is evaluated on the values set for its own labels -/
theorem C15_rate_constant_by_label (procs : List (RateProc α))
    (hnd : (labelsOf procs).Nodup) (sets : List (String × Array α)) (params0 params : Mat α)
    (hrows : ∀ c (hc : c < params0.size), params0[c].size = (labelsOf procs).length)
    (hfill : fillParams (labelsOf procs) params0 sets = some params)
    (conds : Array (Conditions α)) (c : Nat) (hc : c < conds.size) (hc0 : c < params0.size)
    (r : Nat) (hr : r < procs.length)
    (hset : ∀ l ∈ procs[r].kind.labels, (lastSet sets l).isSome) :
    ((calculateRateConstants t pi av procs conds params)[c]'(by
        rw [calculateRateConstants_size]; exact hc))[r]'(by
        rw [calculateRateConstants_row_size t pi av procs conds params c hc]; exact hr) =
      procs[r].kind.calc t pi av conds[c]
          (procs[r].kind.labels.map fun l => ((lastSet sets l).getD #[]).getD c 0)
        * fixedReactants conds[c] procs[r].nParamReactants := by
  rw [C15_association_cells t pi av procs conds params c hc r hr,
    C15_labels_reach_their_reaction procs hnd sets params0 params hrows hfill c hc0 r hr hset]

variable (L : Nat) (conds : Array (Conditions α)) (vcp : Array α)

/-- For every `L ≥ 1`, every cell count (incl. a partial last group), every real cell `c` and
    reaction `r`: the slot `addr c r` of the flat `VectorMatrix<L>` rate-constant storage is in
    range (C19), is the slot of no other (cell, reaction) pair (C19), and after the vector overload
    holds the row-wise value `rateConstGo … conds[c] procs (logical row c of the flat parameter
    storage)` at index `r`.  `vcp` is arbitrary (reads are total); `vrc` has the container's size. -/
theorem C15_vector_eq_rowwise (procs : List (RateProc α)) (hL : 1 ≤ L)
    (vrc : Array α) (hvrc : vrc.size = (DenseShape.mk conds.size procs.length L).size)
    (c : Nat) (hc : c < conds.size) (r : Nat) (hr : r < procs.length) :
    (DenseShape.mk conds.size procs.length L).addr c r <
        (calculateRateConstantsVec t pi av L conds.size procs conds vcp vrc).size ∧
    (∀ c' r', c' < conds.size → r' < procs.length →
        (DenseShape.mk conds.size procs.length L).addr c' r' =
          (DenseShape.mk conds.size procs.length L).addr c r → c' = c ∧ r' = r) ∧
    rd (calculateRateConstantsVec t pi av L conds.size procs conds vcp vrc)
        ((DenseShape.mk conds.size procs.length L).addr c r) =
      (rateConstGo t pi av conds[c] procs
        (logicalRow ⟨conds.size, nParamsTotal procs, L⟩ vcp c))[r]'(by
          rw [rateConstGo_length]; exact hr) := by
  refine ⟨?_, ?_, calculateRateConstantsVec_addr t pi av L conds vcp procs hL vrc hvrc c hc r hr⟩
  · rw [(calculateRateConstantsVec_keeps t pi av L conds vcp procs conds.size hL vrc).1, hvrc]
    exact C19_dense_addr_lt _ hc hr
  · intro c' r' hc' hr' h
    exact C19_dense_addr_inj _ hc' hr' hc hr h

/-- the same against `calculateRateConstants` (the executed model): if `params` holds the logical
    rows of the flat parameter storage, the flat result at `addr c r` is `rate_constants[c][r]` -/
theorem C15_vector_eq_calculateRateConstants (procs : List (RateProc α)) (hL : 1 ≤ L)
    (vrc : Array α) (hvrc : vrc.size = (DenseShape.mk conds.size procs.length L).size)
    (params : Mat α)
    (hparams : ∀ c, c < conds.size →
      (params.getD c #[]).toList = logicalRow ⟨conds.size, nParamsTotal procs, L⟩ vcp c)
    (c : Nat) (hc : c < conds.size) (r : Nat) (hr : r < procs.length) :
    rd (calculateRateConstantsVec t pi av L conds.size procs conds vcp vrc)
        ((DenseShape.mk conds.size procs.length L).addr c r) =
      ((calculateRateConstants t pi av procs conds params)[c]'(by
        rw [calculateRateConstants_size]; exact hc))[r]'(by
        rw [calculateRateConstants_row_size t pi av procs conds params c hc]; exact hr) := by
  rw [calculateRateConstantsVec_addr t pi av L conds vcp procs hL vrc hvrc c hc r hr]
  simp only [calculateRateConstants_row t pi av procs conds params c hc, List.getElem_toArray,
    hparams c hc]

/-- nothing else is written: a slot that is not the address of a (real cell, reaction) pair
    (padding lanes of a partial last group) keeps its content, and the size is unchanged -/
theorem C15_vector_frame (procs : List (RateProc α)) (nCells : Nat) (hL : 1 ≤ L)
    (vrc : Array α) (hvrc : vrc.size = (DenseShape.mk nCells procs.length L).size) :
    (calculateRateConstantsVec t pi av L nCells procs conds vcp vrc).size = vrc.size ∧
    ∀ i, (∀ c, c < nCells → ∀ r, r < procs.length →
        i ≠ (DenseShape.mk nCells procs.length L).addr c r) →
      rd (calculateRateConstantsVec t pi av L nCells procs conds vcp vrc) i = rd vrc i :=
  -- `hvrc` is not needed: the model drops out-of-range writes
  calculateRateConstantsVec_keeps t pi av L conds vcp procs nCells hL vrc

end

section Examples

/-- the mix `[arrhenius, surface "s", userDefined "u", troe]` (0, 2, 1, 0 custom parameters),
    over `Int` so that everything is decidable -/
def exMix : List (RateProc Int) :=
  [⟨.arrhenius 1 0 0 1 0, 0⟩, ⟨.surface "s" 1 1 1, 0⟩, ⟨.userDefined "u" 3, 1⟩,
   ⟨.troe 1 0 0 1 0 0 1 1, 2⟩]

example : paramOffset exMix 0 = 0 := by decide
example : paramOffset exMix 1 = 0 := by decide
example : paramOffset exMix 2 = 2 := by decide
example : paramOffset exMix 3 = 3 := by decide
example : (List.range 4).map (paramOffset exMix) = [0, 0, 2, 3] := rfl
example : nParamsTotal exMix = 3 := rfl
example : exMix.map (·.kind.nParams) = [0, 2, 1, 0] := rfl

example : labelsOf exMix =
    ["s.effective radius [m]", "s.particle number concentration [# m-3]", "u"] := by decide
example : (labelsOf exMix).Nodup := by decide
example : paramMap (labelsOf exMix) "u" = some 2 := by decide
example : paramMap (labelsOf exMix) "v" = none := by decide

/-- trivial transcendental stubs (the formulas are opaque for C15) -/
def exTOps : TOps Int := ⟨fun _ => 1, fun _ _ => 1, fun _ => 0, fun _ => 1, fun n => n, fun _ => 1⟩
/-- three cells, air densities 2, 3, 5 -/
def exConds : Array (Conditions Int) := #[⟨1, 1, 2⟩, ⟨1, 1, 3⟩, ⟨1, 1, 5⟩]
/-- calls in an order unrelated to the column order; `"u"` is set twice (last one wins) -/
def exSets : List (String × Array Int) :=
  [("u", #[7, 8, 9]), ("s.particle number concentration [# m-3]", #[1, 2, 3]),
   ("s.effective radius [m]", #[10, 20, 30]), ("u", #[70, 80, 90])]
def exParams : Mat Int := #[#[10, 1, 70], #[20, 2, 80], #[30, 3, 90]]

-- the hypotheses of `C15_labels_reach_their_reaction` / `C15_rate_constant_by_label` hold here
example : fillParams (labelsOf exMix) (Array.replicate 3 (Array.replicate 3 0)) exSets =
    some exParams := by decide +kernel
example : ∀ l ∈ labelsOf exMix, (lastSet exSets l).isSome := by decide +kernel
-- surface: number·r²/(r+1) (integer division), user-defined: 3·u·air, e.g. 9 = 1·100/11, 420 = 3·70·2
example : calculateRateConstants exTOps 1 1 exMix exConds exParams =
    #[#[1, 9, 420, 0], #[1, 38, 720, 0], #[1, 87, 1350, 0]] := by decide +kernel

-- `L = 2`, 3 cells (one full group + a partial group): `-5` in the padding lanes of the parameter
-- storage, rate-constant storage pre-filled with `-1`, so that a read or write of padding would show
def exVcp : Array Int := #[10, 20, 1, 2, 70, 80, 30, -5, 3, -5, 90, -5]
example : (List.range 3).map (logicalRow ⟨3, 3, 2⟩ exVcp) = exParams.toList.map Array.toList := by
  decide +kernel
example : calculateRateConstantsVec exTOps 1 1 2 3 exMix exConds exVcp (Array.replicate 16 (-1)) =
    #[1, 1, 9, 38, 420, 720, 0, 0, 1, -1, 87, -1, 1350, -1, 0, -1] := by decide +kernel

-- `Nodup` is needed: with a repeated label the map keeps the LAST column, so the first of two
-- reactions sharing the label "u" never receives the value (its column stays at the initial 0).
-- The implementation has no duplicate-label check (observation; outside the property's domain).
def exDup : List (RateProc Int) := [⟨.userDefined "u" 1, 0⟩, ⟨.userDefined "u" 1, 0⟩]
example : fillParams (labelsOf exDup) #[#[0, 0]] [("u", #[7])] = some #[#[0, 7]] := by
  decide +kernel

end Examples

#print axioms C15_association
#print axioms C15_shape
#print axioms C15_association_cells
#print axioms C15_cell_independence
#print axioms C15_labels_length
#print axioms C15_labels_positions
#print axioms C15_label_map
#print axioms C15_set_by_label
#print axioms C15_labels_reach_their_reaction
#print axioms C15_rate_constant_by_label
#print axioms C15_vector_eq_rowwise
#print axioms C15_vector_eq_calculateRateConstants
#print axioms C15_vector_frame

end Micm
