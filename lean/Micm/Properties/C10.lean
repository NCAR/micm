/-
  C10 — non-negative results; a NaN is never silently accepted.

  All statements are about the model definitions `clampNonNeg`, `normalizedError`, `ctlDecide`,
  `rosStep`, `rosLoop`, `beIsConverged`, `beStep`, `beSolve` themselves.

  The carrier is arbitrary.  The IEEE-754 facts about NaN that are used are collected in the
  structure `NaNLaws o` (Lemmas/Special.lean): `+ − * /`, `abs`, `sqrt` propagate NaN, every
  comparison with a NaN is false, NaN is not finite, `(double) n` is not NaN.  They are ASSUMED for
  `Float` (binary64) and PROVED for the carrier `NaNRat = Option Rat` (`nanRatOps_laws`, `none` = NaN), so
  no theorem below is vacuous; the examples at the end are on that carrier.

  Claimed: after `variables_.Max(0.0)` no entry is `< 0` (NaN included); a NaN in `Yerror` at a real
  (cell, variable) makes the error norm NaN, the decision `nan`, the attempt and the solve end
  `NaNDetected`, never `Converged`; in backward Euler a NaN residual or new value makes `IsConverged`
  false, and `Converged` implies that everything the last convergence test looked at is finite;
  `max(y+f, 0)` keeps a NaN where the former `max(0, y+f)` replaced it by `0` (DESIGN §5, item 3); a NaN
  rate constant or reactant concentration makes the forcing of all reactants and products of that
  reaction NaN (first link of the chain forcing → K₀ → Yerr → error).
  The remaining links "NaN forcing ⇒ NaN `Yerror`" through LU / substitution / the stage combination are in
  `C10b.lean`; here the hypothesis of `C10_ros_nan` is on `Yerror`, i.e. on `attYerr`.  Overflow to `Inf`
  from finite inputs is not modelled (DESIGN: "proof, partial").
-/
import Micm.Lemmas.Special
import Micm.Lemmas.RosLoop
namespace Micm
set_option linter.unusedSectionVars false

/-- `Solver::Solve` ends with `state.variables_.Max(0.0)`, i.e. `v ↦ std::max(v, 0.0)
    = (v < 0) ? 0 : v` on every element.  Under the single hypothesis `¬ (0 < 0)`:
    no entry of the result is `< 0` — also when `v` is NaN (`NaN < 0` is false, NaN is kept).
    Shape is preserved and every in-range entry is `cmax o v 0` of the old entry. -/
theorem C10_nonneg {α : Type} [OfNat α 0] (o : Ops α) (h00 : o.lt 0 0 = false) (Y : Mat α) :
    (∀ row ∈ clampNonNeg o Y, ∀ x ∈ row, o.lt x 0 = false) ∧
    (∀ c v, o.lt (rd ((clampNonNeg o Y).getD c #[]) v) 0 = false) ∧
    (clampNonNeg o Y).size = Y.size ∧
    (∀ c v, c < Y.size → v < (Y.getD c #[]).size →
      rd ((clampNonNeg o Y).getD c #[]) v = cmax o (rd (Y.getD c #[]) v) 0) := by
  refine ⟨?_, ?_, clampNonNeg_size o Y, ?_⟩
  · intro row hrow x hx
    obtain ⟨_, _, v, _, rfl⟩ := mem_clampNonNeg o Y row x hrow hx
    exact cmax_zero_not_lt o h00 v
  · intro c v
    rw [rd_clampNonNeg]
    split
    · exact cmax_zero_not_lt o h00 _
    · exact h00
  · intro c v hc hv
    rw [rd_clampNonNeg, if_pos ⟨hc, hv⟩]

section NaN
variable {α : Type} [OfNat α 0] [OfNat α 1] [Add α] [Sub α] [Mul α] [Div α]
variable {o : Ops α}

/-- If the error-estimate matrix has a NaN at a real (cell, variable) position — `c < #cells`,
    `v < nVars` (these are exactly the members of `normOrder`, for both layouts) — the error norm is
    NaN: the term is NaN, a sum with a NaN term is NaN, so are `/ N`, `sqrt`, and
    `std::max(NaN, errorMin)` returns its first argument. -/
theorem C10_norm_nan (hl : NaNLaws o) (cs : Consts α) (L nVars : Nat) (atol : Array α) (rtol : α)
    (y ynew err : Mat α) (c v : Nat) (hc : c < y.size) (hv : v < nVars)
    (h : o.isNaN (rd (err.getD c #[]) v) = true) :
    o.isNaN (normalizedError o cs L nVars atol rtol y ynew err) = true :=
  hl.normalizedError_term cs L nVars atol rtol y ynew err c v
    ((mem_normOrder L y.size nVars c v).2 ⟨hc, hv⟩) (hl.errTerm atol rtol y ynew err c v h)

/-- more generally: any NaN *term* of the norm (e.g. from a NaN tolerance or NaN `y`) -/
theorem C10_norm_nan_term (hl : NaNLaws o) (cs : Consts α) (L nVars : Nat) (atol : Array α) (rtol : α)
    (y ynew err : Mat α) (c v : Nat) (hc : c < y.size) (hv : v < nVars)
    (h : o.isNaN (errTerm o atol rtol y ynew err c v) = true) :
    o.isNaN (normalizedError o cs L nVars atol rtol y ynew err) = true :=
  hl.normalizedError_term cs L nVars atol rtol y ynew err c v
    ((mem_normOrder L y.size nVars c v).2 ⟨hc, hv⟩) h

/-- a NaN error is answered by the `nan` decision with the controller state untouched
    (no law needed: `std::isnan(error)` is the first test) -/
theorem C10_decide_nan (o : Ops α) (p : RosParams α) (hmaxEff : α) (c : Ctl α) (error : α)
    (h : o.isNaN error = true) : ctlDecide o p hmaxEff c error = (.nan, c) := by
  rw [ctlDecide_eq, if_pos h]

variable (cs : Consts α) (s : SolverCfg α) (p : RosParams α) (kc : Mat α)
    (atol : Array α) (rtol : α) (timeStep hm : α)

/-- One iteration of the Rosenbrock loop in which an attempt is made (the prologue leaves the
    status `running`) and whose error norm is NaN ends with status `NaNDetected`; the attempt is
    recorded as not accepted. -/
theorem C10_ros_nan_error (o : Ops α) (r : RState α)
    (hrun : (rosPrologue o cs s p kc timeStep r).status = .running)
    (hnan : o.isNaN (attError o cs s p kc atol rtol (rosPrologue o cs s p kc timeStep r)) = true) :
    (rosStep o cs s p kc atol rtol timeStep hm r).status = .nanDetected ∧
    (∃ att, (rosStep o cs s p kc atol rtol timeStep hm r).trace = att :: r.trace ∧ att.accepted = false) := by
  have hd : attDecide o cs s p kc atol rtol hm (rosPrologue o cs s p kc timeStep r) =
      (.nan, (rosPrologue o cs s p kc timeStep r).ctl) := by
    unfold attDecide; exact C10_decide_nan o p hm _ _ hnan
  refine ⟨?_, ?_⟩
  · rw [rosStep_attempt _ _ _ _ _ _ _ _ _ _ hrun, rosAttempt_status, hd]
  · refine ⟨attRecord o cs s p kc atol rtol hm (rosPrologue o cs s p kc timeStep r), ?_, ?_⟩
    · rw [rosStep_trace, if_pos hrun]
    · simp [attRecord, hd, decision_beq_accept]

/-- the same with the NaN located in the error-estimate matrix `Yerror` of the attempt -/
theorem C10_ros_nan (hl : NaNLaws o) (r : RState α)
    (hrun : (rosPrologue o cs s p kc timeStep r).status = .running)
    (c v : Nat) (hc : c < r.Y.size) (hv : v < s.nSpecies)
    (hnan : o.isNaN (rd ((attYerr s p kc (rosPrologue o cs s p kc timeStep r)).getD c #[]) v) = true) :
    (rosStep o cs s p kc atol rtol timeStep hm r).status = .nanDetected := by
  refine (C10_ros_nan_error cs s p kc atol rtol timeStep hm o r hrun ?_).1
  unfold attError
  refine C10_norm_nan hl cs s.L s.nSpecies atol rtol _ _ _ c v ?_ hv hnan
  rw [(rosPrologue_frame o cs s p kc timeStep r).2.1]; exact hc

/-- hence the whole loop (and `rosSolve`, which returns the loop's status) ends `NaNDetected`,
    never `Converged`, when the next attempt has a NaN error norm -/
theorem C10_ros_nan_final (o : Ops α) (fuel : Nat) (r : RState α) (hr : r.status = .running)
    (hrun : (rosPrologue o cs s p kc timeStep r).status = .running)
    (hnan : o.isNaN (attError o cs s p kc atol rtol (rosPrologue o cs s p kc timeStep r)) = true) :
    (rosLoop o cs s p kc atol rtol timeStep hm (fuel + 1) r).status = .nanDetected := by
  have h1 := (C10_ros_nan_error cs s p kc atol rtol timeStep hm o r hrun hnan).1
  rw [rosLoop_succ, if_pos hr, rosLoop_not_running]
  · exact h1
  · rw [h1]; decide

/-- **NaN concentration / NaN rate constant ⇒ NaN forcing.**  For the tables built from a mechanism
    (`ProcessSet.build … = ok t`, reactions resolved to id lists `rxns`): if the `n`-th reaction has a
    NaN rate constant, or a NaN concentration for one of its (non-parameterized) reactants, then
    `AddForcingTerms` leaves a NaN in the forcing of every reactant and every product of that
    reaction (for in-range species ids; out-of-range writes do not exist in a built solver, C01). -/
theorem C10_forcing_nan (hl : NaNLaws o) {m : NameMap} {procs : List (Process α)} {t : PSTables α}
    {rxns : List (RRxn α)} (hb : ProcessSet.build procs m = .ok t) (hr : Resolves m procs rxns)
    (k y f : Array α) (n : Nat) (rx : RRxn α) (kn : α) (hrx : rxns[n]? = some rx) (hk : k[n]? = some kn)
    (hnan : o.isNaN kn = true ∨ ∃ j ∈ rx.1, o.isNaN (rd y j) = true)
    (i : Nat) (hi : i < f.size) (hmem : i ∈ rx.1 ∨ ∃ p ∈ rx.2, p.1 = i) :
    o.isNaN (rd (t.addForcingCell k y f) i) = true := by
  rw [ProcessSet.build_ok_addForcingCell hb hr]
  exact hl.forcingSpec_nan y rxns k.toList f n rx kn hrx (by simpa using hk) hnan i hi hmem

/-- the same for a whole `forcing` evaluation of the solver (cell `c` of the dense matrices) -/
theorem C10_forcing_nan_cell (hl : NaNLaws o) (s : SolverCfg α) {m : NameMap} {procs : List (Process α)}
    {rxns : List (RRxn α)} (hb : ProcessSet.build procs m = .ok s.tables) (hr : Resolves m procs rxns)
    (kc Y F : Mat α) (c : Nat) (hc : c < F.size) (n : Nat) (rx : RRxn α) (kn : α)
    (hrx : rxns[n]? = some rx) (hk : (kc.getD c #[])[n]? = some kn)
    (hnan : o.isNaN kn = true ∨ ∃ j ∈ rx.1, o.isNaN (rd (Y.getD c #[]) j) = true)
    (i : Nat) (hi : i < (F.getD c #[]).size) (hmem : i ∈ rx.1 ∨ ∃ p ∈ rx.2, p.1 = i) :
    o.isNaN (rd ((s.forcing kc Y F).getD c #[]) i) = true := by
  have e : (s.forcing kc Y F).getD c #[] =
      s.tables.addForcingCell (kc.getD c #[]) (Y.getD c #[]) (F.getD c #[]) :=
    getD_mapIdx _ F c hc #[] #[]
  rw [e]
  exact C10_forcing_nan hl hb hr _ _ _ n rx kn hrx hk hnan i hi hmem

end NaN

section BE
variable {α : Type} [OfNat α 0] [OfNat α 1] [OfNat α 2] [Add α] [Sub α] [Mul α] [Div α]
variable {o : Ops α} (s : SolverCfg α) (p : BEParams α) (kc : Mat α) (atol : Array α) (rtol : α)
    (timeStep : α)

/-- `IsConverged` answers `false` as soon as one residual or one new value it visits is NaN
    (first conjuncts `isfinite(residual) && isfinite(Yn1)`).  The visited positions are those of
    the residual matrix: `c < res.size`, `v < res[c].size`. -/
theorem C10_be_isConverged_nan (hl : NaNLaws o) (small : α) (res yn1 : Mat α) (c v : Nat)
    (hc : c < res.size) (hv : v < (res.getD c #[]).size)
    (h : o.isNaN (rd (res.getD c #[]) v) = true ∨ o.isNaN (rd (yn1.getD c #[]) v) = true) :
    beIsConverged o small atol rtol res yn1 = false := by
  cases hb : beIsConverged o small atol rtol res yn1
  · rfl
  · obtain ⟨f1, f2⟩ := beIsConverged_true o atol rtol small res yn1 hb c v hc hv
    rcases h with h | h
    · rw [hl.notFinite _ h] at f1; cases f1
    · rw [hl.notFinite _ h] at f2; cases f2

/-- A Newton iteration (the post-head state is not `done`) whose residual or new iterate has a NaN
    at a visited position is never an accepting one: `accepted` and `Yn` are unchanged and the
    status is the post-head status (`running` inside an outer iteration) or
    `acceptingUnconvergedIntegration` — not a fresh `converged`. -/
theorem C10_be_not_converged (hl : NaNLaws o) (r : BEState α) (c v : Nat)
    (hc : c < (beResidual s kc (beHead o timeStep r)).size)
    (hv : v < ((beResidual s kc (beHead o timeStep r)).getD c #[]).size)
    (h : o.isNaN (rd ((beResidual s kc (beHead o timeStep r)).getD c #[]) v) = true ∨
         o.isNaN (rd ((beNewY o s kc (beHead o timeStep r)).getD c #[]) v) = true) :
    beConv o s p kc atol rtol (beHead o timeStep r) = false ∧
    (beStep o s p kc atol rtol timeStep r).stats.accepted = r.stats.accepted ∧
    (beStep o s p kc atol rtol timeStep r).Yn = r.Yn ∧
    ((beStep o s p kc atol rtol timeStep r).status = (beHead o timeStep r).status ∨
     (beStep o s p kc atol rtol timeStep r).status = .acceptingUnconvergedIntegration) := by
  have hconv : beConv o s p kc atol rtol (beHead o timeStep r) = false := by
    unfold beConv; split
    · rfl
    · exact C10_be_isConverged_nan atol rtol hl p.small _ _ c v hc hv h
  exact ⟨hconv, beStep_of_not_conv o s p kc atol rtol timeStep r hconv⟩

/-- `beSolve` reports `Converged` only if the last inner loop saw finite data: every residual
    (returned in `sc.f0`, the model's `forcing_`) and every value of the result `Y` at a position
    visited by the last convergence test is finite — hence, under `NaNLaws`, not NaN.
    (No law is needed for the finiteness statement itself.) -/
theorem C10_be_converged_finite (o : Ops α) (Y : Mat α) (sc : Scratch α) (fuel : Nat)
    (h : (beSolve o s p kc atol rtol timeStep Y sc fuel).status = .converged) :
    ∀ c v, c < (beSolve o s p kc atol rtol timeStep Y sc fuel).sc.f0.size →
      v < ((beSolve o s p kc atol rtol timeStep Y sc fuel).sc.f0.getD c #[]).size →
      o.isFinite (rd ((beSolve o s p kc atol rtol timeStep Y sc fuel).sc.f0.getD c #[]) v) = true ∧
      o.isFinite (rd ((beSolve o s p kc atol rtol timeStep Y sc fuel).Y.getD c #[]) v) = true := by
  unfold beSolve at h ⊢
  simp only [] at h ⊢
  refine (BEConvInv_loop o s p kc atol rtol timeStep fuel _ ?_ h).2
  intro hc; cases hc

theorem C10_be_converged_no_nan (hl : NaNLaws o) (Y : Mat α) (sc : Scratch α) (fuel : Nat)
    (h : (beSolve o s p kc atol rtol timeStep Y sc fuel).status = .converged) (c v : Nat)
    (hc : c < (beSolve o s p kc atol rtol timeStep Y sc fuel).sc.f0.size)
    (hv : v < ((beSolve o s p kc atol rtol timeStep Y sc fuel).sc.f0.getD c #[]).size) :
    o.isNaN (rd ((beSolve o s p kc atol rtol timeStep Y sc fuel).Y.getD c #[]) v) = false := by
  have hf := (C10_be_converged_finite s p kc atol rtol timeStep o Y sc fuel h c v hc hv).2
  cases hn : o.isNaN (rd ((beSolve o s p kc atol rtol timeStep Y sc fuel).Y.getD c #[]) v)
  · rfl
  · rw [hl.notFinite _ hn] at hf; cases hf

/-- the clamp of the current source, `std::max(y + f, 0.0)`, keeps a NaN … -/
theorem C10_be_clamp_keeps_nan (hl : NaNLaws o) (y f : α) (h : o.isNaN (y + f) = true) :
    cmax o (y + f) 0 = y + f ∧ o.isNaN (cmax o (y + f) 0) = true := by
  rw [hl.cmax_left _ _ h]; exact ⟨rfl, h⟩

/-- … whereas the former `std::max(0.0, y + f)` replaced it by `0.0` (the defect that was fixed:
    with it a NaN concentration became `0` and `IsConverged` could then answer `true`). -/
theorem C10_be_old_clamp_loses_nan (hl : NaNLaws o) (y f : α) (h : o.isNaN (y + f) = true) :
    cmax o 0 (y + f) = 0 :=
  hl.cmax_right _ _ h

/-- in `beStep`: a NaN update entry gives a NaN new value (in-range positions) -/
theorem C10_be_newY_nan (hl : NaNLaws o) (r : BEState α) (c v : Nat) (hc : c < r.Yn1.size)
    (hv : v < (r.Yn1.getD c #[]).size)
    (h : o.isNaN (rd ((beResidual s kc r).getD c #[]) v) = true ∨ o.isNaN (rd (r.Yn1.getD c #[]) v) = true) :
    o.isNaN (rd ((beNewY o s kc r).getD c #[]) v) = true := by
  have e : rd ((beNewY o s kc r).getD c #[]) v =
      cmax o (rd (r.Yn1.getD c #[]) v + rd ((beResidual s kc r).getD c #[]) v) 0 := by
    unfold beNewY
    rw [getD_mapIdx _ r.Yn1 c hc #[] #[], rd_mapIdx _ _ _ hv]
  rw [e]
  have hs : o.isNaN (rd (r.Yn1.getD c #[]) v + rd ((beResidual s kc r).getD c #[]) v) = true :=
    hl.add _ _ (h.symm)
  exact (C10_be_clamp_keeps_nan hl _ _ hs).2

end BE

example : NaNLaws nanRatOps := nanRatOps_laws
example : nanRatOps.lt (0 : NaNRat) 0 = false := by decide

example :
    nanRatOps.isNaN (normalizedError nanRatOps ⟨1, 1, 1, 1⟩ 2 2 #[1, 1] 1
      #[#[1, 2], #[3, 4]] #[#[1, 2], #[3, 4]] #[#[0, 0], #[NaNRat.nan, 0]]) = true :=
  C10_norm_nan nanRatOps_laws _ 2 2 _ _ _ _ _ 1 0 (by decide) (by decide) rfl

example : cmax nanRatOps (NaNRat.nan + 1) 0 = NaNRat.nan ∧ cmax nanRatOps 0 (NaNRat.nan + 1) = 0 :=
  ⟨rfl, rfl⟩

example : clampNonNeg nanRatOps #[#[NaNRat.ofRat (-3), 2, NaNRat.nan]] = #[#[0, 2, NaNRat.nan]] := by
  decide +kernel

def c10procs : List (Process NaNRat) := [{ reactants := [⟨"A", false⟩], products := [(⟨"B", false⟩, 1)] }]
def c10map : NameMap := [("A", 0), ("B", 1)]
def c10tables : PSTables NaNRat :=
  { tablesOf [([0], [(1, 1)])] with jInfo := [⟨0, 0, 0, 1⟩], jReactIds := [], jProdIds := [1], jYields := [1] }

theorem c10_build : ProcessSet.build c10procs c10map = .ok c10tables := rfl
theorem c10_resolves : Resolves c10map c10procs [([0], [(1, 1)])] := rfl

example :
    nanRatOps.isNaN (rd (c10tables.addForcingCell #[2] #[NaNRat.nan, 1] #[0, 0]) 0) = true ∧
    nanRatOps.isNaN (rd (c10tables.addForcingCell #[2] #[NaNRat.nan, 1] #[0, 0]) 1) = true :=
  ⟨C10_forcing_nan nanRatOps_laws c10_build c10_resolves _ _ _ 0 _ 2 rfl rfl
      (Or.inr ⟨0, List.mem_cons_self, rfl⟩) 0 (by decide) (Or.inl List.mem_cons_self),
   C10_forcing_nan nanRatOps_laws c10_build c10_resolves _ _ _ 0 _ 2 rfl rfl
      (Or.inr ⟨0, List.mem_cons_self, rfl⟩) 1 (by decide) (Or.inr ⟨(1, 1), List.mem_cons_self, rfl⟩)⟩

#print axioms C10_nonneg
#print axioms C10_norm_nan
#print axioms C10_norm_nan_term
#print axioms C10_decide_nan
#print axioms C10_ros_nan_error
#print axioms C10_ros_nan
#print axioms C10_ros_nan_final
#print axioms C10_forcing_nan
#print axioms C10_forcing_nan_cell
#print axioms C10_be_isConverged_nan
#print axioms C10_be_not_converged
#print axioms C10_be_converged_finite
#print axioms C10_be_converged_no_nan
#print axioms C10_be_clamp_keeps_nan
#print axioms C10_be_old_clamp_loses_nan
#print axioms C10_be_newY_nan

end Micm
