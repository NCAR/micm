/-
C07 / C06 at the intended interpretation — the real numbers with the real power and square root.

The C06/C07 theorems about the Rosenbrock controller are stated over an arbitrary ordered field with an
UNINTERPRETED `pow`, and carry the hypothesis `∀ x, 1 ≤ x → 1 ≤ pow x (1/order)`.  Here the carrier is `ℝ`,
`pow = Real.rpow`, `sqrt = Real.sqrt`: the hypothesis is a theorem whenever `estimator_of_local_order > 0`, so
the controller statements hold for the genuine error norm and step-size formula, with no hypothesis left about `pow`.
-/
import Mathlib.Analysis.SpecialFunctions.Pow.Real
import Micm.Properties.C07

namespace Micm
set_option linter.unusedSectionVars false

noncomputable def realOps : Ops ℝ := orderOps Real.sqrt Real.rpow Nat.cast

theorem C07_realOps_ordered : OrderedOps realOps := orderOps_ordered _ _ _

/-- the `pow` hypothesis of `C07_reject_shrinks` / `C06_time_bounds` / `C06_ros_terminates` holds for the real
    power as soon as the order of the estimator is positive -/
theorem C07_real_pow_hypothesis (order : ℝ) (ho : 0 < order) :
    ∀ x : ℝ, 1 ≤ x → 1 ≤ realOps.pow x (1 / order) := by
  intro x hx
  show 1 ≤ Real.rpow x (1 / order)
  exact Real.one_le_rpow hx (le_of_lt (one_div_pos.mpr ho))

/-- **every rejection shrinks the step, over `ℝ` with the real power** (no hypothesis on `pow`) -/
theorem C07_reject_shrinks_real (p : RosParams ℝ) (hm : ℝ) (c : Ctl ℝ) (e : ℝ) (lp : LegalParams p)
    (hs1 : p.safety < 1) (hord : 0 < p.order)
    (h : (ctlDecide realOps p hm c e).1 = .reject) (hh : 0 < c.h) :
    0 < (ctlDecide realOps p hm c e).2.h ∧ (ctlDecide realOps p hm c e).2.h < c.h :=
  C07_reject_shrinks p hm c e C07_realOps_ordered lp hs1 (C07_real_pow_hypothesis p.order hord) h hh

/-- the clamp of the step-size ratio over `ℝ`: `min fmax (max fmin (safety / err^(1/order)))` with the real power -/
theorem C07_stepFac_real (p : RosParams ℝ) (e : ℝ) :
    stepFac realOps p e = min p.fmax (max p.fmin (p.safety / Real.rpow e (1 / p.order))) := by
  rw [C07_realOps_ordered.stepFac_eq]; rfl

/-- a tighter error gives a larger proposed factor: the real power is monotone on `[0, ∞)` for a positive exponent,
    so `err ≤ err'` (both positive) implies `stepFac err' ≤ stepFac err` -/
theorem C07_stepFac_antitone_real (p : RosParams ℝ) (lp : LegalParams p) (hord : 0 < p.order) (e e' : ℝ)
    (he : 0 < e) (hle : e ≤ e') : stepFac realOps p e' ≤ stepFac realOps p e := by
  rw [C07_stepFac_real, C07_stepFac_real]
  have hexp : 0 ≤ 1 / p.order := le_of_lt (one_div_pos.mpr hord)
  have h1 : Real.rpow e (1 / p.order) ≤ Real.rpow e' (1 / p.order) := Real.rpow_le_rpow (le_of_lt he) hle hexp
  have h0 : 0 < Real.rpow e (1 / p.order) := Real.rpow_pos_of_pos he _
  have h2 : p.safety / Real.rpow e' (1 / p.order) ≤ p.safety / Real.rpow e (1 / p.order) :=
    div_le_div_of_nonneg_left (le_of_lt lp.safety_pos) h0 h1
  exact min_le_min (le_refl _) (max_le_max (le_refl _) h2)

end Micm
