/-
C13 — grid cells are independent; any cell count works (forcing kernels).

"forcing … of one grid cell depend only on that cell's own inputs: changing or permuting other
cells never changes them bit-wise … for every N and every vector group length, including N smaller
than or not divisible by the group length."

Theorems about the flat-storage kernels of `Micm/Model/FlatKernels.lean`
(`PSTables.addForcingFlatRow`: `AddForcingTerms` for the row-major `Matrix`;
 `PSTables.addForcingFlatVec L`: `AddForcingTerms` for `VectorMatrix<L>`, which runs all `L` lanes of
 every group — padding lanes included — with an `L`-lane `rate` buffer;
 `PSTables.addForcingFlat L`: both behind one entry point, `L = 0` meaning row-major)
and the per-cell kernel `PSTables.addForcingCell` of `Micm/Model/ProcessSet.lean` (the one C01's
mass-action theorems speak of).  `DenseShape.addr` is the container's address map (C19),
`flatRow s data c` is logical row `c` of a flat dense matrix.

Everything is parametric in the element type: only `[OfNat α 0] [Add α] [Sub α] [Mul α]`, no
algebraic law is used, so every statement holds verbatim for `Float` (bit for bit) — see the
`Float` instance in `C13Ex`.

Hypotheses of the lane theorem:
 * `F.size = sY.size`: the forcing storage has the container's size (so cell `c`'s writes land; the
   model drops out-of-range writes);
 * the species ids of the tables are `< nSpecies` (an out-of-range id would address the next
   group's / next cell's slots);
 * `min t.nReact.length t.nProd.length ≤ nRxn`: the kernels walk
   `min (number_of_reactants_.size()) (number_of_products_.size())` reactions (in the C++ both
   vectors have one entry per process, and `rate_constants` has one column per process, i.e.
   `t.nReact.length = t.nProd.length = nRxn`); a reaction index `≥ nRxn` would read the rate
   constant of another id/cell.
 No hypothesis on `K.size`, `Y.size` is needed for the equalities (reads are total in the model);
 `C13_bounds` shows separately that with `K.size = sK.size`, `Y.size = sY.size` every address the
 kernels form is inside its storage.

Proofs: the view argument of `Micm/Lemmas/LaneView.lean`.
-/
import Micm.Lemmas.Lanes
namespace Micm

section
variable {α : Type} [OfNat α 0] [Add α] [Sub α] [Mul α]

/-- **Lane theorem.**  For both layouts (`L = 0`: row-major; every `L ≥ 1`: groups of `L` lanes),
    every cell count `nCells` (also `nCells < L`, `nCells % L ≠ 0`) and every real cell
    `c < nCells`: logical row `c` of the flat kernel's result is the per-cell kernel applied to
    logical row `c` of the rate constants, of the state and of the incoming forcing. -/
theorem C13_forcing_flat_eq_cell (t : PSTables α) (L nCells nRxn nSpecies : Nat) (K Y F : Array α)
    (hF : F.size = (DenseShape.mk nCells nSpecies L).size)
    (hr : ∀ i ∈ t.reactIds, i < nSpecies) (hp : ∀ i ∈ t.prodIds, i < nSpecies)
    (hlen : min t.nReact.length t.nProd.length ≤ nRxn) (c : Nat) (hc : c < nCells) :
    flatRow ⟨nCells, nSpecies, L⟩ (t.addForcingFlat L nCells nRxn nSpecies K Y F) c
      = t.addForcingCell (flatRow ⟨nCells, nRxn, L⟩ K c) (flatRow ⟨nCells, nSpecies, L⟩ Y c)
          (flatRow ⟨nCells, nSpecies, L⟩ F c) := by
  have V0 := View.ofSparseRow (L := L) (nnz := nSpecies) (blocks := nCells) hF hc
  have hY := reads_sparseRow L nSpecies Y c
  simp only [flatRow_eq_sparseRow]
  apply View.sparseRow_eq
  unfold PSTables.addForcingFlat PSTables.addForcingFlatRow PSTables.addForcingFlatVec PSTables.addForcingCell
  simp only [forcingRowGo_eq_vec, sparseRow_toList, slot_lane] at V0 hY ⊢
  exact blockLoop_rel _
    (fun L nc off F => forcingVecGo L Y K (off nRxn) (off nSpecies) t.nReact t.nProd t.reactIds t.prodIds
      t.yields 0 F) _ L nCells c hc
    (fun nc _ _ F f h => forcingVecGo_view _ _ (laneIdx_lt L c) Y K _ _ _ nSpecies hY _ _ _ _ _ 0 nRxn hlen
      hr hp F f h)
    (fun nc off' _ hd F f h => (forcingVecGo_keeps (· < nSpecies) _ Y K _ _ _ _ _ _ _ 0 F hr hp).view_other
      (Nat.le_refl _) (laneIdx_lt L c) hd h)
    V0

/-- The same with the source's shape invariant `t.nReact.length = t.nProd.length = nRxn`
    (one entry per process in both count vectors, one rate-constant column per process). -/
theorem C13_forcing_flat_eq_cell' (t : PSTables α) (L nCells nRxn nSpecies : Nat) (K Y F : Array α)
    (hF : F.size = (DenseShape.mk nCells nSpecies L).size)
    (hr : ∀ i ∈ t.reactIds, i < nSpecies) (hp : ∀ i ∈ t.prodIds, i < nSpecies)
    (hnr : t.nReact.length = nRxn) (hnp : t.nProd.length = nRxn) (c : Nat) (hc : c < nCells) :
    flatRow ⟨nCells, nSpecies, L⟩ (t.addForcingFlat L nCells nRxn nSpecies K Y F) c
      = t.addForcingCell (flatRow ⟨nCells, nRxn, L⟩ K c) (flatRow ⟨nCells, nSpecies, L⟩ Y c)
          (flatRow ⟨nCells, nSpecies, L⟩ F c) :=
  C13_forcing_flat_eq_cell t L nCells nRxn nSpecies K Y F hF hr hp (by omega) c hc

/-- **Cell independence.**  Two runs — possibly with different cell counts `nCells`, `nCells'`,
    different positions `c`, `c'` of the cell, and even different layouts `L`, `L'` — whose inputs
    agree on the logical row of the cell (rate constants, state, incoming forcing) agree on that
    row of the result.  Hence the other cells' contents, their number, their order (take `c' = σ c`
    for a permutation `σ`), the padding lanes and the group length never influence a cell. -/
theorem C13_cell_independence (t : PSTables α) (nRxn nSpecies : Nat)
    (L nCells : Nat) (K Y F : Array α) (L' nCells' : Nat) (K' Y' F' : Array α)
    (hF : F.size = (DenseShape.mk nCells nSpecies L).size)
    (hF' : F'.size = (DenseShape.mk nCells' nSpecies L').size)
    (hr : ∀ i ∈ t.reactIds, i < nSpecies) (hp : ∀ i ∈ t.prodIds, i < nSpecies)
    (hlen : min t.nReact.length t.nProd.length ≤ nRxn)
    (c c' : Nat) (hc : c < nCells) (hc' : c' < nCells')
    (hKrow : flatRow ⟨nCells, nRxn, L⟩ K c = flatRow ⟨nCells', nRxn, L'⟩ K' c')
    (hYrow : flatRow ⟨nCells, nSpecies, L⟩ Y c = flatRow ⟨nCells', nSpecies, L'⟩ Y' c')
    (hFrow : flatRow ⟨nCells, nSpecies, L⟩ F c = flatRow ⟨nCells', nSpecies, L'⟩ F' c') :
    flatRow ⟨nCells, nSpecies, L⟩ (t.addForcingFlat L nCells nRxn nSpecies K Y F) c
      = flatRow ⟨nCells', nSpecies, L'⟩ (t.addForcingFlat L' nCells' nRxn nSpecies K' Y' F') c' := by
  rw [C13_forcing_flat_eq_cell t L nCells nRxn nSpecies K Y F hF hr hp hlen c hc,
    C13_forcing_flat_eq_cell t L' nCells' nRxn nSpecies K' Y' F' hF' hr hp hlen c' hc',
    hKrow, hYrow, hFrow]

/-- Element form of the lane theorem: the slot of (cell `c`, species `j`) after the flat kernel
    holds entry `j` of the per-cell result. -/
theorem C13_forcing_flat_slot (t : PSTables α) (L nCells nRxn nSpecies : Nat) (K Y F : Array α)
    (hF : F.size = (DenseShape.mk nCells nSpecies L).size)
    (hr : ∀ i ∈ t.reactIds, i < nSpecies) (hp : ∀ i ∈ t.prodIds, i < nSpecies)
    (hlen : min t.nReact.length t.nProd.length ≤ nRxn) (c j : Nat) (hc : c < nCells)
    (hj : j < nSpecies) :
    rd (t.addForcingFlat L nCells nRxn nSpecies K Y F) ((DenseShape.mk nCells nSpecies L).addr c j)
      = rd (t.addForcingCell (flatRow ⟨nCells, nRxn, L⟩ K c) (flatRow ⟨nCells, nSpecies, L⟩ Y c)
          (flatRow ⟨nCells, nSpecies, L⟩ F c)) j := by
  rw [← C13_forcing_flat_eq_cell t L nCells nRxn nSpecies K Y F hF hr hp hlen c hc,
    rd_flatRow ⟨nCells, nSpecies, L⟩ _ c j hj]

/-- **Padding / frame.**  The flat kernels keep the storage size (any tables, any inputs).
    What is *not* claimed: that padding lanes are left alone — the vector kernel does write them
    (with values computed from the padding inputs, see the `Int` instance below); by
    `C13_cell_independence` those values never reach a real cell. -/
theorem C13_padding_frame (t : PSTables α) (L nCells nRxn nSpecies : Nat) (K Y F : Array α) :
    (t.addForcingFlat L nCells nRxn nSpecies K Y F).size = F.size := by
  unfold PSTables.addForcingFlat PSTables.addForcingFlatRow PSTables.addForcingFlatVec
  simp only [forcingRowGo_eq_vec]
  exact blockLoop_size (fun F => F)
    (fun L _ off F => forcingVecGo L Y K (off nRxn) (off nSpecies) t.nReact t.nProd t.reactIds t.prodIds
      t.yields 0 F)
    (fun L _ _ F => (forcingVecGo_keeps (fun _ => True) L Y K _ _ _ _ _ _ _ 0 F (fun _ _ => trivial)
      (fun _ _ => trivial)).1)
    L nCells F

end

/-- **Bounds.**  Every address the flat kernels form is inside the container's storage, for every
    cell count (`nCells = 0`, `nCells < L`, `nCells % L ≠ 0` included):
    row-major, cell `c < nCells`: state/forcing `c * nSpecies + id`, rate constant `c * nRxn + q`;
    grouped, group `g < ⌈nCells / L⌉`, lane `l < L` (the `rate` buffer has exactly `L` entries):
    state/forcing `g * (L * nSpecies) + id * L + l`, rate constant `g * (L * nRxn) + q * L + l`;
    for ids `id < nSpecies` (hypothesis of the lane theorem; `C01_bounds` for built tables) and
    reaction indices `q < nRxn`.  (A statement about the address expressions of the kernels; the
    model's reads and writes themselves are total.) -/
theorem C13_bounds (L nCells nRxn nSpecies : Nat) :
    (∀ c i, c < nCells → i < nSpecies → c * nSpecies + i < (DenseShape.mk nCells nSpecies 0).size) ∧
    (∀ c q, c < nCells → q < nRxn → c * nRxn + q < (DenseShape.mk nCells nRxn 0).size) ∧
    (L ≠ 0 → ∀ g i l, g < (nCells + L - 1) / L → i < nSpecies → l < L →
      g * (L * nSpecies) + i * L + l < (DenseShape.mk nCells nSpecies L).size) ∧
    (L ≠ 0 → ∀ g q l, g < (nCells + L - 1) / L → q < nRxn → l < L →
      g * (L * nRxn) + q * L + l < (DenseShape.mk nCells nRxn L).size) :=
  ⟨fun _ _ hc hi => row_addr_lt hc hi, fun _ _ hc hq => row_addr_lt hc hq,
    fun hL _ _ _ hg hi hl => vec_addr_lt hL hg hi hl, fun hL _ _ _ hg hq hl => vec_addr_lt hL hg hq hl⟩

/-- The kernel's grouped address of a real cell is the container's address (C19) of that element:
    group `c / L`, lane `c % L`. -/
theorem C13_kernel_addr (nCells n L c j : Nat) (hL : L ≠ 0) :
    (DenseShape.mk nCells n L).addr c j = c / L * (L * n) + j * L + c % L := by
  rw [addr_eq_slot, slot_eq_lane]
  simp only [laneOff, laneStride, laneIdx, hL, if_false]

/-! `L = 3`, `nCells = 4`: one full group and a partial group with two padding lanes.  Mechanism
`s0 → 0.8 s1 + 0.2 s2 ;  s0 + s1 → s2 ;  s1 + s1 + s0 → s1`  (the tables of C01's example). -/
namespace C13Ex

/-- at `Float`: the lane theorem applies as it stands -/
def exT : PSTables Float :=
  { nReact := [1, 2, 3], reactIds := [0, 0, 1, 1, 1, 0],
    nProd := [2, 1, 1], prodIds := [1, 2, 2, 1], yields := [0.8, 0.2, 1.0, 1.0] }

example : (DenseShape.mk 4 3 3).size = 18 := by decide

example (K Y F : Array Float) (hF : F.size = 18) (c : Nat) (hc : c < 4) :
    flatRow ⟨4, 3, 3⟩ (exT.addForcingFlat 3 4 3 3 K Y F) c
      = exT.addForcingCell (flatRow ⟨4, 3, 3⟩ K c) (flatRow ⟨4, 3, 3⟩ Y c) (flatRow ⟨4, 3, 3⟩ F c) :=
  C13_forcing_flat_eq_cell exT 3 4 3 3 K Y F (by rw [hF]; decide) (by decide) (by decide) (by decide) c hc

/-- cell 3 (the real cell of the partial group) of the grouped run against cell 0 of a row-major run
    with 2 cells -/
example (K Y F K' Y' F' : Array Float) (hF : F.size = 18) (hF' : F'.size = 6)
    (hK : flatRow ⟨4, 3, 3⟩ K 3 = flatRow ⟨2, 3, 0⟩ K' 0)
    (hY : flatRow ⟨4, 3, 3⟩ Y 3 = flatRow ⟨2, 3, 0⟩ Y' 0)
    (hFr : flatRow ⟨4, 3, 3⟩ F 3 = flatRow ⟨2, 3, 0⟩ F' 0) :
    flatRow ⟨4, 3, 3⟩ (exT.addForcingFlat 3 4 3 3 K Y F) 3
      = flatRow ⟨2, 3, 0⟩ (exT.addForcingFlat 0 2 3 3 K' Y' F') 0 :=
  C13_cell_independence exT 3 3 3 4 K Y F 0 2 K' Y' F' (by rw [hF]; decide) (by rw [hF']; decide)
    (by decide) (by decide) (by decide) 3 0 (by decide) (by decide) hK hY hFr

/-- the same mechanism at `Int` (integer yields `4, 1, 1, 1`), evaluated: storage of 2 groups x 3
    species x 3 lanes; cells 0..3 are real, lanes 1, 2 of group 1 are padding -/
def exTI : PSTables Int :=
  { nReact := [1, 2, 3], reactIds := [0, 0, 1, 1, 1, 0],
    nProd := [2, 1, 1], prodIds := [1, 2, 2, 1], yields := [4, 1, 1, 1] }

/-- rate constants: cell `c` has `k = (1, 2, 1)`, padding lanes hold `7` -/
def exK : Array Int := #[1, 1, 1, 2, 2, 2, 1, 1, 1,   1, 7, 7, 2, 7, 7, 1, 7, 7]
/-- state: cell `c` has `y = (c + 1, 2, 1)`, padding lanes hold `9` -/
def exY : Array Int := #[1, 2, 3, 2, 2, 2, 1, 1, 1,   4, 9, 9, 2, 9, 9, 1, 9, 9]
def exF : Array Int := Array.replicate 18 0

theorem exForcing_eq : exTI.addForcingFlat 3 4 3 3 exK exY exF
    = #[-9, -18, -27, -4, -8, -12, 5, 10, 15,   -36, -5733, -5733, -16, -5418, -5418, 20, 630, 630] := by
  decide +kernel

/-- the padding lanes (slots 10, 11, 13, 14, 16, 17) are written, with values computed from the
    padding inputs -/
example : exTI.addForcingFlat 3 4 3 3 exK exY exF
    = #[-9, -18, -27, -4, -8, -12, 5, 10, 15,   -36, -5733, -5733, -16, -5418, -5418, 20, 630, 630] :=
  exForcing_eq

/-- the real cell of the partial group: both sides of the lane theorem -/
example : flatRow ⟨4, 3, 3⟩ (exTI.addForcingFlat 3 4 3 3 exK exY exF) 3 = #[-36, -16, 20] := by
  rw [exForcing_eq]; decide
example : exTI.addForcingCell (flatRow ⟨4, 3, 3⟩ exK 3) (flatRow ⟨4, 3, 3⟩ exY 3)
    (flatRow ⟨4, 3, 3⟩ exF 3) = #[-36, -16, 20] := by
  decide +kernel

end C13Ex

end Micm

#print axioms Micm.C13_forcing_flat_eq_cell
#print axioms Micm.C13_forcing_flat_eq_cell'
#print axioms Micm.C13_cell_independence
#print axioms Micm.C13_forcing_flat_slot
#print axioms Micm.C13_padding_frame
#print axioms Micm.C13_bounds
#print axioms Micm.C13_kernel_addr
