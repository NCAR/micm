/-
C12 — configuration independence (exact-arithmetic reading).

"Solving the same problem with row-major or vector-grouped matrices (any group length L), CSR or CSC
sparse storage, Doolittle or Mozart LU, separate or in-place factors, reordered or unreordered state
yields the same concentrations up to floating-point rounding, and the same step history unless an
accept/reject decision was within rounding of its threshold."

Over a field `K` every logical result of an attempted Rosenbrock step, and of the whole solve, is a
function of the logical data only; the configuration (`LUKind`, CSR/CSC, sparse group length, dense
layout `L`) drops out.  Assumed: no pivot vanishes, which is a property of the logical matrix
(`C12_pivots_config_indep`).

Vocabulary (`Micm/Lemmas/ConfigIndep.lean`, `Micm/Lemmas/ConfigIndepLoop.lean`):
* `view p a r c`: logical matrix held by the rank-indexed array `a` under pattern `p` (C03/C04);
* `la.factorSolveCell a l0 u0 b`: `Factor` then `Solve` of the configured variant on one cell;
  `la.pivot a l0 u0 i`: the `i`-th diagonal element of the computed `U`;
  `la.SizesOK a l0 u0`: the storage sizes C04's theorems need (`L`/`U` storage for the separate
  variants, the ALU-pattern matrix for the in-place variants);
  `kind.needsDiag`: Mozart variants need the (always present) structural diagonal;
* `jacEntrySpec procs m k y i j`: the formal `∂f_i/∂y_j` of C02;
* `Mechanism procs m t n`: the hypotheses of C02 on the mechanism;
  `CfgBuilt s t n csc Ls kind`: `s` is what the builder (`mkCfg`) produces for one configuration;
  `relabel σ m`: the species name map with indices relabelled by `σ`;
* `StoreInv p kc s nCells n r`: the per-configuration storage invariant (shapes + the C05 invariant);
  `LogicalEq r₁ r₂`: the two states agree on `Y`, the step-size control, status, the stage vectors,
  the forcing/error buffers, the counters (all but `jacobian_updates`) and the history
  `(H, error, accepted)` of the attempts;
  `PivotsOK … r`: no pivot vanishes in the attempt of the iteration that starts at `r`.
-/
import Micm.Lemmas.ConfigIndep
import Micm.Lemmas.ConfigIndepLoop
import Micm.Properties.C03
import Mathlib.Algebra.Field.Rat

open Finset
namespace Micm
set_option linter.unusedSectionVars false
variable {K : Type} [Field K]

/-- `A = L·U` on the `n × n` block (`L` unit lower, `U` upper triangular, no zero pivot) is injective
    on vectors of length `n`: the linear system of a stage has one solution. -/
theorem C12_solution_unique (n : Nat) (A Lm Um : Nat → Nat → K) (h : DenseLU.IsLU n A Lm Um)
    (hp : ∀ i, i < n → Um i i ≠ 0) (x y : Nat → K)
    (hxy : ∀ i, i < n → ∑ j ∈ range n, A i j * x j = ∑ j ∈ range n, A i j * y j) :
    ∀ j, j < n → x j = y j :=
  lu_injective n A Lm Um h hp x y hxy

/-- **C12 (linear algebra), one cell.**  Two configurations `(kind₁, csc₁, L₁)`, `(kind₂, csc₂, L₂)`
    of the same declared element set (well formed, with the full diagonal): on arrays `a₁`, `a₂` that
    hold the same logical matrix (through the pattern of `state.jacobian_` of each configuration;
    fill-in slots of an ALU pattern therefore hold `0`) and the same right-hand side, with no zero
    pivot in the first configuration (hence none in the second, `C12_pivots_config_indep`),
    `Factor; Solve` return the same vector. -/
theorem C12_linear_algebra_config_indep (n : Nat) (set : List Pair) (hw : WF n set)
    (hdiag : ∀ i, i < n → (i, i) ∈ set)
    (kind₁ kind₂ : LUKind) (csc₁ csc₂ : Bool) (L₁ L₂ : Nat)
    (a₁ l₁ u₁ a₂ l₂ u₂ b : Array K)
    (hs₁ : (LinAlg.build kind₁ (Pattern.mk' n csc₁ L₁ set)).SizesOK a₁ l₁ u₁)
    (hs₂ : (LinAlg.build kind₂ (Pattern.mk' n csc₂ L₂ set)).SizesOK a₂ l₂ u₂)
    (hb : b.size = n)
    (hpiv : ∀ i, i < n → (LinAlg.build kind₁ (Pattern.mk' n csc₁ L₁ set)).pivot a₁ l₁ u₁ i ≠ 0)
    (hview : ∀ r c, r < n → c < n →
      view (LinAlg.build kind₁ (Pattern.mk' n csc₁ L₁ set)).A a₁ r c
        = view (LinAlg.build kind₂ (Pattern.mk' n csc₂ L₂ set)).A a₂ r c) :
    ∀ j, j < n →
      rd ((LinAlg.build kind₁ (Pattern.mk' n csc₁ L₁ set)).factorSolveCell a₁ l₁ u₁ b) j
        = rd ((LinAlg.build kind₂ (Pattern.mk' n csc₂ L₂ set)).factorSolveCell a₂ l₂ u₂ b) j :=
  factorSolve_config_indep kind₁ kind₂ _ _ n rfl rfl
    (fun _ i hi => (zero?_mk_iff hw csc₁ L₁ i i).mpr (hdiag i hi))
    (fun _ i hi => (zero?_mk_iff hw csc₂ L₂ i i).mpr (hdiag i hi))
    a₁ l₁ u₁ a₂ l₂ u₂ b hs₁ hs₂ hb hpiv hview

/-- the same for any two Jacobian patterns of block size `n` (exactly the hypotheses of the four
    `C04_build_*` theorems: sizes, `b.size = n`, structural diagonal for Mozart, no zero pivot) -/
theorem C12_linear_algebra_config_indep_patterns (kind₁ kind₂ : LUKind) (jac₁ jac₂ : Pattern)
    (n : Nat) (hn₁ : jac₁.n = n) (hn₂ : jac₂.n = n)
    (hd₁ : kind₁.needsDiag = true → ∀ i, i < n → jac₁.zero? i i = false)
    (hd₂ : kind₂.needsDiag = true → ∀ i, i < n → jac₂.zero? i i = false)
    (a₁ l₁ u₁ a₂ l₂ u₂ b : Array K)
    (hs₁ : (LinAlg.build kind₁ jac₁).SizesOK a₁ l₁ u₁) (hs₂ : (LinAlg.build kind₂ jac₂).SizesOK a₂ l₂ u₂)
    (hb : b.size = n)
    (hpiv : ∀ i, i < n → (LinAlg.build kind₁ jac₁).pivot a₁ l₁ u₁ i ≠ 0)
    (hview : ∀ r c, r < n → c < n →
      view (LinAlg.build kind₁ jac₁).A a₁ r c = view (LinAlg.build kind₂ jac₂).A a₂ r c) :
    (LinAlg.build kind₁ jac₁).factorSolveCell a₁ l₁ u₁ b
      = (LinAlg.build kind₂ jac₂).factorSolveCell a₂ l₂ u₂ b :=
  arr_ext_rd (by rw [factorSolveCell_size, factorSolveCell_size]) (fun j hj => by
    rw [factorSolveCell_size, hb] at hj
    exact factorSolve_config_indep kind₁ kind₂ jac₁ jac₂ n hn₁ hn₂ hd₁ hd₂ a₁ l₁ u₁ a₂ l₂ u₂ b
      hs₁ hs₂ hb hpiv hview j hj)

/-- the pivots themselves are configuration independent (they are those of dense Doolittle on the
    logical matrix), so "no zero pivot" is a property of the logical matrix -/
theorem C12_pivots_config_indep (kind₁ kind₂ : LUKind) (jac₁ jac₂ : Pattern) (n : Nat)
    (hn₁ : jac₁.n = n) (hn₂ : jac₂.n = n)
    (hd₁ : kind₁.needsDiag = true → ∀ i, i < n → jac₁.zero? i i = false)
    (hd₂ : kind₂.needsDiag = true → ∀ i, i < n → jac₂.zero? i i = false)
    (a₁ l₁ u₁ a₂ l₂ u₂ : Array K)
    (hs₁ : (LinAlg.build kind₁ jac₁).SizesOK a₁ l₁ u₁) (hs₂ : (LinAlg.build kind₂ jac₂).SizesOK a₂ l₂ u₂)
    (hview : ∀ r c, r < n → c < n →
      view (LinAlg.build kind₁ jac₁).A a₁ r c = view (LinAlg.build kind₂ jac₂).A a₂ r c) :
    ∀ i, i < n →
      (LinAlg.build kind₁ jac₁).pivot a₁ l₁ u₁ i = (LinAlg.build kind₂ jac₂).pivot a₂ l₂ u₂ i ∧
      (LinAlg.build kind₁ jac₁).pivot a₁ l₁ u₁ i
        = (DenseLU.lu (view (LinAlg.build kind₁ jac₁).A a₁) n).U i i :=
  fun i hi => ⟨pivot_config_indep kind₁ kind₂ jac₁ jac₂ n hn₁ hn₂ hd₁ hd₂ a₁ l₁ u₁ a₂ l₂ u₂ hs₁ hs₂
    hview i hi, build_pivot_eq kind₁ jac₁ n hn₁ hd₁ a₁ l₁ u₁ hs₁ i hi⟩

/-- `factorSolveCell` is the model: cell `c` of `linSolve` applied to the result of `factor` -/
theorem C12_factorSolveCell_is_model (s : SolverCfg K) (J Lo Up x : Mat K) (c : Nat)
    (hc : c < x.size) (hcJ : c < J.size) :
    (s.linSolve (s.factor J Lo Up).1 (s.factor J Lo Up).2.1 (s.factor J Lo Up).2.2 x).getD c #[]
      = s.la.factorSolveCell (J.getD c #[]) (Lo.getD c #[]) (Up.getD c #[]) (x.getD c #[]) :=
  linSolve_factor_getD s J Lo Up x c hc hcJ

/-- **C12 (linear algebra), all cells**: the model's `linSolve ∘ factor` of two configurations agree
    on every right-hand side of the logical shape when their matrices have the same logical view
    in every cell. -/
theorem C12_linSolve_config_indep (s₁ s₂ : SolverCfg K) (kind₁ kind₂ : LUKind) (jac₁ jac₂ : Pattern)
    (n : Nat) (hla₁ : s₁.la = LinAlg.build kind₁ jac₁) (hla₂ : s₂.la = LinAlg.build kind₂ jac₂)
    (hn₁ : jac₁.n = n) (hn₂ : jac₂.n = n)
    (hd₁ : kind₁.needsDiag = true → ∀ i, i < n → jac₁.zero? i i = false)
    (hd₂ : kind₂.needsDiag = true → ∀ i, i < n → jac₂.zero? i i = false)
    (M₁ Lo₁ Up₁ M₂ Lo₂ Up₂ : Mat K) (nCells : Nat) (hM₁ : M₁.size = nCells) (hM₂ : M₂.size = nCells)
    (hs₁ : ∀ c, c < nCells → s₁.la.SizesOK (M₁.getD c #[]) (Lo₁.getD c #[]) (Up₁.getD c #[]))
    (hs₂ : ∀ c, c < nCells → s₂.la.SizesOK (M₂.getD c #[]) (Lo₂.getD c #[]) (Up₂.getD c #[]))
    (hpiv : ∀ c, c < nCells → ∀ i, i < n →
      s₁.la.pivot (M₁.getD c #[]) (Lo₁.getD c #[]) (Up₁.getD c #[]) i ≠ 0)
    (hview : ∀ c, c < nCells → ∀ r c', r < n → c' < n →
      view s₁.la.A (M₁.getD c #[]) r c' = view s₂.la.A (M₂.getD c #[]) r c')
    (x : Mat K) (hx : MatShape nCells n x) :
    s₁.linSolve (s₁.factor M₁ Lo₁ Up₁).1 (s₁.factor M₁ Lo₁ Up₁).2.1 (s₁.factor M₁ Lo₁ Up₁).2.2 x
      = s₂.linSolve (s₂.factor M₂ Lo₂ Up₂).1 (s₂.factor M₂ Lo₂ Up₂).2.1 (s₂.factor M₂ Lo₂ Up₂).2.2 x :=
  linSolve_config_indep s₁ s₂ kind₁ kind₂ jac₁ jac₂ n hla₁ hla₂ hn₁ hn₂ hd₁ hd₂ M₁ Lo₁ Up₁ M₂ Lo₂ Up₂
    nCells hM₁ hM₂ hs₁ hs₂ hpiv hview x hx

/-- the forcing of a `SolverCfg` depends on the configuration only through the process-set tables
    (which are built before, and independently of, any storage choice); on flat storage the
    per-cell result is layout independent by `C13_cell_independence` -/
theorem C12_forcing_config_indep (s₁ s₂ : SolverCfg K) (ht : s₁.tables = s₂.tables) (k y f : Mat K) :
    s₁.forcing k y f = s₂.forcing k y f :=
  forcing_congr_tables s₁ s₂ ht k y f

/-- **C12 (Jacobian).**  For a successfully built process set, the Jacobian assembled by
    `SubtractJacobianTerms` into the (zeroed) pattern of `state.jacobian_` of *any* configuration —
    declared pattern or ALU pattern (in-place variants), CSR or CSC, any group length — has the
    logical view `−∂f_r/∂y_c` at every position of the block; hence two configurations hold the
    same logical matrix. -/
theorem C12_jacobian_config_indep (procs : List (Process K)) (m : NameMap) (t : PSTables K)
    (hb : ProcessSet.build procs m = .ok t)
    (hk : (m.map (·.1)).Nodup) (hv : (m.map (·.2)).Nodup)
    (hparam : ∀ p ∈ procs, ∀ r ∈ p.reactants, r.param = true → nmLookup m r.name = none)
    (n : Nat) (hn : ∀ e ∈ m, e.2 < n)
    (kind₁ kind₂ : LUKind) (csc₁ csc₂ : Bool) (L₁ L₂ : Nat) :
    let set := buildJacobianSet n t.nonZeroJacobianElements
    let A₁ := (LinAlg.build kind₁ (Pattern.mk' n csc₁ L₁ set)).A
    let A₂ := (LinAlg.build kind₂ (Pattern.mk' n csc₂ L₂ set)).A
    ∃ flat₁ flat₂, t.jacobianFlatIds A₁ = .ok flat₁ ∧ t.jacobianFlatIds A₂ = .ok flat₂ ∧
      ∀ (k y : Array K) (r c : Nat),
        view A₁ (t.subtractJacobianCell flat₁ k y (Array.replicate A₁.nnz 0)) r c
          = - jacEntrySpec procs m k y r c ∧
        view A₁ (t.subtractJacobianCell flat₁ k y (Array.replicate A₁.nnz 0)) r c
          = view A₂ (t.subtractJacobianCell flat₂ k y (Array.replicate A₂.nnz 0)) r c := by
  intro set A₁ A₂
  obtain ⟨flat₁, h1, v1⟩ := jacobian_view_build procs m t hb hk hv hparam n hn kind₁ csc₁ L₁
  obtain ⟨flat₂, h2, v2⟩ := jacobian_view_build procs m t hb hk hv hparam n hn kind₂ csc₂ L₂
  exact ⟨flat₁, flat₂, h1, h2, fun k y r c => ⟨v1 k y r c, (v1 k y r c).trans (v2 k y r c).symm⟩⟩

/-- the same on an arbitrary well-formed superset of the declared elements (CSR or CSC, any `L`) -/
theorem C12_jacobian_any_pattern (procs : List (Process K)) (m : NameMap) (t : PSTables K)
    (hb : ProcessSet.build procs m = .ok t)
    (hk : (m.map (·.1)).Nodup) (hv : (m.map (·.2)).Nodup)
    (hparam : ∀ p ∈ procs, ∀ r ∈ p.reactants, r.param = true → nmLookup m r.name = none)
    (n : Nat) (csc : Bool) (L : Nat) (set' : List Pair) (hw : WF n set')
    (hsup : ∀ x ∈ t.nonZeroJacobianElements, x ∈ set') :
    ∃ flat, t.jacobianFlatIds (Pattern.mk' n csc L set') = .ok flat ∧
      ∀ (k y : Array K) (r c : Nat),
        view (Pattern.mk' n csc L set')
          (t.subtractJacobianCell flat k y (Array.replicate (Pattern.mk' n csc L set').nnz 0)) r c
          = - jacEntrySpec procs m k y r c :=
  jacobian_view procs m t hb hk hv hparam n csc L set' hw hsup

/-- **C12 (reordering), forcing.**  Relabel the species by an injective `σ` (the name map is composed
    with `σ`; in the builder: Markowitz reordering or not).  The tables are rebuilt, the state and
    forcing vectors are permuted accordingly; entry `σ i` of the new forcing equals entry `i` of the
    old one. -/
theorem C12_forcing_permutation (σ : Nat → Nat) (hσ : Function.Injective σ) (m : NameMap)
    (procs : List (Process K)) (t t' : PSTables K)
    (h : buildForcing m procs = .ok t ∨ ProcessSet.build procs m = .ok t)
    (h' : buildForcing (relabel σ m) procs = .ok t' ∨ ProcessSet.build procs (relabel σ m) = .ok t')
    (k y y' f f' : Array K) (hy : ∀ j, rd y' (σ j) = rd y j)
    (i : Nat) (hi : i < f.size) (hi' : σ i < f'.size) (hf : rd f' (σ i) = rd f i) :
    rd (t'.addForcingCell k y' f') (σ i) = rd (t.addForcingCell k y f) i :=
  forcing_relabel σ hσ m procs t t' h h' k y y' f f' hy i hi hi' hf

/-- the relabelled problem builds iff the original does -/
theorem C12_permutation_builds (σ : Nat → Nat) (m : NameMap) (procs : List (Process K)) :
    (∃ t, ProcessSet.build procs (relabel σ m) = .ok t) ↔ ∃ t, ProcessSet.build procs m = .ok t := by
  rw [(C01_build_extends (relabel σ m) procs).2.2, (C01_build_extends m procs).2.2,
    C01_build_ok_iff, C01_build_ok_iff]
  simp only [nmLookup_relabel, Option.isSome_map]

/-- **C12 (reordering), Jacobian.**  With the hypotheses of C02 for both name maps, on any two
    patterns (each a well-formed superset of its declared elements, any storage order / group
    length): element `(σ r, σ c)` of the relabelled Jacobian equals element `(r, c)` of the
    original one. -/
theorem C12_jacobian_permutation (σ : Nat → Nat) (hσ : Function.Injective σ)
    (procs : List (Process K)) (m : NameMap) (t t' : PSTables K)
    (hb : ProcessSet.build procs m = .ok t) (hb' : ProcessSet.build procs (relabel σ m) = .ok t')
    (hk : (m.map (·.1)).Nodup) (hv : (m.map (·.2)).Nodup)
    (hk' : ((relabel σ m).map (·.1)).Nodup) (hv' : ((relabel σ m).map (·.2)).Nodup)
    (hparam : ∀ p ∈ procs, ∀ r ∈ p.reactants, r.param = true → nmLookup m r.name = none)
    (n : Nat) (csc csc' : Bool) (L L' : Nat) (set set' : List Pair) (hw : WF n set) (hw' : WF n set')
    (hsup : ∀ x ∈ t.nonZeroJacobianElements, x ∈ set)
    (hsup' : ∀ x ∈ t'.nonZeroJacobianElements, x ∈ set') :
    ∃ flat flat', t.jacobianFlatIds (Pattern.mk' n csc L set) = .ok flat ∧
      t'.jacobianFlatIds (Pattern.mk' n csc' L' set') = .ok flat' ∧
      ∀ (k y y' : Array K), (∀ j, rd y' (σ j) = rd y j) → ∀ r c : Nat,
        view (Pattern.mk' n csc' L' set')
          (t'.subtractJacobianCell flat' k y' (Array.replicate (Pattern.mk' n csc' L' set').nnz 0))
          (σ r) (σ c)
        = view (Pattern.mk' n csc L set)
          (t.subtractJacobianCell flat k y (Array.replicate (Pattern.mk' n csc L set).nnz 0)) r c := by
  have hparam' : ∀ p ∈ procs, ∀ r ∈ p.reactants, r.param = true →
      nmLookup (relabel σ m) r.name = none := fun p hp r hr hpar => by
    rw [nmLookup_relabel, hparam p hp r hr hpar]; rfl
  obtain ⟨flat, h1, v1⟩ := jacobian_view procs m t hb hk hv hparam n csc L set hw hsup
  obtain ⟨flat', h2, v2⟩ :=
    jacobian_view procs (relabel σ m) t' hb' hk' hv' hparam' n csc' L' set' hw' hsup'
  refine ⟨flat, flat', h1, h2, fun k y y' hy r c => ?_⟩
  rw [v1, v2, jacEntrySpec_relabel σ hσ m procs k y y' hy]

/-- **C12 (reordering), linear algebra.**  If the second configuration stores the symmetrically
    permuted matrix (`A₂[σ r, σ c] = A₁[r, c]`, `σ` a permutation of `0 … n−1`) and right-hand side,
    and no pivot vanishes in either ordering (the pivots of a reordered matrix are different
    numbers, so this is two hypotheses), `Factor; Solve` returns the permuted solution — for any
    two LU variants and patterns. -/
theorem C12_linear_algebra_permutation (σ : Nat → Nat) (n : Nat)
    (hinj : ∀ i, i < n → ∀ j, j < n → σ i = σ j → i = j) (hr : ∀ i, i < n → σ i < n)
    (kind₁ kind₂ : LUKind) (jac₁ jac₂ : Pattern) (hn₁ : jac₁.n = n) (hn₂ : jac₂.n = n)
    (hd₁ : kind₁.needsDiag = true → ∀ i, i < n → jac₁.zero? i i = false)
    (hd₂ : kind₂.needsDiag = true → ∀ i, i < n → jac₂.zero? i i = false)
    (a₁ l₁ u₁ b₁ a₂ l₂ u₂ b₂ : Array K)
    (hs₁ : (LinAlg.build kind₁ jac₁).SizesOK a₁ l₁ u₁) (hs₂ : (LinAlg.build kind₂ jac₂).SizesOK a₂ l₂ u₂)
    (hb₁ : b₁.size = n) (hb₂ : b₂.size = n)
    (hpiv₁ : ∀ i, i < n → (LinAlg.build kind₁ jac₁).pivot a₁ l₁ u₁ i ≠ 0)
    (hpiv₂ : ∀ i, i < n → (LinAlg.build kind₂ jac₂).pivot a₂ l₂ u₂ i ≠ 0)
    (hview : ∀ r c, r < n → c < n →
      view (LinAlg.build kind₂ jac₂).A a₂ (σ r) (σ c) = view (LinAlg.build kind₁ jac₁).A a₁ r c)
    (hb : ∀ i, i < n → rd b₂ (σ i) = rd b₁ i) :
    ∀ j, j < n → rd ((LinAlg.build kind₂ jac₂).factorSolveCell a₂ l₂ u₂ b₂) (σ j)
      = rd ((LinAlg.build kind₁ jac₁).factorSolveCell a₁ l₁ u₁ b₁) j :=
  factorSolve_relabel σ n hinj hr kind₁ kind₂ jac₁ jac₂ hn₁ hn₂ hd₁ hd₂ a₁ l₁ u₁ b₁ a₂ l₂ u₂ b₂
    hs₁ hs₂ hb₁ hb₂ hpiv₁ hpiv₂ hview hb

/-- the visiting order of `NormalizedError` for `VectorMatrix<L>` (full groups of `L` cells, then the
    partial group) is a permutation of the row-major order, for every `L`, cell count and width -/
theorem C12_normOrder_perm (L nCells nVars : Nat) :
    (normOrder L nCells nVars).Perm (normOrder 0 nCells nVars) :=
  normOrder_perm L nCells nVars

/-- **C12 (norm).**  In exact arithmetic `NormalizedError` has the same value for every two dense
    layouts `L`, `L'` (whatever `sqrt`, `abs`, comparison the `Ops` record supplies): the same
    multiset of terms is summed. -/
theorem C12_norm_layout_indep (o : Ops K) (cs : Consts K) (L L' nVars : Nat) (atol : Array K)
    (rtol : K) (y ynew err : Mat K) :
    normalizedError o cs L nVars atol rtol y ynew err
      = normalizedError o cs L' nVars atol rtol y ynew err := by
  rw [normalizedError_layout_indep o cs L, normalizedError_layout_indep o cs L']

/-- the sum inside the norm, as the sum of the terms over all (cell, variable) pairs -/
theorem C12_norm_sum (o : Ops K) (L nCells nVars : Nat) (atol : Array K) (rtol : K)
    (y ynew err : Mat K) :
    (normOrder L nCells nVars).foldl (fun acc cv => acc + errTerm o atol rtol y ynew err cv.1 cv.2) 0
      = ((normOrder 0 nCells nVars).map fun cv => errTerm o atol rtol y ynew err cv.1 cv.2).sum := by
  rw [foldl_add_perm (fun cv : Nat × Nat => errTerm o atol rtol y ynew err cv.1 cv.2)
    (normOrder_perm L nCells nVars) 0, foldl_add_eq_sum, zero_add]

/-- **C12 (matrix of an attempt).**  For two built configurations of the same mechanism, cell `c`
    of `α·I − J(Y)` (what `C05_matrix_step` shows every attempt factors, with `α = 1/(γH)`) has the
    same logical view, namely `−∂f_r/∂y_c' + α·[r = c']`. -/
theorem C12_matrix_config_indep (procs : List (Process K)) (m : NameMap) (t : PSTables K)
    (hb : ProcessSet.build procs m = .ok t)
    (hk : (m.map (·.1)).Nodup) (hv : (m.map (·.2)).Nodup)
    (hparam : ∀ p ∈ procs, ∀ r ∈ p.reactants, r.param = true → nmLookup m r.name = none)
    (n : Nat) (hn : ∀ e ∈ m, e.2 < n)
    (s₁ s₂ : SolverCfg K) (csc₁ csc₂ : Bool) (Ls₁ Ls₂ : Nat) (kind₁ kind₂ : LUKind)
    (hs₁ : CfgBuilt s₁ t n csc₁ Ls₁ kind₁) (hs₂ : CfgBuilt s₂ t n csc₂ Ls₂ kind₂)
    (kc Y B₁ B₂ : Mat K) (a : K) (c : Nat) (hc₁ : c < B₁.size) (hc₂ : c < B₂.size)
    (hB₁ : (B₁.getD c #[]).size = s₁.la.A.nnz) (hB₂ : (B₂.getD c #[]).size = s₂.la.A.nnz)
    (r c' : Nat) (hr : r < n) :
    view s₁.la.A ((s₁.alphaMinusJacobian (s₁.jacobian kc Y (fillM B₁ 0)) a).getD c #[]) r c'
      = view s₂.la.A ((s₂.alphaMinusJacobian (s₂.jacobian kc Y (fillM B₂ 0)) a).getD c #[]) r c' ∧
    view s₁.la.A ((s₁.alphaMinusJacobian (s₁.jacobian kc Y (fillM B₁ 0)) a).getD c #[]) r c'
      = - jacEntrySpec procs m (kc.getD c #[]) (Y.getD c #[]) r c' + if r = c' then a else 0 := by
  have v1 := (built_matrix_view procs m t hb hk hv hparam n hn s₁ csc₁ Ls₁ kind₁ hs₁ kc Y B₁ a c hc₁
    hB₁ r c' hr).2
  have v2 := (built_matrix_view procs m t hb hk hv hparam n hn s₂ csc₂ Ls₂ kind₂ hs₂ kc Y B₂ a c hc₂
    hB₂ r c' hr).2
  exact ⟨v1.trans v2.symm, v1⟩

/-- **C12 (one attempt).**  `attStages`, `attYnew`, `attYerr`, `attError`, `attDecide`, `attMatrix`
    are the parts of one attempt of `rosStep` (`rosStep_eq` in `Micm/Lemmas/RosLoop.lean`).  Two configurations with the same tables and species count, any LU
    variants / patterns / dense layouts, started from states that agree on the logical data and
    whose attempt matrices have the same logical view (`C12_matrix_config_indep`), no vanishing
    pivot: all stage vectors `K_i`, `Ynew`, `Yerr`, the error norm and the decision (with the next
    step size) coincide. -/
theorem C12_attempt_config_indep (o : Ops K) (cs : Consts K) (p : RosParams K) (kc : Mat K)
    (atol : Array K) (rtol hm : K)
    (s₁ s₂ : SolverCfg K) (kind₁ kind₂ : LUKind) (jac₁ jac₂ : Pattern)
    (n : Nat) (hla₁ : s₁.la = LinAlg.build kind₁ jac₁) (hla₂ : s₂.la = LinAlg.build kind₂ jac₂)
    (hn₁ : jac₁.n = n) (hn₂ : jac₂.n = n)
    (hd₁ : kind₁.needsDiag = true → ∀ i, i < n → jac₁.zero? i i = false)
    (hd₂ : kind₂.needsDiag = true → ∀ i, i < n → jac₂.zero? i i = false)
    (ht : s₁.tables = s₂.tables) (hns : s₁.nSpecies = s₂.nSpecies)
    (r₁ r₂ : RState K) (hY : r₁.Y = r₂.Y) (hctl : r₁.ctl = r₂.ctl) (hk : r₁.sc.k = r₂.sc.k)
    (hf0 : r₁.sc.f0 = r₂.sc.f0) (hyerr : r₁.sc.yerr = r₂.sc.yerr)
    (nCells : Nat) (hKs : KShape nCells n r₁.sc.k) (hf0s : MatShape nCells n r₁.sc.f0)
    (hst : p.stages ≤ r₁.sc.k.size)
    (hM₁ : (attMatrix s₁ p r₁).size = nCells) (hM₂ : (attMatrix s₂ p r₂).size = nCells)
    (hs₁ : ∀ c, c < nCells → s₁.la.SizesOK ((attMatrix s₁ p r₁).getD c #[])
      (r₁.sc.lower.getD c #[]) (r₁.sc.upper.getD c #[]))
    (hs₂ : ∀ c, c < nCells → s₂.la.SizesOK ((attMatrix s₂ p r₂).getD c #[])
      (r₂.sc.lower.getD c #[]) (r₂.sc.upper.getD c #[]))
    (hpiv : ∀ c, c < nCells → ∀ i, i < n → s₁.la.pivot ((attMatrix s₁ p r₁).getD c #[])
      (r₁.sc.lower.getD c #[]) (r₁.sc.upper.getD c #[]) i ≠ 0)
    (hview : ∀ c, c < nCells → ∀ r c', r < n → c' < n →
      view s₁.la.A ((attMatrix s₁ p r₁).getD c #[]) r c'
        = view s₂.la.A ((attMatrix s₂ p r₂).getD c #[]) r c') :
    (attStages s₁ p kc r₁).1 = (attStages s₂ p kc r₂).1 ∧
    attYnew s₁ p kc r₁ = attYnew s₂ p kc r₂ ∧
    attYerr s₁ p kc r₁ = attYerr s₂ p kc r₂ ∧
    attError o cs s₁ p kc atol rtol r₁ = attError o cs s₂ p kc atol rtol r₂ ∧
    attDecide o cs s₁ p kc atol rtol hm r₁ = attDecide o cs s₂ p kc atol rtol hm r₂ := by
  have hK : (attStages s₁ p kc r₁).1 = (attStages s₂ p kc r₂).1 := by
    unfold attStages attFactor
    rw [← hY, ← hctl, ← hk, ← hf0]
    exact (stagesGo_config_indep s₁ s₂ ht p kc r₁.Y _ _ _ _ _ _ r₁.ctl.h nCells n
      (fun x hx => linSolve_config_indep s₁ s₂ kind₁ kind₂ jac₁ jac₂ n hla₁ hla₂ hn₁ hn₂
        hd₁ hd₂ (attMatrix s₁ p r₁) r₁.sc.lower r₁.sc.upper (attMatrix s₂ p r₂) r₂.sc.lower r₂.sc.upper
        nCells hM₁ hM₂ hs₁ hs₂ hpiv hview x hx)
      (r₁.sc.k.setIfInBounds 0 r₁.sc.f0) (hKs.set 0 _ hf0s) (by rw [Array.size_setIfInBounds]; exact hst)
      (Ro := fun _ _ => True) (fun _ => trivial) trivial _ _).1
  have hYn : attYnew s₁ p kc r₁ = attYnew s₂ p kc r₂ := by
    unfold attYnew; rw [hK, hY]
  have hYe : attYerr s₁ p kc r₁ = attYerr s₂ p kc r₂ := by
    unfold attYerr; rw [hK, hyerr]
  have hE : attError o cs s₁ p kc atol rtol r₁ = attError o cs s₂ p kc atol rtol r₂ := by
    unfold attError
    rw [normalizedError_layout_indep o cs s₁.L, normalizedError_layout_indep o cs s₂.L, hYn, hYe, hY, hns]
  refine ⟨hK, hYn, hYe, hE, ?_⟩
  unfold attDecide
  rw [hE, hctl]

/-- the stage loop itself: configuration enters only through the tables and `linSolve` -/
theorem C12_stages_config_indep (s₁ s₂ : SolverCfg K) (ht : s₁.tables = s₂.tables) (p : RosParams K)
    (kc Y J₁ Lo₁ Up₁ J₂ Lo₂ Up₂ : Mat K) (h : K) (nCells n : Nat)
    (hsolve : ∀ x, MatShape nCells n x → s₁.linSolve J₁ Lo₁ Up₁ x = s₂.linSolve J₂ Lo₂ Up₂ x)
    (Ks : Array (Mat K)) (ynew : Mat K) (st : Stats)
    (hK : KShape nCells n Ks) (hsz : p.stages ≤ Ks.size) :
    stagesGo s₁ p kc Y J₁ Lo₁ Up₁ h p.stages 0 Ks ynew st
      = stagesGo s₂ p kc Y J₂ Lo₂ Up₂ h p.stages 0 Ks ynew st :=
  Prod.ext (stagesGo_config_indep s₁ s₂ ht p kc Y J₁ Lo₁ Up₁ J₂ Lo₂ Up₂ h nCells n hsolve Ks hK hsz
      (Ro := Eq) (fun _ => rfl) rfl st st).1
    (Prod.ext (stagesGo_config_indep s₁ s₂ ht p kc Y J₁ Lo₁ Up₁ J₂ Lo₂ Up₂ h nCells n hsolve Ks hK hsz
      (Ro := Eq) (fun _ => rfl) rfl st st).2.2 (stagesGo_stats_indep s₁ s₂ p kc _ _ _ _ _ _ _ _ _ _ _ _ _ _ _ _ _))

section Lockstep
variable (o : Ops K) (cs : Consts K) (p : RosParams K) (kc : Mat K) (atol : Array K) (rtol T hm : K)
variable {procs : List (Process K)} {m : NameMap} {t : PSTables K} {n : Nat}

theorem C12_storeInv_step (s : SolverCfg K) (nCells n : Nat) (r : RState K)
    (h : StoreInv p kc s nCells n r) :
    StoreInv p kc s nCells n (rosStep o cs s p kc atol rtol T hm r) :=
  rosStep_inv o cs s p kc atol rtol T hm (StoreInv p kc s nCells n) r
    (StoreInv_prologue o cs p kc T s nCells n r)
    (fun r' h1 h2 => StoreInv_attempt o cs p kc atol rtol hm s nCells n r' h1 h2) h

/-- For a variant with separate `L`/`U` storage, "no pivot vanishes along the run" can be checked on
    the iterates themselves: the pivots are in the `U` storage each iteration leaves. -/
theorem PivotsOK_iterates (s : SolverCfg K) (hk : s.la.kind.inPlace = false) (nCells n : Nat) (r₀ : RState K)
    (hI : StoreInv p kc s nCells n r₀) (fuel : Nat)
    (h : ∀ j, j < fuel → (rosPrologue o cs s p kc T ((rosStep o cs s p kc atol rtol T hm)^[j] r₀)).status = .running →
      ∀ c, c < nCells → ∀ i, i < n → factorPivot s ((rosStep o cs s p kc atol rtol T hm)^[j + 1] r₀).sc.jac
        ((rosStep o cs s p kc atol rtol T hm)^[j + 1] r₀).sc.upper c i ≠ 0) :
    ∀ j, j < fuel → PivotsOK o cs p kc T s nCells n ((rosStep o cs s p kc atol rtol T hm)^[j] r₀) := by
  have hIj : ∀ j, StoreInv p kc s nCells n ((rosStep o cs s p kc atol rtol T hm)^[j] r₀) := fun j => by
    induction j with
    | zero => exact hI
    | succ j ih =>
      rw [Function.iterate_succ_apply']; exact C12_storeInv_step o cs p kc atol rtol T hm s nCells n _ ih
  intro j hj
  refine PivotsOK_of_next o cs p kc atol rtol T hm s hk nCells n _ (hIj j) ?_
  rw [← Function.iterate_succ_apply' (rosStep o cs s p kc atol rtol T hm)]
  exact h j hj

theorem attempt_lockstep (hmech : Mechanism procs m t n)
    (s₁ s₂ : SolverCfg K) (csc₁ csc₂ : Bool) (Ls₁ Ls₂ : Nat) (kind₁ kind₂ : LUKind)
    (hs₁ : CfgBuilt s₁ t n csc₁ Ls₁ kind₁) (hs₂ : CfgBuilt s₂ t n csc₂ Ls₂ kind₂)
    (nCells : Nat) (q₁ q₂ : RState K)
    (hI₁ : StoreInv p kc s₁ nCells n q₁) (hI₂ : StoreInv p kc s₂ nCells n q₂)
    (hE : LogicalEq q₁ q₂) (hr : q₁.status = .running) (hi : q₁.inStep = true)
    (hpiv : ∀ c, c < nCells → ∀ i, i < n → s₁.la.pivot ((attMatrix s₁ p q₁).getD c #[])
      (q₁.sc.lower.getD c #[]) (q₁.sc.upper.getD c #[]) i ≠ 0) :
    LogicalEq (rosAttempt o cs s₁ p kc atol rtol hm q₁) (rosAttempt o cs s₂ p kc atol rtol hm q₂) := by
  obtain ⟨B₁, hB₁, hBs₁⟩ := hI₁.holds hr hi
  obtain ⟨B₂, hB₂, hBs₂⟩ := hI₂.holds (hE.status ▸ hr) (hE.inStep ▸ hi)
  have hM₁ := attMatrix_shape p kc s₁ nCells n q₁ hI₁
  have hM₂ := attMatrix_shape p kc s₂ nCells n q₂ hI₂
  -- both attempt matrices are `α·I − J(Y)`, stored in the pattern of their configuration
  have hview : ∀ c, c < nCells → ∀ r c', r < n → c' < n →
      view s₁.la.A ((attMatrix s₁ p q₁).getD c #[]) r c'
        = view s₂.la.A ((attMatrix s₂ p q₂).getD c #[]) r c' := by
    intro c hc r c' hr' _
    rw [attMatrix_of_JacHolds s₁ p kc q₁ B₁ hB₁, attMatrix_of_JacHolds s₂ p kc q₂ B₂ hB₂]
    unfold jac0
    rw [(built_matrix_view procs m t hmech.built hmech.names hmech.ids hmech.param n hmech.range
        s₁ csc₁ Ls₁ kind₁ hs₁ kc q₁.Y B₁ _ c (hBs₁.lt hc) (hBs₁.2 c hc) r c' hr').2,
      (built_matrix_view procs m t hmech.built hmech.names hmech.ids hmech.param n hmech.range
        s₂ csc₂ Ls₂ kind₂ hs₂ kc q₂.Y B₂ _ c (hBs₂.lt hc) (hBs₂.2 c hc) r c' hr').2,
      hE.Y, hE.ctl]
  obtain ⟨hK, hYn, hYe, hEr, hD⟩ := C12_attempt_config_indep o cs p kc atol rtol hm s₁ s₂ kind₁ kind₂
    _ _ n hs₁.la hs₂.la rfl rfl (fun _ => hmech.diag_present csc₁ Ls₁) (fun _ => hmech.diag_present csc₂ Ls₂)
    (hs₁.tables.trans hs₂.tables.symm) (hs₁.nSpecies.trans hs₂.nSpecies.symm)
    q₁ q₂ hE.Y hE.ctl hE.k hE.f0 hE.yerr nCells hI₁.k hI₁.f0 hI₁.ksz hM₁.1 hM₂.1
    (sizesOK_of_shapes s₁ hM₁ hI₁.lower hI₁.upper) (sizesOK_of_shapes s₂ hM₂ hI₂.lower hI₂.upper)
    hpiv hview
  exact LogicalEq_attempt o cs p kc atol rtol hm s₁ s₂ q₁ q₂ hE hK hYn hYe hEr hD

/-- **C12, one iteration of the solver loop** (prologue + one attempt, the model's `rosStep`):
    logically equal states stay logically equal — same `Y`, same `H`, same error, same
    accept/reject decision, same next step size. -/
theorem C12_step_config_indep (hmech : Mechanism procs m t n)
    (s₁ s₂ : SolverCfg K) (csc₁ csc₂ : Bool) (Ls₁ Ls₂ : Nat) (kind₁ kind₂ : LUKind)
    (hs₁ : CfgBuilt s₁ t n csc₁ Ls₁ kind₁) (hs₂ : CfgBuilt s₂ t n csc₂ Ls₂ kind₂)
    (nCells : Nat) (r₁ r₂ : RState K)
    (hI₁ : StoreInv p kc s₁ nCells n r₁) (hI₂ : StoreInv p kc s₂ nCells n r₂)
    (hE : LogicalEq r₁ r₂) (hpiv : PivotsOK o cs p kc T s₁ nCells n r₁) :
    LogicalEq (rosStep o cs s₁ p kc atol rtol T hm r₁) (rosStep o cs s₂ p kc atol rtol T hm r₂) :=
  rosStep_sim o cs s₁ s₂ p kc atol atol rtol T hm LogicalEq (fun _ _ h => h.status) r₁ r₂
    (LogicalEq_prologue o cs p kc T s₁ s₂ (hs₁.tables.trans hs₂.tables.symm) r₁ r₂ hE)
    (fun hrun hin => attempt_lockstep o cs p kc atol rtol hm hmech s₁ s₂ csc₁ csc₂ Ls₁ Ls₂ kind₁ kind₂
      hs₁ hs₂ nCells _ _ (StoreInv_prologue o cs p kc T s₁ nCells n r₁ hI₁)
      (StoreInv_prologue o cs p kc T s₂ nCells n r₂ hI₂)
      (LogicalEq_prologue o cs p kc T s₁ s₂ (hs₁.tables.trans hs₂.tables.symm) r₁ r₂ hE) hrun hin (hpiv hrun))

/-- **C12, the whole solve.**  `rosSolve` of two built configurations of the same mechanism — any
    LU variant, CSR or CSC, any sparse group length, any dense layout `s₁.L`, `s₂.L` — from the same
    `Y`, rate constants and tolerances, with States whose dense buffers coincide and whose sparse
    buffers have the sizes of the respective patterns: if no pivot vanishes along the run of the
    first configuration, both return the same status, final time and solution, the same counters
    (all but `jacobian_updates`, which the in-place variants also bump on every rejection) and the
    same step history `(H, error, accepted)`.  In exact arithmetic there is no "within rounding of
    the threshold" case. -/
theorem C12_solve_config_indep (hmech : Mechanism procs m t n)
    (s₁ s₂ : SolverCfg K) (csc₁ csc₂ : Bool) (Ls₁ Ls₂ : Nat) (kind₁ kind₂ : LUKind)
    (hs₁ : CfgBuilt s₁ t n csc₁ Ls₁ kind₁) (hs₂ : CfgBuilt s₂ t n csc₂ Ls₂ kind₂)
    (nCells : Nat) (Y : Mat K) (sc₁ sc₂ : Scratch K) (fuel : Nat)
    (hY : MatShape nCells n Y)
    (hk : sc₁.k = sc₂.k) (hf0 : sc₁.f0 = sc₂.f0) (hyerr : sc₁.yerr = sc₂.yerr)
    (hKs : KShape nCells n sc₁.k) (hksz : p.stages ≤ sc₁.k.size) (hf0s : MatShape nCells n sc₁.f0)
    (hj₁ : MatShape nCells s₁.la.A.nnz sc₁.jac)
    (hl₁ : s₁.la.kind.inPlace = false → MatShape nCells s₁.la.Lp.nnz sc₁.lower)
    (hu₁ : s₁.la.kind.inPlace = false → MatShape nCells s₁.la.Up.nnz sc₁.upper)
    (hj₂ : MatShape nCells s₂.la.A.nnz sc₂.jac)
    (hl₂ : s₂.la.kind.inPlace = false → MatShape nCells s₂.la.Lp.nnz sc₂.lower)
    (hu₂ : s₂.la.kind.inPlace = false → MatShape nCells s₂.la.Up.nnz sc₂.upper)
    (hpiv : ∀ j, j < fuel → PivotsOK o cs p kc T s₁ nCells n
      ((rosStep o cs s₁ p kc atol rtol T (hmaxEff o p T))^[j] (rosInit (initialH o cs p T) Y sc₁))) :
    (rosSolve o cs s₁ p kc atol rtol T Y sc₁ fuel).status
        = (rosSolve o cs s₂ p kc atol rtol T Y sc₂ fuel).status ∧
    (rosSolve o cs s₁ p kc atol rtol T Y sc₁ fuel).finalTime
        = (rosSolve o cs s₂ p kc atol rtol T Y sc₂ fuel).finalTime ∧
    (rosSolve o cs s₁ p kc atol rtol T Y sc₁ fuel).Y
        = (rosSolve o cs s₂ p kc atol rtol T Y sc₂ fuel).Y ∧
    (rosSolve o cs s₁ p kc atol rtol T Y sc₁ fuel).trace.map attLog
        = (rosSolve o cs s₂ p kc atol rtol T Y sc₂ fuel).trace.map attLog ∧
    (rosSolve o cs s₁ p kc atol rtol T Y sc₁ fuel).stats.numberOfSteps
        = (rosSolve o cs s₂ p kc atol rtol T Y sc₂ fuel).stats.numberOfSteps ∧
    (rosSolve o cs s₁ p kc atol rtol T Y sc₁ fuel).stats.accepted
        = (rosSolve o cs s₂ p kc atol rtol T Y sc₂ fuel).stats.accepted ∧
    (rosSolve o cs s₁ p kc atol rtol T Y sc₁ fuel).stats.rejected
        = (rosSolve o cs s₂ p kc atol rtol T Y sc₂ fuel).stats.rejected ∧
    (rosSolve o cs s₁ p kc atol rtol T Y sc₁ fuel).stats.decompositions
        = (rosSolve o cs s₂ p kc atol rtol T Y sc₂ fuel).stats.decompositions ∧
    (rosSolve o cs s₁ p kc atol rtol T Y sc₁ fuel).stats.solves
        = (rosSolve o cs s₂ p kc atol rtol T Y sc₂ fuel).stats.solves ∧
    (rosSolve o cs s₁ p kc atol rtol T Y sc₁ fuel).stats.functionCalls
        = (rosSolve o cs s₂ p kc atol rtol T Y sc₂ fuel).stats.functionCalls := by
  have hI₁ : StoreInv p kc s₁ nCells n (rosInit (initialH o cs p T) Y sc₁) :=
    ⟨hY, hKs, hksz, hf0s, hj₁, hl₁, hu₁, fun _ h2 => nomatch h2⟩
  have hI₂ : StoreInv p kc s₂ nCells n (rosInit (initialH o cs p T) Y sc₂) :=
    ⟨hY, hk ▸ hKs, hk ▸ hksz, hf0 ▸ hf0s, hj₂, hl₂, hu₂, fun _ h2 => nomatch h2⟩
  have hE : LogicalEq (rosInit (initialH o cs p T) Y sc₁) (rosInit (initialH o cs p T) Y sc₂) :=
    ⟨rfl, rfl, rfl, rfl, hk, hf0, hyerr, rfl, rfl, rfl, rfl, rfl, rfl, rfl⟩
  -- the relation kept along the loop: logical equality, and each side's storage invariant
  obtain ⟨h, _, _⟩ := rosLoop_sim o cs s₁ s₂ p kc atol atol rtol T (hmaxEff o p T)
    (fun r₁ r₂ => LogicalEq r₁ r₂ ∧ StoreInv p kc s₁ nCells n r₁ ∧ StoreInv p kc s₂ nCells n r₂)
    (fun r₁ _ => PivotsOK o cs p kc T s₁ nCells n r₁)
    (fun _ _ h => h.1.status)
    (fun r₁ r₂ _ h hg =>
      ⟨C12_step_config_indep o cs p kc atol rtol T (hmaxEff o p T) hmech s₁ s₂ csc₁ csc₂ Ls₁ Ls₂ kind₁ kind₂
        hs₁ hs₂ nCells r₁ r₂ h.2.1 h.2.2 h.1 hg,
       C12_storeInv_step o cs p kc atol rtol T _ s₁ nCells n r₁ h.2.1,
       C12_storeInv_step o cs p kc atol rtol T _ s₂ nCells n r₂ h.2.2⟩)
    (fun _ _ h => ⟨{ h.1 with status := rfl }, { h.2.1 with holds := fun h1 => nomatch h1 },
      { h.2.2 with holds := fun h1 => nomatch h1 }⟩)
    fuel _ _ ⟨hE, hI₁, hI₂⟩ hpiv
  rw [rosSolve_eq, rosSolve_eq]
  refine ⟨h.status, by simp only [h.ctl], h.Y, ?_, h.nSteps, h.accepted, h.rejected, h.decomps,
    h.solves, h.fcalls⟩
  simp only [List.map_reverse, h.trace]

end Lockstep

namespace C12Ex

/-- the pattern of C03's example: 3×3 without (0,2), (1,2), (2,1); LU fill-in at (2,1) -/
def set3 : List Pair := [(0,0),(0,1),(1,0),(1,1),(2,0),(2,2)]

theorem set3_wf : WF 3 set3 := ⟨by unfold PairSorted; decide, by decide⟩

/-- configuration 1: Doolittle, separate `L`/`U`, CSR, standard ordering -/
def la1 : LinAlg := LinAlg.build .doolittle (Pattern.mk' 3 false 0 set3)
/-- configuration 2: Mozart in place, CSC, vector ordering with `L = 2` -/
def la2 : LinAlg := LinAlg.build .mozartInPlace (Pattern.mk' 3 true 2 set3)

/-- `A = [[2,1,0],[4,3,0],[6,1,7]]` in CSR order of the declared pattern … -/
def a1 : Array ℚ := #[2, 1, 4, 3, 6, 7]
/-- … and in CSC order of the ALU pattern (the fill-in slot (2,1) holds `0`) -/
def a2 : Array ℚ := #[2, 4, 6, 1, 3, 0, 7]

example : la2.A.elems = [(0,0),(0,1),(0,2),(1,0),(1,1),(1,2),(2,2)] := by decide +kernel

theorem exDiag : ∀ i, i < 3 → (i, i) ∈ set3 := by decide

theorem exView : ∀ r, r < 3 → ∀ c, c < 3 → view la1.A a1 r c = view la2.A a2 r c := by decide +kernel

theorem exPiv : ∀ i, i < 3 → la1.pivot a1 #[9,9,9,9,9,9] #[8,8,8,8] i ≠ 0 := by decide +kernel

theorem exSizes1 : la1.SizesOK a1 #[9,9,9,9,9,9] (#[8,8,8,8] : Array ℚ) := by
  show _ ∧ _
  decide +kernel

theorem exSizes2 : la2.SizesOK a2 #[] (#[] : Array ℚ) := by
  show a2.size = _
  decide +kernel

example :
    (∀ i, i < 3 → (i, i) ∈ set3) ∧
    (∀ r, r < 3 → ∀ c, c < 3 → view la1.A a1 r c = view la2.A a2 r c) ∧
    (∀ i, i < 3 → la1.pivot a1 #[9,9,9,9,9,9] #[8,8,8,8] i ≠ 0) :=
  ⟨exDiag, exView, exPiv⟩

example : la1.SizesOK a1 #[9,9,9,9,9,9] (#[8,8,8,8] : Array ℚ) := exSizes1

example : la2.SizesOK a2 #[] (#[] : Array ℚ) := exSizes2

example :
    la1.factorSolveCell a1 #[9,9,9,9,9,9] #[8,8,8,8] #[1, 2, 3] = #[(1/2 : ℚ), 0, 0] ∧
    la2.factorSolveCell a2 #[] #[] #[1, 2, 3] = #[(1/2 : ℚ), 0, 0] := by
  decide +kernel

example (b : Array ℚ) (hb : b.size = 3) :
    ∀ j, j < 3 → rd (la1.factorSolveCell a1 #[9,9,9,9,9,9] #[8,8,8,8] b) j
      = rd (la2.factorSolveCell a2 #[] #[] b) j :=
  C12_linear_algebra_config_indep 3 set3 set3_wf exDiag .doolittle .mozartInPlace false true 0 2
    a1 #[9,9,9,9,9,9] #[8,8,8,8] a2 #[] #[] b exSizes1 exSizes2 hb exPiv
    (fun r c hr hc => exView r hr c hc)

/-- 5 cells, `L = 2`: two full groups and a partial one -/
example : normOrder 2 5 2 =
    [(0,0),(1,0),(0,1),(1,1), (2,0),(3,0),(2,1),(3,1), (4,0),(4,1)] := by decide
example : normOrder 0 5 2 =
    [(0,0),(0,1),(1,0),(1,1),(2,0),(2,1),(3,0),(3,1),(4,0),(4,1)] := by decide

/-- the transposition `0 ↔ 2`, to relabel C02's mechanism `s0 + s0 + s1 → 2 s2 ; s2 → s0` -/
def swap02 (i : Nat) : Nat := if i = 0 then 2 else if i = 2 then 0 else i

theorem swap02_inj : Function.Injective swap02 := by
  -- a transposition is its own inverse
  refine Function.LeftInverse.injective (g := swap02) fun i => ?_
  unfold swap02
  by_cases h0 : i = 0
  · subst h0; rfl
  by_cases h2 : i = 2
  · subst h2; rfl
  rw [if_neg h0, if_neg h2, if_neg h0, if_neg h2]

example : relabel swap02 c02Map = [("s0", 2), ("s1", 1), ("s2", 0)] := by decide

example : ∃ t', ProcessSet.build (c02Procs ℚ) (relabel swap02 c02Map) = .ok t' :=
  (C12_permutation_builds swap02 c02Map (c02Procs ℚ)).mpr ⟨_, c02Build ℚ⟩

/-! A whole solve of C02's mechanism on two cells, in the configurations `cfgA` (Doolittle, CSR,
    `L = 0`) and `cfgB` (Mozart in place, CSC, `L = 2`); the ALU pattern has a fill-in at (1,2). -/

def solveCfg (kind : LUKind) (csc : Bool) (L : Nat) : SolverCfg ℚ :=
  let la := LinAlg.build kind
    (Pattern.mk' 3 csc L (buildJacobianSet 3 (c02Tables ℚ).nonZeroJacobianElements))
  { nSpecies := 3, L := L, tables := c02Tables ℚ,
    flatIds := match (c02Tables ℚ).jacobianFlatIds la.A with | .ok f => f | .error _ => [],
    la := la, diag := la.A.diagRanks }

def cfgA : SolverCfg ℚ := solveCfg .doolittle false 0
def cfgB : SolverCfg ℚ := solveCfg .mozartInPlace true 2

def dense0 : Mat ℚ := #[#[0, 0, 0], #[0, 0, 0]]

def solveScratch (s : SolverCfg ℚ) : Scratch ℚ :=
  { jac := Array.replicate 2 (Array.replicate s.la.A.nnz 0),
    lower := Array.replicate 2 (Array.replicate s.la.Lp.nnz 0),
    upper := Array.replicate 2 (Array.replicate s.la.Up.nnz 0),
    ynew := dense0, f0 := dense0, k := #[dense0], yerr := dense0 }

def exKc : Mat ℚ := #[#[3, 5], #[1, 2]]
def exY0 : Mat ℚ := #[#[2, 7, 11], #[1, 1, 1]]
def exAtol : Array ℚ := #[1/10, 1/10, 1/10]

example : cfgA.la.A.nnz = 8 ∧ cfgB.la.A.nnz = 9 := by decide +kernel

theorem exMech : Mechanism (c02Procs ℚ) c02Map (c02Tables ℚ) 3 where
  built := c02Build ℚ
  names := by decide
  ids := by decide
  param := by decide
  range := by decide

theorem cfgA_built : CfgBuilt cfgA (c02Tables ℚ) 3 false 0 .doolittle :=
  ⟨rfl, rfl, rfl, by decide +kernel, rfl⟩

theorem cfgB_built : CfgBuilt cfgB (c02Tables ℚ) 3 true 2 .mozartInPlace :=
  ⟨rfl, rfl, rfl, by decide +kernel, rfl⟩

theorem dense0_shape : MatShape 2 3 dense0 := ⟨rfl, by decide⟩

theorem solveScratch_jac (s : SolverCfg ℚ) : MatShape 2 s.la.A.nnz (solveScratch s).jac :=
  MatShape.replicate ..

theorem solveScratch_lower (s : SolverCfg ℚ) : MatShape 2 s.la.Lp.nnz (solveScratch s).lower :=
  MatShape.replicate ..

theorem solveScratch_upper (s : SolverCfg ℚ) : MatShape 2 s.la.Up.nnz (solveScratch s).upper :=
  MatShape.replicate ..

theorem solveScratch_k (s : SolverCfg ℚ) : KShape 2 3 (solveScratch s).k := by
  intro j hj
  have : j = 0 := Nat.lt_one_iff.mp hj
  subst this
  exact dense0_shape

theorem exStoreInv (h : ℚ) :
    StoreInv Ex.params exKc cfgA 2 3 (rosInit h exY0 (solveScratch cfgA)) :=
  ⟨(show MatShape 2 3 exY0 from ⟨rfl, by decide⟩), solveScratch_k cfgA,
    (show Ex.params.stages ≤ (solveScratch cfgA).k.size by decide), dense0_shape, solveScratch_jac cfgA,
    fun _ => solveScratch_lower cfgA, fun _ => solveScratch_upper cfgA, fun _ h2 => nomatch h2⟩

def rosIter (s : SolverCfg ℚ) (atol : Array ℚ) (Y0 : Mat ℚ) (sc : Scratch ℚ) (j : Nat) : RState ℚ :=
  (rosStep ratOps Ex.consts s Ex.params exKc atol (1/10) 1 (hmaxEff ratOps Ex.params 1))^[j]
    (rosInit (initialH ratOps Ex.consts Ex.params 1) Y0 sc)

def runA : SolveResult ℚ := rosSolve ratOps Ex.consts cfgA Ex.params exKc exAtol (1/10) 1 exY0 (solveScratch cfgA) 4
def runB : SolveResult ℚ := rosSolve ratOps Ex.consts cfgB Ex.params exKc exAtol (1/10) 1 exY0 (solveScratch cfgB) 4

/-- Everything evaluated about the two runs (`T = 1`, four iterations), in one statement: after
    `rosSolve_trace`, `rosSolve_stats` all parts speak of the iterates of the same `rosStep`.  The
    first part is the hypothesis of `PivotsOK_iterates` for configuration A. -/
theorem exRuns :
    (∀ j, j < 4 → (rosPrologue ratOps Ex.consts cfgA Ex.params exKc 1
        (rosIter cfgA exAtol exY0 (solveScratch cfgA) j)).status = .running →
      ∀ c, c < 2 → ∀ i, i < 3 → factorPivot cfgA (rosIter cfgA exAtol exY0 (solveScratch cfgA) (j + 1)).sc.jac
        (rosIter cfgA exAtol exY0 (solveScratch cfgA) (j + 1)).sc.upper c i ≠ 0) ∧
    runA.trace.map (fun a => (a.h, a.accepted))
      = [(1, false), (1/5, false), (13140278038275322889772/173240972008810191428125, true),
         (13140278038275322889772/173240972008810191428125, true)] ∧
    runB.trace.map (fun a => (a.h, a.accepted)) = runA.trace.map (fun a => (a.h, a.accepted)) ∧
    runA.trace.map (fun a => (a.matrix.getD 0 #[]).size) = [8, 8, 8, 8] ∧
    runB.trace.map (fun a => (a.matrix.getD 0 #[]).size) = [9, 9, 9, 9] ∧
    runA.stats.jacobianUpdates = 2 ∧ runB.stats.jacobianUpdates = 4 := by
  unfold runA runB rosIter
  rw [rosSolve_trace, rosSolve_trace, rosSolve_stats, rosSolve_stats]
  unfold factorPivot
  decide +kernel

theorem exPivots : ∀ j, j < 4 → PivotsOK ratOps Ex.consts Ex.params exKc 1 cfgA 2 3
    ((rosStep ratOps Ex.consts cfgA Ex.params exKc exAtol (1/10) 1
        (hmaxEff ratOps Ex.params 1))^[j]
      (rosInit (initialH ratOps Ex.consts Ex.params 1) exY0 (solveScratch cfgA))) :=
  PivotsOK_iterates ratOps Ex.consts Ex.params exKc exAtol (1/10) 1 _ cfgA rfl 2 3 _ (exStoreInv _) 4 exRuns.1

example :=
  C12_solve_config_indep ratOps Ex.consts Ex.params exKc exAtol (1/10) 1 exMech cfgA cfgB
    false true 0 2 .doolittle .mozartInPlace cfgA_built cfgB_built 2 exY0 (solveScratch cfgA)
    (solveScratch cfgB) 4 ⟨rfl, by decide⟩ rfl rfl rfl (solveScratch_k cfgA) (by decide) dense0_shape
    (solveScratch_jac cfgA) (fun _ => solveScratch_lower cfgA) (fun _ => solveScratch_upper cfgA)
    (solveScratch_jac cfgB) (fun h => nomatch h) (fun h => nomatch h) exPivots

/-- Same history (two rejections, then acceptances), while the physical matrices differ (8 resp. 9
    stored elements per cell) and so does `jacobian_updates` (the in-place variant regenerates the
    Jacobian after each rejection). -/
example :
    (rosSolve ratOps Ex.consts cfgA Ex.params exKc exAtol (1/10) 1 exY0 (solveScratch cfgA) 4).trace.map
        (fun a => (a.h, a.accepted))
      = [(1, false), (1/5, false), (13140278038275322889772/173240972008810191428125, true),
         (13140278038275322889772/173240972008810191428125, true)] ∧
    (rosSolve ratOps Ex.consts cfgB Ex.params exKc exAtol (1/10) 1 exY0 (solveScratch cfgB) 4).trace.map
        (fun a => (a.h, a.accepted))
      = [(1, false), (1/5, false), (13140278038275322889772/173240972008810191428125, true),
         (13140278038275322889772/173240972008810191428125, true)] ∧
    ((rosSolve ratOps Ex.consts cfgA Ex.params exKc exAtol (1/10) 1 exY0 (solveScratch cfgA) 4).trace.map
        (fun a => (a.matrix.getD 0 #[]).size)) = [8, 8, 8, 8] ∧
    ((rosSolve ratOps Ex.consts cfgB Ex.params exKc exAtol (1/10) 1 exY0 (solveScratch cfgB) 4).trace.map
        (fun a => (a.matrix.getD 0 #[]).size)) = [9, 9, 9, 9] ∧
    (rosSolve ratOps Ex.consts cfgA Ex.params exKc exAtol (1/10) 1 exY0 (solveScratch cfgA) 4).stats.jacobianUpdates = 2 ∧
    (rosSolve ratOps Ex.consts cfgB Ex.params exKc exAtol (1/10) 1 exY0 (solveScratch cfgB) 4).stats.jacobianUpdates = 4 :=
  have ⟨_, hA, hB, sA, sB, jA, jB⟩ := exRuns
  ⟨hA, hB.trans hA, sA, sB, jA, jB⟩

end C12Ex

end Micm

#print axioms Micm.C12_solution_unique
#print axioms Micm.C12_linear_algebra_config_indep
#print axioms Micm.C12_linear_algebra_config_indep_patterns
#print axioms Micm.C12_pivots_config_indep
#print axioms Micm.C12_factorSolveCell_is_model
#print axioms Micm.C12_linSolve_config_indep
#print axioms Micm.C12_forcing_config_indep
#print axioms Micm.C12_jacobian_config_indep
#print axioms Micm.C12_jacobian_any_pattern
#print axioms Micm.C12_forcing_permutation
#print axioms Micm.C12_permutation_builds
#print axioms Micm.C12_jacobian_permutation
#print axioms Micm.C12_linear_algebra_permutation
#print axioms Micm.C12_normOrder_perm
#print axioms Micm.C12_norm_layout_indep
#print axioms Micm.C12_norm_sum
#print axioms Micm.C12_matrix_config_indep
#print axioms Micm.C12_attempt_config_indep
#print axioms Micm.C12_stages_config_indep
#print axioms Micm.C12_storeInv_step
#print axioms Micm.C12_step_config_indep
#print axioms Micm.C12_solve_config_indep
