import Micm.Lemmas.MixedOrders
import Mathlib.Algebra.Field.Rat

/-!
C03 (continued) — sparse LU with the lower and the upper matrix stored in their *own* orders.

The C++ lets `state.lower_matrix_` and `state.upper_matrix_` use orderings different from the
Jacobian's and from each other (e.g. `A` in CSR, `L` in CSC, `U` in CSR).  The model of that
configuration is `LinAlg.buildMixed kind jac cscL cscU` (`Micm/Model/LU.lean`): the symbolic
factorisation of `jac`, `Lp := Pattern.mk' jac.n cscL jac.L l`, `Up := Pattern.mk' jac.n cscU jac.L u`
and the `Initialize` tables built from the ranks of *these* patterns.  `kind = .mozart` gives the
Mozart tables, every other kind the Doolittle tables.

Everything below is for an arbitrary `jac : Pattern` (any order, any layout; the Mozart variant
needs its diagonal to be present), arbitrary `cscL cscU : Bool`, an arbitrary cell array `a` of
`A`-values over a field `K`, and ARBITRARY prior contents `l0`, `u0` of the `L`/`U` storage (only
their sizes are fixed: `nnz` of the respective pattern).  `view p x r c` is the logical matrix the
rank-indexed array `x` holds under pattern `p` (absent elements read as `0`).
-/
open Finset
namespace Micm
variable {K : Type} [Field K]

/-- C03 (mixed orders), the factors are the dense Doolittle factors: for every `kind`, the views
    of the arrays computed by the kernel (`mozartCell la.mInit la.mRows` for `.mozart`,
    `doolittleCell la.dRows` otherwise) through `la.Lp` / `la.Up` are `DenseLU.lu (view jac a)`;
    in particular they vanish outside the patterns.  The full diagonal is only needed for Mozart. -/
theorem C03_mixed_view (kind : LUKind) (jac : Pattern) (cscL cscU : Bool)
    (hdiag : kind = .mozart → ∀ i, i < jac.n → jac.zero? i i = false) (a l0 u0 : Array K) :
    let la := LinAlg.buildMixed kind jac cscL cscU
    let LU := match kind with
      | .mozart => mozartCell la.mInit la.mRows a (l0, u0)
      | _ => doolittleCell la.dRows a (l0, u0)
    l0.size = la.Lp.nnz → u0.size = la.Up.nnz →
    ∀ r c, r < jac.n → c < jac.n →
      view la.Lp LU.1 r c = (DenseLU.lu (view jac a) jac.n).L r c ∧
      view la.Up LU.2 r c = (DenseLU.lu (view jac a) jac.n).U r c := by
  intro la LU hLs hUs
  exact buildMixed_view kind jac cscL cscU hdiag a l0 u0 hLs hUs

/-- C03 (mixed orders), `L·U = A`: for every `kind`, every Jacobian pattern with a full diagonal
    (only needed for Mozart; Doolittle's `GetLUMatrices` adds the diagonal itself), every pair of
    storage orders for `L` and `U`, every prior contents of the `L`/`U` arrays: if no pivot
    (diagonal element of the computed `U`) vanishes, the logical matrices held by the result are a
    unit lower triangular `L` and an upper triangular `U` with `L·U = A` on the block. -/
theorem C03_mixed_LU (kind : LUKind) (jac : Pattern) (cscL cscU : Bool)
    (hdiag : kind = .mozart → ∀ i, i < jac.n → jac.zero? i i = false) (a l0 u0 : Array K) :
    let la := LinAlg.buildMixed kind jac cscL cscU
    let LU := match kind with
      | .mozart => mozartCell la.mInit la.mRows a (l0, u0)
      | _ => doolittleCell la.dRows a (l0, u0)
    l0.size = la.Lp.nnz → u0.size = la.Up.nnz →
    (∀ i, i < jac.n → view la.Up LU.2 i i ≠ 0) →
    DenseLU.IsLU jac.n (view jac a) (view la.Lp LU.1) (view la.Up LU.2) := by
  intro la LU hLs hUs hpiv
  exact IsLU_of_views (view jac a) la.Lp la.Up LU.1 LU.2
    (buildMixed_view kind jac cscL cscU hdiag a l0 u0 hLs hUs) hpiv

/-- the same with the kernels written out.  Doolittle (any `kind ≠ .mozart`; no hypothesis on the
    Jacobian pattern at all: `GetLUMatrices` adds the diagonal itself) -/
theorem C03_mixed_doolittle_LU (jac : Pattern) (cscL cscU : Bool) (a l0 u0 : Array K)
    (hLs : l0.size = (LinAlg.buildMixed .doolittle jac cscL cscU).Lp.nnz)
    (hUs : u0.size = (LinAlg.buildMixed .doolittle jac cscL cscU).Up.nnz)
    (hpiv : ∀ i, i < jac.n → view (LinAlg.buildMixed .doolittle jac cscL cscU).Up
      (doolittleCell (LinAlg.buildMixed .doolittle jac cscL cscU).dRows a (l0, u0)).2 i i ≠ 0) :
    DenseLU.IsLU jac.n (view jac a)
      (view (LinAlg.buildMixed .doolittle jac cscL cscU).Lp
        (doolittleCell (LinAlg.buildMixed .doolittle jac cscL cscU).dRows a (l0, u0)).1)
      (view (LinAlg.buildMixed .doolittle jac cscL cscU).Up
        (doolittleCell (LinAlg.buildMixed .doolittle jac cscL cscU).dRows a (l0, u0)).2) :=
  IsLU_of_views (view jac a) _ _ _ _ (buildMixed_doolittle_view jac cscL cscU a l0 u0 hLs hUs) hpiv

/-- Mozart: the same, given that the Jacobian pattern has its diagonal (`hdiag`) -/
theorem C03_mixed_mozart_LU (jac : Pattern) (cscL cscU : Bool)
    (hdiag : ∀ i, i < jac.n → jac.zero? i i = false) (a l0 u0 : Array K)
    (hLs : l0.size = (LinAlg.buildMixed .mozart jac cscL cscU).Lp.nnz)
    (hUs : u0.size = (LinAlg.buildMixed .mozart jac cscL cscU).Up.nnz)
    (hpiv : ∀ i, i < jac.n → view (LinAlg.buildMixed .mozart jac cscL cscU).Up
      (mozartCell (LinAlg.buildMixed .mozart jac cscL cscU).mInit
        (LinAlg.buildMixed .mozart jac cscL cscU).mRows a (l0, u0)).2 i i ≠ 0) :
    DenseLU.IsLU jac.n (view jac a)
      (view (LinAlg.buildMixed .mozart jac cscL cscU).Lp
        (mozartCell (LinAlg.buildMixed .mozart jac cscL cscU).mInit
          (LinAlg.buildMixed .mozart jac cscL cscU).mRows a (l0, u0)).1)
      (view (LinAlg.buildMixed .mozart jac cscL cscU).Up
        (mozartCell (LinAlg.buildMixed .mozart jac cscL cscU).mInit
          (LinAlg.buildMixed .mozart jac cscL cscU).mRows a (l0, u0)).2) :=
  IsLU_of_views (view jac a) _ _ _ _
    (buildMixed_mozart_view jac cscL cscU hdiag a l0 u0 hLs hUs) hpiv

/-- C03 (mixed orders): the logical factors depend neither on the storage orders chosen for `L`
    and `U` nor on the prior contents of the storage: two runs with orders `(cscL, cscU)`,
    `(cscL', cscU')` and prior contents `(l0, u0)`, `(l0', u0')` give the same `L` and `U`.
    (No pivot hypothesis: in exact arithmetic with `x / 0 = 0` the two runs agree even then.) -/
theorem C03_mixed_indep_of_orders (kind : LUKind) (jac : Pattern) (cscL cscU cscL' cscU' : Bool)
    (hdiag : kind = .mozart → ∀ i, i < jac.n → jac.zero? i i = false)
    (a l0 u0 l0' u0' : Array K) :
    let la := LinAlg.buildMixed kind jac cscL cscU
    let la' := LinAlg.buildMixed kind jac cscL' cscU'
    let LU := match kind with
      | .mozart => mozartCell la.mInit la.mRows a (l0, u0)
      | _ => doolittleCell la.dRows a (l0, u0)
    let LU' := match kind with
      | .mozart => mozartCell la'.mInit la'.mRows a (l0', u0')
      | _ => doolittleCell la'.dRows a (l0', u0')
    l0.size = la.Lp.nnz → u0.size = la.Up.nnz → l0'.size = la'.Lp.nnz → u0'.size = la'.Up.nnz →
    ∀ r c, r < jac.n → c < jac.n →
      view la.Lp LU.1 r c = view la'.Lp LU'.1 r c ∧ view la.Up LU.2 r c = view la'.Up LU'.2 r c := by
  intro la la' LU LU' hLs hUs hLs' hUs' r c hr hc
  exact both_eq (buildMixed_view kind jac cscL cscU hdiag a l0 u0 hLs hUs r c hr hc)
    (buildMixed_view kind jac cscL' cscU' hdiag a l0' u0' hLs' hUs' r c hr hc)

/-- … and they are the factors computed with `LinAlg.build` (`L`, `U` in the Jacobian's order) -/
theorem C03_mixed_eq_build_doolittle (jac : Pattern) (cscL cscU : Bool)
    (a l0 u0 l0' u0' : Array K)
    (hLs : l0.size = (LinAlg.buildMixed .doolittle jac cscL cscU).Lp.nnz)
    (hUs : u0.size = (LinAlg.buildMixed .doolittle jac cscL cscU).Up.nnz)
    (hLs' : l0'.size = (LinAlg.build .doolittle jac).Lp.nnz)
    (hUs' : u0'.size = (LinAlg.build .doolittle jac).Up.nnz) :
    ∀ r c, r < jac.n → c < jac.n →
      view (LinAlg.buildMixed .doolittle jac cscL cscU).Lp
          (doolittleCell (LinAlg.buildMixed .doolittle jac cscL cscU).dRows a (l0, u0)).1 r c
        = view (LinAlg.build .doolittle jac).Lp
          (doolittleCell (LinAlg.build .doolittle jac).dRows a (l0', u0')).1 r c ∧
      view (LinAlg.buildMixed .doolittle jac cscL cscU).Up
          (doolittleCell (LinAlg.buildMixed .doolittle jac cscL cscU).dRows a (l0, u0)).2 r c
        = view (LinAlg.build .doolittle jac).Up
          (doolittleCell (LinAlg.build .doolittle jac).dRows a (l0', u0')).2 r c :=
  fun r c hr hc => both_eq (buildMixed_doolittle_view jac cscL cscU a l0 u0 hLs hUs r c hr hc)
    (C03_build_doolittle jac a l0' u0' hLs' hUs' r c hr hc)

theorem C03_mixed_eq_build_mozart (jac : Pattern) (cscL cscU : Bool)
    (hdiag : ∀ i, i < jac.n → jac.zero? i i = false) (a l0 u0 l0' u0' : Array K)
    (hLs : l0.size = (LinAlg.buildMixed .mozart jac cscL cscU).Lp.nnz)
    (hUs : u0.size = (LinAlg.buildMixed .mozart jac cscL cscU).Up.nnz)
    (hLs' : l0'.size = (LinAlg.build .mozart jac).Lp.nnz)
    (hUs' : u0'.size = (LinAlg.build .mozart jac).Up.nnz) :
    ∀ r c, r < jac.n → c < jac.n →
      view (LinAlg.buildMixed .mozart jac cscL cscU).Lp
          (mozartCell (LinAlg.buildMixed .mozart jac cscL cscU).mInit
            (LinAlg.buildMixed .mozart jac cscL cscU).mRows a (l0, u0)).1 r c
        = view (LinAlg.build .mozart jac).Lp
          (mozartCell (LinAlg.build .mozart jac).mInit (LinAlg.build .mozart jac).mRows a
            (l0', u0')).1 r c ∧
      view (LinAlg.buildMixed .mozart jac cscL cscU).Up
          (mozartCell (LinAlg.buildMixed .mozart jac cscL cscU).mInit
            (LinAlg.buildMixed .mozart jac cscL cscU).mRows a (l0, u0)).2 r c
        = view (LinAlg.build .mozart jac).Up
          (mozartCell (LinAlg.build .mozart jac).mInit (LinAlg.build .mozart jac).mRows a
            (l0', u0')).2 r c :=
  fun r c hr hc => both_eq (buildMixed_mozart_view jac cscL cscU hdiag a l0 u0 hLs hUs r c hr hc)
    (C03_build_mozart jac hdiag a l0' u0' hLs' hUs' r c hr hc)

/-- the structure behind it: the patterns built by `buildMixed` are well-formed for every pair of
    orders ((H1)+(H2) of C03), `Lp` is lower triangular with a full diagonal, `Up` upper triangular
    with a full diagonal, and which elements are present and how many slots each array has does not
    depend on the orders (so the size hypotheses above are the same for all four combinations). -/
theorem C03_mixed_patterns (kind : LUKind) (jac : Pattern) (cscL cscU : Bool)
    (hdiag : kind = .mozart → ∀ i, i < jac.n → jac.zero? i i = false) :
    let la := LinAlg.buildMixed kind jac cscL cscU
    MozSetup jac.n jac la.Lp la.Up ∧
    (∀ i, i < jac.n → la.Lp.zero? i i = false ∧ la.Up.zero? i i = false) ∧
    (∀ cscL' cscU' r c,
      la.Lp.zero? r c = (LinAlg.buildMixed kind jac cscL' cscU').Lp.zero? r c ∧
      la.Up.zero? r c = (LinAlg.buildMixed kind jac cscL' cscU').Up.zero? r c) ∧
    (∀ cscL' cscU',
      la.Lp.nnz = (LinAlg.buildMixed kind jac cscL' cscU').Lp.nnz ∧
      la.Up.nnz = (LinAlg.buildMixed kind jac cscL' cscU').Up.nnz) := by
  intro la
  have hs := MozSetup_buildMixed_kind kind jac cscL cscU hdiag
  refine ⟨hs, fun i hi => ⟨hs.diagL i hi, ?_⟩,
    fun cscL' cscU' r c => buildMixed_zero?_indep kind jac cscL cscU cscL' cscU' r c,
    fun cscL' cscU' => buildMixed_nnz_indep kind jac cscL cscU cscL' cscU'⟩
  exact (pres_true _ _ _).mp (hs.closed.diagU i hi)

/-- for Doolittle also minimality (the full `LUSetup`) -/
theorem C03_mixed_setup_doolittle (jac : Pattern) (cscL cscU : Bool) :
    LUSetup jac.n jac (LinAlg.buildMixed .doolittle jac cscL cscU).Lp
      (LinAlg.buildMixed .doolittle jac cscL cscU).Up :=
  LUSetup_buildMixed jac cscL cscU

/-! ### a concrete instance: 3×3, `A` (CSR) lacks (1,2),(2,1); fill-in at `L(2,1)` and `U(1,2)`;
`L` stored in CSC, `U` in CSR (and the other way round) -/

def c03bA : Pattern := Pattern.mk' 3 false 0 [(0,0),(0,1),(0,2),(1,0),(1,1),(2,0),(2,2)]

example : ∀ i, i < c03bA.n → c03bA.zero? i i = false := by decide +kernel

/-- `elems` are storage keys, major index first: (col,row) for CSC, (row,col) for CSR. -/
example : (LinAlg.buildMixed .doolittle c03bA true false).Lp.elems
      = [(0,0),(0,1),(0,2),(1,1),(1,2),(2,2)] := by decide +kernel
example : (LinAlg.buildMixed .doolittle c03bA false true).Lp.elems
      = [(0,0),(1,0),(1,1),(2,0),(2,1),(2,2)] := by decide +kernel
example : (LinAlg.buildMixed .doolittle c03bA true false).Up.elems
      = [(0,0),(0,1),(0,2),(1,1),(1,2),(2,2)] := by decide +kernel
example : (LinAlg.buildMixed .doolittle c03bA false true).Up.elems
      = [(0,0),(1,0),(1,1),(2,0),(2,1),(2,2)] := by decide +kernel

example : (LinAlg.buildMixed .doolittle c03bA true false).Lp.rk 2 0 = 2 ∧
    (LinAlg.buildMixed .doolittle c03bA false true).Lp.rk 2 0 = 3 ∧
    (LinAlg.buildMixed .doolittle c03bA true false).Up.rk 0 2 = 2 ∧
    (LinAlg.buildMixed .doolittle c03bA false true).Up.rk 0 2 = 3 := by decide +kernel

/-- `A = [[2,1,1],[4,3,0],[6,0,7]]` over `ℚ`, garbage in the `L`/`U` storage;
    `L = [[1,0,0],[2,1,0],[3,-3,1]]`, `U = [[2,1,1],[0,1,-2],[0,0,-2]]`. -/
example :
    let la := LinAlg.buildMixed .doolittle c03bA true false
    let a : Array ℚ := #[2, 1, 1, 4, 3, 6, 7]
    doolittleCell la.dRows a (#[9,9,9,9,9,9], #[8,8,8,8,8,8])
      = (#[1, 2, 3, 1, -3, 1], #[2, 1, 1, 1, -2, -2]) := by decide +kernel

example :
    let la := LinAlg.buildMixed .doolittle c03bA false true
    let a : Array ℚ := #[2, 1, 1, 4, 3, 6, 7]
    doolittleCell la.dRows a (#[9,9,9,9,9,9], #[8,8,8,8,8,8])
      = (#[1, 2, 1, 3, -3, 1], #[2, 1, 1, 1, -2, -2]) := by decide +kernel

example :
    let la := LinAlg.buildMixed .mozart c03bA true false
    let a : Array ℚ := #[2, 1, 1, 4, 3, 6, 7]
    mozartCell la.mInit la.mRows a (#[5,5,5,5,5,5], #[4,4,4,4,4,4])
      = (#[1, 2, 3, 1, -3, 1], #[2, 1, 1, 1, -2, -2]) := by decide +kernel

/-- The hypotheses of `C03_mixed_LU` on this instance. -/
example :
    let la := LinAlg.buildMixed .doolittle c03bA true false
    let a : Array ℚ := #[2, 1, 1, 4, 3, 6, 7]
    let LU := doolittleCell la.dRows a (#[9,9,9,9,9,9], #[8,8,8,8,8,8])
    (#[9,9,9,9,9,9] : Array ℚ).size = la.Lp.nnz ∧ (#[8,8,8,8,8,8] : Array ℚ).size = la.Up.nnz ∧
    ∀ i, i < c03bA.n → view la.Up LU.2 i i ≠ 0 := by decide +kernel

end Micm

#print axioms Micm.C03_mixed_view
#print axioms Micm.C03_mixed_LU
#print axioms Micm.C03_mixed_doolittle_LU
#print axioms Micm.C03_mixed_mozart_LU
#print axioms Micm.C03_mixed_indep_of_orders
#print axioms Micm.C03_mixed_eq_build_doolittle
#print axioms Micm.C03_mixed_eq_build_mozart
#print axioms Micm.C03_mixed_patterns
#print axioms Micm.C03_mixed_setup_doolittle
