/-
C16 — one solver shared by many threads, each with its own State.
Model theorem: for EVERY schedule (interleaving), each thread's state and results are exactly those
of running its own operations serially; nothing a thread does is visible to another thread.
The theorem's premise is the shape of `runSched`: steps read the shared value and write only the
stepping thread's own state.  That premise about the C++ (no writes to the solver object from
`GetState`, `CalculateRateConstants`, two-argument `Solve`) is validated by the ThreadSanitizer run and
the serial/parallel bitwise comparison of tools/check.py C16; `C16c.lean` derives it, for the entry points
named, from the table of stores generated from the clang AST (`Gen/Effects.lean`).
-/
import Micm.Model.Concurrency
namespace Micm

variable {S σ ρ ω : Type}

theorem iter_succ {β : Type} (f : β → β) (n : Nat) (b : β) : iter f (n + 1) b = iter f n (f b) := rfl

/-- after any schedule, thread `i` has performed exactly `count i` steps of its own, from its own
    initial state: no other thread's steps matter, in any order -/
theorem C16_schedule_independence (step : S → σ → ω → σ × ρ) (s : S) (sched : List Nat)
    (ts : Nat → TState σ ρ ω) (i : Nat) :
    runSched step s sched ts i = iter (tstep step s) (sched.count i) (ts i) := by
  induction sched generalizing ts with
  | nil => rfl
  | cons j js ih =>
    simp only [runSched]
    rw [ih]
    by_cases h : j = i
    · subst h; simp [List.count_cons, iter]
    · have h' : ¬ i = j := fun e => h e.symm
      simp [List.count_cons, h, h']

def serial (step : S → σ → ω → σ × ρ) (s : S) (t : TState σ ρ ω) : TState σ ρ ω :=
  iter (tstep step s) t.pending.length t

theorem tstep_finished (step : S → σ → ω → σ × ρ) (s : S) (t : TState σ ρ ω) (h : t.pending = []) :
    tstep step s t = t := by
  unfold tstep; rw [h]

theorem iter_finished (step : S → σ → ω → σ × ρ) (s : S) (n : Nat) (t : TState σ ρ ω) (h : t.pending = []) :
    iter (tstep step s) n t = t := by
  induction n with
  | zero => rfl
  | succ n ih => rw [iter_succ, tstep_finished step s t h, ih]

theorem iter_ge_serial (step : S → σ → ω → σ × ρ) (s : S) (n : Nat) (t : TState σ ρ ω)
    (h : t.pending.length ≤ n) : iter (tstep step s) n t = serial step s t := by
  unfold serial
  induction n generalizing t with
  | zero =>
    have : t.pending.length = 0 := Nat.le_zero.mp h
    rw [this]
  | succ n ih =>
    cases hp : t.pending with
    | nil => rw [iter_finished step s _ t hp]; simp [iter]
    | cons op ops =>
      rw [iter_succ]
      have hl : (tstep step s t).pending = ops := by simp [tstep, hp]
      have : (tstep step s t).pending.length ≤ n := by
        rw [hl]; rw [hp] at h; simp at h; omega
      rw [ih _ this, hl]
      simp [iter_succ]

/-- every complete schedule (each thread scheduled at least as often as it has operations)
    gives every thread bit-for-bit its serial outcome -/
theorem C16_complete_schedule_eq_serial (step : S → σ → ω → σ × ρ) (s : S) (sched : List Nat)
    (ts : Nat → TState σ ρ ω) (i : Nat) (h : (ts i).pending.length ≤ sched.count i) :
    runSched step s sched ts i = serial step s (ts i) := by
  rw [C16_schedule_independence, iter_ge_serial step s _ _ h]

example : runSched (fun (s : Nat) (l : Nat) (op : Nat) => (l + s * op, l)) 10 [1, 0, 1, 0, 1]
    (fun i => ⟨i, [1, 2, 3], []⟩) 1 = serial (fun (s : Nat) (l : Nat) (op : Nat) => (l + s * op, l)) 10 ⟨1, [1, 2, 3], []⟩ := by
  apply C16_complete_schedule_eq_serial; decide

end Micm
#print axioms Micm.C16_schedule_independence
#print axioms Micm.C16_complete_schedule_eq_serial
