import Micm.Lemmas.MixedOrders
import Mathlib.Algebra.Field.Rat

/-!
C04 (continued) — `Factor; Solve` when the lower and the upper matrix use their own storage orders
(`LinAlg.buildMixed kind jac cscL cscU`, see C03b): for every Jacobian pattern with a full diagonal
(needed for Mozart only), every pair of orders, every prior contents `l0`, `u0` of the `L`/`U`
storage and every right-hand side `b` of the block size, `solveCell la.fw la.bw` applied to the
arrays computed by the decomposition kernel overwrites `b` with `x` such that `A x = b`
(`C04_mixed_solve`), and `x` is the same array for all four order combinations and equal to the
one obtained with `LinAlg.build` (`C04_mixed_indep_of_orders`, `C04_mixed_eq_build_*`).
The statements are per cell: a cell's result is a function of that cell's `a` and `b` only.
-/
open Finset
namespace Micm
variable {K : Type} [Field K]

/-- C04 (mixed orders): `A · x = b` on the block, `x = Solve(Factor(a), b)`. -/
theorem C04_mixed_solve (kind : LUKind) (jac : Pattern) (cscL cscU : Bool)
    (hdiag : kind = .mozart → ∀ i, i < jac.n → jac.zero? i i = false) (a l0 u0 b : Array K) :
    let la := LinAlg.buildMixed kind jac cscL cscU
    let LU := match kind with
      | .mozart => mozartCell la.mInit la.mRows a (l0, u0)
      | _ => doolittleCell la.dRows a (l0, u0)
    l0.size = la.Lp.nnz → u0.size = la.Up.nnz → b.size = jac.n →
    (∀ i, i < jac.n → view la.Up LU.2 i i ≠ 0) →
    ∀ i, i < jac.n →
      ∑ j ∈ range jac.n, view jac a i j * rd (solveCell la.fw la.bw LU.1 LU.2 b) j = rd b i := by
  intro la LU hLs hUs hb hpiv
  exact buildMixed_solve kind jac cscL cscU hdiag a l0 u0 b hLs hUs hb hpiv

/-- the kernels written out: Doolittle (no hypothesis on the pattern) -/
theorem C04_mixed_doolittle (jac : Pattern) (cscL cscU : Bool) (a l0 u0 b : Array K)
    (hLs : l0.size = (LinAlg.buildMixed .doolittle jac cscL cscU).Lp.nnz)
    (hUs : u0.size = (LinAlg.buildMixed .doolittle jac cscL cscU).Up.nnz) (hb : b.size = jac.n)
    (hpiv : ∀ i, i < jac.n → view (LinAlg.buildMixed .doolittle jac cscL cscU).Up
      (doolittleCell (LinAlg.buildMixed .doolittle jac cscL cscU).dRows a (l0, u0)).2 i i ≠ 0) :
    ∀ i, i < jac.n →
      ∑ j ∈ range jac.n, view jac a i j *
        rd (solveCell (LinAlg.buildMixed .doolittle jac cscL cscU).fw
          (LinAlg.buildMixed .doolittle jac cscL cscU).bw
          (doolittleCell (LinAlg.buildMixed .doolittle jac cscL cscU).dRows a (l0, u0)).1
          (doolittleCell (LinAlg.buildMixed .doolittle jac cscL cscU).dRows a (l0, u0)).2 b) j
        = rd b i :=
  buildMixed_solve .doolittle jac cscL cscU (fun h => by cases h) a l0 u0 b hLs hUs hb hpiv

/-- Mozart: the same, given that the Jacobian pattern has its diagonal (`hdiag`) -/
theorem C04_mixed_mozart (jac : Pattern) (cscL cscU : Bool)
    (hdiag : ∀ i, i < jac.n → jac.zero? i i = false) (a l0 u0 b : Array K)
    (hLs : l0.size = (LinAlg.buildMixed .mozart jac cscL cscU).Lp.nnz)
    (hUs : u0.size = (LinAlg.buildMixed .mozart jac cscL cscU).Up.nnz) (hb : b.size = jac.n)
    (hpiv : ∀ i, i < jac.n → view (LinAlg.buildMixed .mozart jac cscL cscU).Up
      (mozartCell (LinAlg.buildMixed .mozart jac cscL cscU).mInit
        (LinAlg.buildMixed .mozart jac cscL cscU).mRows a (l0, u0)).2 i i ≠ 0) :
    ∀ i, i < jac.n →
      ∑ j ∈ range jac.n, view jac a i j *
        rd (solveCell (LinAlg.buildMixed .mozart jac cscL cscU).fw
          (LinAlg.buildMixed .mozart jac cscL cscU).bw
          (mozartCell (LinAlg.buildMixed .mozart jac cscL cscU).mInit
            (LinAlg.buildMixed .mozart jac cscL cscU).mRows a (l0, u0)).1
          (mozartCell (LinAlg.buildMixed .mozart jac cscL cscU).mInit
            (LinAlg.buildMixed .mozart jac cscL cscU).mRows a (l0, u0)).2 b) j
        = rd b i :=
  buildMixed_solve .mozart jac cscL cscU (fun _ => hdiag) a l0 u0 b hLs hUs hb hpiv

/-- C04 (mixed orders): the solution array is the same whatever orders `L` and `U` are stored in
    and whatever their storage held before `Factor` (exact arithmetic; no pivot hypothesis). -/
theorem C04_mixed_indep_of_orders (kind : LUKind) (jac : Pattern) (cscL cscU cscL' cscU' : Bool)
    (hdiag : kind = .mozart → ∀ i, i < jac.n → jac.zero? i i = false)
    (a l0 u0 l0' u0' b : Array K) :
    let la := LinAlg.buildMixed kind jac cscL cscU
    let la' := LinAlg.buildMixed kind jac cscL' cscU'
    let LU := match kind with
      | .mozart => mozartCell la.mInit la.mRows a (l0, u0)
      | _ => doolittleCell la.dRows a (l0, u0)
    let LU' := match kind with
      | .mozart => mozartCell la'.mInit la'.mRows a (l0', u0')
      | _ => doolittleCell la'.dRows a (l0', u0')
    l0.size = la.Lp.nnz → u0.size = la.Up.nnz → l0'.size = la'.Lp.nnz → u0'.size = la'.Up.nnz →
    b.size = jac.n →
    solveCell la.fw la.bw LU.1 LU.2 b = solveCell la'.fw la'.bw LU'.1 LU'.2 b := by
  intro la la' LU LU' hLs hUs hLs' hUs' hb
  exact buildMixed_solve_indep kind jac cscL cscU cscL' cscU' hdiag a l0 u0 l0' u0' b
    hLs hUs hLs' hUs' hb

/-- … and it is the solution computed with the tables of `LinAlg.build` (Doolittle) -/
theorem C04_mixed_eq_build_doolittle (jac : Pattern) (cscL cscU : Bool)
    (a l0 u0 l0' u0' b : Array K)
    (hLs : l0.size = (LinAlg.buildMixed .doolittle jac cscL cscU).Lp.nnz)
    (hUs : u0.size = (LinAlg.buildMixed .doolittle jac cscL cscU).Up.nnz)
    (hLs' : l0'.size = (LinAlg.build .doolittle jac).Lp.nnz)
    (hUs' : u0'.size = (LinAlg.build .doolittle jac).Up.nnz) (hb : b.size = jac.n) :
    solveCell (LinAlg.buildMixed .doolittle jac cscL cscU).fw
        (LinAlg.buildMixed .doolittle jac cscL cscU).bw
        (doolittleCell (LinAlg.buildMixed .doolittle jac cscL cscU).dRows a (l0, u0)).1
        (doolittleCell (LinAlg.buildMixed .doolittle jac cscL cscU).dRows a (l0, u0)).2 b
      = solveCell (LinAlg.build .doolittle jac).fw (LinAlg.build .doolittle jac).bw
        (doolittleCell (LinAlg.build .doolittle jac).dRows a (l0', u0')).1
        (doolittleCell (LinAlg.build .doolittle jac).dRows a (l0', u0')).2 b :=
  buildMixed_solve_indep .doolittle jac cscL cscU jac.csc jac.csc (fun h => by cases h)
    a l0 u0 l0' u0' b hLs hUs hLs' hUs' hb

/-- … and likewise for Mozart, given the diagonal of the Jacobian pattern -/
theorem C04_mixed_eq_build_mozart (jac : Pattern) (cscL cscU : Bool)
    (hdiag : ∀ i, i < jac.n → jac.zero? i i = false) (a l0 u0 l0' u0' b : Array K)
    (hLs : l0.size = (LinAlg.buildMixed .mozart jac cscL cscU).Lp.nnz)
    (hUs : u0.size = (LinAlg.buildMixed .mozart jac cscL cscU).Up.nnz)
    (hLs' : l0'.size = (LinAlg.build .mozart jac).Lp.nnz)
    (hUs' : u0'.size = (LinAlg.build .mozart jac).Up.nnz) (hb : b.size = jac.n) :
    solveCell (LinAlg.buildMixed .mozart jac cscL cscU).fw
        (LinAlg.buildMixed .mozart jac cscL cscU).bw
        (mozartCell (LinAlg.buildMixed .mozart jac cscL cscU).mInit
          (LinAlg.buildMixed .mozart jac cscL cscU).mRows a (l0, u0)).1
        (mozartCell (LinAlg.buildMixed .mozart jac cscL cscU).mInit
          (LinAlg.buildMixed .mozart jac cscL cscU).mRows a (l0, u0)).2 b
      = solveCell (LinAlg.build .mozart jac).fw (LinAlg.build .mozart jac).bw
        (mozartCell (LinAlg.build .mozart jac).mInit (LinAlg.build .mozart jac).mRows a
          (l0', u0')).1
        (mozartCell (LinAlg.build .mozart jac).mInit (LinAlg.build .mozart jac).mRows a
          (l0', u0')).2 b :=
  buildMixed_solve_indep .mozart jac cscL cscU jac.csc jac.csc (fun _ => hdiag)
    a l0 u0 l0' u0' b hLs hUs hLs' hUs' hb

/-- the general fact behind order independence: `solveCell` on the tables `solverRows Lp Up` only
    depends on the logical matrices its `L`/`U` arguments hold (diagonals present), not on how
    they are laid out -/
theorem C04_solveCell_views (Lp Up Lp' Up' : Pattern) (L U L' U' x : Array K) (n : Nat)
    (hn : Lp.n = n) (hn' : Lp'.n = n) (hx : x.size = n)
    (hLd : ∀ i, i < n → Lp.zero? i i = false) (hLd' : ∀ i, i < n → Lp'.zero? i i = false)
    (hUd : ∀ i, i < n → Up.zero? i i = false) (hUd' : ∀ i, i < n → Up'.zero? i i = false)
    (hL : ∀ i j, i < n → j < n → view Lp L i j = view Lp' L' i j)
    (hU : ∀ i j, i < n → j < n → view Up U i j = view Up' U' i j) :
    solveCell (solverRows Lp Up).1 (solverRows Lp Up).2 L U x
      = solveCell (solverRows Lp' Up').1 (solverRows Lp' Up').2 L' U' x :=
  solveCell_congr_views Lp Up Lp' Up' L U L' U' x n hn hn' hx hLd hLd' hUd hUd' hL hU

/-! ### a concrete instance (the one of C03b): `A` in CSR, `L` in CSC, `U` in CSR and vice versa -/

def c04bA : Pattern := Pattern.mk' 3 false 0 [(0,0),(0,1),(0,2),(1,0),(1,1),(2,0),(2,2)]

/-- The hypotheses of `C04_mixed_solve` with `A = [[2,1,1],[4,3,0],[6,0,7]]`, `b = (4, 7, 13)`. -/
example :
    let la := LinAlg.buildMixed .doolittle c04bA true false
    let a : Array ℚ := #[2, 1, 1, 4, 3, 6, 7]
    let LU := doolittleCell la.dRows a (#[9,9,9,9,9,9], #[8,8,8,8,8,8])
    (∀ i, i < c04bA.n → c04bA.zero? i i = false) ∧
    (#[9,9,9,9,9,9] : Array ℚ).size = la.Lp.nnz ∧ (#[8,8,8,8,8,8] : Array ℚ).size = la.Up.nnz ∧
    (#[4, 7, 13] : Array ℚ).size = c04bA.n ∧
    ∀ i, i < c04bA.n → view la.Up LU.2 i i ≠ 0 := by decide +kernel

example :
    let la := LinAlg.buildMixed .doolittle c04bA true false
    let a : Array ℚ := #[2, 1, 1, 4, 3, 6, 7]
    let LU := doolittleCell la.dRows a (#[9,9,9,9,9,9], #[8,8,8,8,8,8])
    solveCell la.fw la.bw LU.1 LU.2 #[4, 7, 13] = #[1, 1, 1] := by decide +kernel

example :
    let la := LinAlg.buildMixed .doolittle c04bA false true
    let a : Array ℚ := #[2, 1, 1, 4, 3, 6, 7]
    let LU := doolittleCell la.dRows a (#[9,9,9,9,9,9], #[8,8,8,8,8,8])
    solveCell la.fw la.bw LU.1 LU.2 #[4, 7, 13] = #[1, 1, 1] := by decide +kernel

example :
    let la := LinAlg.buildMixed .mozart c04bA true false
    let a : Array ℚ := #[2, 1, 1, 4, 3, 6, 7]
    let LU := mozartCell la.mInit la.mRows a (#[5,5,5,5,5,5], #[4,4,4,4,4,4])
    solveCell la.fw la.bw LU.1 LU.2 #[4, 7, 13] = #[1, 1, 1] := by decide +kernel

end Micm

#print axioms Micm.C04_mixed_solve
#print axioms Micm.C04_mixed_doolittle
#print axioms Micm.C04_mixed_mozart
#print axioms Micm.C04_mixed_indep_of_orders
#print axioms Micm.C04_mixed_eq_build_doolittle
#print axioms Micm.C04_mixed_eq_build_mozart
#print axioms Micm.C04_solveCell_views
