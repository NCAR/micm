/-
C20 — invalid configuration/input is rejected with the documented error.

"Building a solver without a system or reactions, with an empty species list, with a reaction naming
an unknown species, or with unused species when that is disallowed … each raise std::system_error
with the documented category and code; rejected setter calls leave the State usable."

Theorems about the model definitions `build` (`Micm/Model/Builder.lean`) and `hStep`/`hRun`
(`Micm/Model/History.lean`).

Vocabulary (defined in `Micm/Lemmas/Builder.lean`, `Micm/Lemmas/BuilderHistory.lean`):
 * `unknownIn names procs : List PSErr`: the errors of all non-parameterized reactant / product
   names that are not in `names`, in source order (processes in order, within a process reactants
   before products); `PSErr.toErr` maps `reactantDoesNotExist ↦ ("MICM Process Set", 1)`,
   `productDoesNotExist ↦ ("MICM Process Set", 2)`.
 * `tolAssigns sys`: the (key, value) tolerance assignments of `SetAbsoluteTolerances` (see C14).
 * `buildOutcome b : Option Err`: the decision table `C20_build_table` (`none` = success).
-/
import Micm.Lemmas.Builder
import Micm.Lemmas.BuilderHistory

namespace Micm

section Build
variable {α : Type}

/-- the decision table, in the order in which the source performs the checks -/
theorem C20_build_table (b : BuildInput α) :
    buildOutcome b =
      match b.system with
      | none => some (.sys catBuilder 2)                                   -- MissingChemicalSystem
      | some sys =>
        if (b.reactions.getD []).isEmpty then some (.sys catBuilder 3)      -- MissingReactions
        else if sys.stateSize = 0 then some (.sys catBuilder 4)            -- MissingChemicalSpecies
        else match (if b.reorder then (unknownIn sys.uniqueNames (b.reactions.getD [])).head? else none) with
          | some e => some e.toErr                                         -- ProcessSet (in GetSpeciesMap)
          | none =>
            if (!b.ignoreUnused && sys.uniqueNames.any fun s => !(speciesUsed (b.reactions.getD [])).contains s)
            then some (.sys catBuilder 1)                                  -- UnusedSpecies
            else match (unknownIn sys.uniqueNames (b.reactions.getD [])).head? with
              | some e => some e.toErr                                     -- ProcessSet
              | none =>
                if (tolAssigns sys).all (fun kv => sys.uniqueNames.contains kv.1) then none
                else some .outOfRange :=                                   -- `map::at` in SetAbsoluteTolerances
  rfl

variable [OfNat α 0] (dflt : α) (labelsOf : List (Process α) → List String)

/-- `build` raises exactly the error of the decision table, and succeeds exactly when the table
    says so (exhaustive: every input falls in exactly one row). -/
theorem C20_build_errors (b : BuildInput α) :
    (∀ e, build dflt labelsOf b = .error e ↔ buildOutcome b = some e) ∧
    ((∃ r, build dflt labelsOf b = .ok r) ↔ buildOutcome b = none) := by
  have h := build_outcome dflt labelsOf b
  cases ho : buildOutcome b with
  | some e0 =>
    rw [ho] at h
    simp only [] at h
    rw [h]
    refine ⟨fun e => ?_, ?_⟩
    · constructor
      · intro h'; cases h'; rfl
      · intro h'; cases h'; rfl
    · constructor
      · rintro ⟨r, hr⟩; cases hr
      · intro h'; cases h'
  | none =>
    rw [ho] at h
    obtain ⟨r, hr⟩ := h
    rw [hr]
    refine ⟨fun e => ?_, ?_⟩
    · constructor
      · intro h'; cases h'
      · intro h'; cases h'
    · exact ⟨fun _ => rfl, fun _ => ⟨r, rfl⟩⟩

theorem C20_processSet_codes (e : PSErr) :
    (∀ n, e = .reactantDoesNotExist n → e.toErr = .sys "MICM Process Set" 1) ∧
    (∀ n, e = .productDoesNotExist n → e.toErr = .sys "MICM Process Set" 2) :=
  ⟨fun _ h => h ▸ rfl, fun _ h => h ▸ rfl⟩

omit [OfNat α 0] in
theorem C20_unknownIn_nil_iff (names : List String) (procs : List (Process α)) :
    unknownIn names procs = [] ↔
      ∀ p ∈ procs, (∀ r ∈ p.reactants, r.param = false → r.name ∈ names) ∧
                   (∀ q ∈ p.products, q.1.param = false → q.1.name ∈ names) := by
  unfold unknownIn
  simp only [List.flatMap_eq_nil_iff, List.append_eq_nil_iff, List.filterMap_eq_nil_iff]
  constructor
  · intro h p hp
    refine ⟨fun r hr hpar => ?_, fun q hq hpar => ?_⟩
    · have := (h p hp).1 r hr
      simpa [hpar] using this
    · have := (h p hp).2 q hq
      simpa [hpar] using this
  · intro h p hp
    refine ⟨fun r hr => ?_, fun q hq => ?_⟩
    · cases hpar : r.param
      · simpa [hpar] using (h p hp).1 r hr hpar
      · simp
    · cases hpar : q.1.param
      · simpa [hpar] using (h p hp).2 q hq hpar
      · simp

theorem C20_build_missing_system (b : BuildInput α) (hs : b.system = none) :
    build dflt labelsOf b = .error (.sys "MICM Solver Builder" 2) := by
  apply ((C20_build_errors dflt labelsOf b).1 _).2
  unfold buildOutcome
  rw [hs]
  rfl

/-- `SetReactions` not called, or called with an empty list: ("MICM Solver Builder", 3) -/
theorem C20_build_missing_reactions (b : BuildInput α) (sys : SystemDecl α) (hs : b.system = some sys)
    (hr : b.reactions = none ∨ b.reactions = some []) :
    build dflt labelsOf b = .error (.sys "MICM Solver Builder" 3) := by
  apply ((C20_build_errors dflt labelsOf b).1 _).2
  unfold buildOutcome
  rw [hs]
  rcases hr with hr | hr <;> rw [hr] <;> rfl

/-- a system without (non-parameterized) species: ("MICM Solver Builder", 4); in particular
    `DiagonalMarkowitzReorder` is not reached with `order = 0` -/
theorem C20_build_no_species (b : BuildInput α) (sys : SystemDecl α) (hs : b.system = some sys)
    (hr : b.reactions.getD [] ≠ []) (h0 : sys.uniqueNames = []) :
    build dflt labelsOf b = .error (.sys "MICM Solver Builder" 4) := by
  apply ((C20_build_errors dflt labelsOf b).1 _).2
  unfold buildOutcome
  have h1 : (b.reactions.getD []).isEmpty = false := by simpa using hr
  have h2 : sys.stateSize = 0 := by rw [sys.stateSize_eq, h0]; rfl
  simp only [hs, h1, h2, Bool.false_eq_true, if_false, if_true]
  rfl

/-- with reordering on, an unknown non-parameterized species is reported from inside
    `GetSpeciesMap` (first in source order), before the unused-species check -/
theorem C20_build_unknown_species_reorder (b : BuildInput α) (sys : SystemDecl α) (hs : b.system = some sys)
    (hr : b.reactions.getD [] ≠ []) (h0 : sys.uniqueNames ≠ []) (hre : b.reorder = true) (e : PSErr)
    (hu : (unknownIn sys.uniqueNames (b.reactions.getD [])).head? = some e) :
    build dflt labelsOf b = .error e.toErr := by
  apply ((C20_build_errors dflt labelsOf b).1 _).2
  rw [buildOutcome_of_sys hs hr h0, hre, if_pos rfl, hu]

/-- unused species (some unique name is not named by any reaction) and `ignoreUnused` off:
    ("MICM Solver Builder", 1).  With reordering off this precedes the unknown-species error. -/
theorem C20_build_unused_species (b : BuildInput α) (sys : SystemDecl α) (hs : b.system = some sys)
    (hr : b.reactions.getD [] ≠ []) (h0 : sys.uniqueNames ≠ [])
    (hu : b.reorder = true → unknownIn sys.uniqueNames (b.reactions.getD []) = [])
    (hi : b.ignoreUnused = false) (hx : ∃ s ∈ sys.uniqueNames, s ∉ speciesUsed (b.reactions.getD [])) :
    build dflt labelsOf b = .error (.sys "MICM Solver Builder" 1) := by
  apply ((C20_build_errors dflt labelsOf b).1 _).2
  have h3 : (if b.reorder = true then (unknownIn sys.uniqueNames (b.reactions.getD [])).head? else none) = none := by
    cases hre : b.reorder with
    | false => rfl
    | true => rw [hu hre]; rfl
  have h4 : (!b.ignoreUnused && sys.uniqueNames.any fun s => !(speciesUsed (b.reactions.getD [])).contains s) = true := by
    obtain ⟨s, hs1, hs2⟩ := hx
    refine (Bool.not_eq_false _).mp fun hc => ?_
    rcases (unusedCheck_eq_false_iff _ _ _).mp hc with h | h
    · rw [hi] at h; cases h
    · exact hs2 (h s hs1)
  rw [buildOutcome_of_sys hs hr h0, h3, h4]
  rfl

/-- an unknown non-parameterized species once the unused-species check has passed (reordering on or
    off): the ProcessSet error of the first unknown name in source order -/
theorem C20_build_unknown_species (b : BuildInput α) (sys : SystemDecl α) (hs : b.system = some sys)
    (hr : b.reactions.getD [] ≠ []) (h0 : sys.uniqueNames ≠ [])
    (hi : b.ignoreUnused = true ∨ ∀ s ∈ sys.uniqueNames, s ∈ speciesUsed (b.reactions.getD [])) (e : PSErr)
    (hu : (unknownIn sys.uniqueNames (b.reactions.getD [])).head? = some e) :
    build dflt labelsOf b = .error e.toErr := by
  apply ((C20_build_errors dflt labelsOf b).1 _).2
  rw [buildOutcome_of_sys hs hr h0, (unusedCheck_eq_false_iff _ _ _).mpr hi, hu]
  cases b.reorder <;> rfl

/-- all previous checks pass but some species carrying a tolerance has a key that is not a unique
    name (a parameterized species with an "absolute tolerance"): `std::out_of_range` escapes, which
    is not a documented builder error -/
theorem C20_build_tolerance_outOfRange (b : BuildInput α) (sys : SystemDecl α) (hs : b.system = some sys)
    (hr : b.reactions.getD [] ≠ []) (h0 : sys.uniqueNames ≠ [])
    (hu : unknownIn sys.uniqueNames (b.reactions.getD []) = [])
    (hi : b.ignoreUnused = true ∨ ∀ s ∈ sys.uniqueNames, s ∈ speciesUsed (b.reactions.getD []))
    (ht : ∃ kv ∈ tolAssigns sys, kv.1 ∉ sys.uniqueNames) :
    build dflt labelsOf b = .error .outOfRange := by
  apply ((C20_build_errors dflt labelsOf b).1 _).2
  have h5 : ((tolAssigns sys).all fun kv => sys.uniqueNames.contains kv.1) = false := by
    obtain ⟨kv, hkv, hn⟩ := ht
    exact Bool.eq_false_iff.mpr fun hc => hn ((tolCheck_eq_true_iff _ _).mp hc kv hkv)
  rw [buildOutcome_of_sys hs hr h0, (unusedCheck_eq_false_iff _ _ _).mpr hi, hu, h5]
  cases b.reorder <;> rfl

/-- `build` succeeds exactly when the hypotheses of none of the error rows above hold -/
theorem C20_build_ok_iff (b : BuildInput α) :
    (∃ r, build dflt labelsOf b = .ok r) ↔
      ∃ sys, b.system = some sys ∧ b.reactions.getD [] ≠ [] ∧ sys.uniqueNames ≠ [] ∧
        unknownIn sys.uniqueNames (b.reactions.getD []) = [] ∧
        (b.ignoreUnused = true ∨ ∀ s ∈ sys.uniqueNames, s ∈ speciesUsed (b.reactions.getD [])) ∧
        (∀ kv ∈ tolAssigns sys, kv.1 ∈ sys.uniqueNames) := by
  constructor
  · -- a successful build meets the hypotheses of none of the error rows above
    rintro ⟨r, hok⟩
    have no : ∀ {e}, build dflt labelsOf b = .error e → False := fun he => by rw [hok] at he; cases he
    cases hs : b.system with
    | none => exact (no (C20_build_missing_system dflt labelsOf b hs)).elim
    | some sys =>
      have hr : b.reactions.getD [] ≠ [] := fun h =>
        no (C20_build_missing_reactions dflt labelsOf b sys hs (by
          cases hb : b.reactions with
          | none => exact .inl rfl
          | some l => rw [hb] at h; exact .inr (congrArg some h)))
      have h0 : sys.uniqueNames ≠ [] := fun h => no (C20_build_no_species dflt labelsOf b sys hs hr h)
      have hre : b.reorder = true → unknownIn sys.uniqueNames (b.reactions.getD []) = [] := fun hre => by
        cases hh : (unknownIn sys.uniqueNames (b.reactions.getD [])).head? with
        | none => exact List.head?_eq_none_iff.1 hh
        | some e => exact (no (C20_build_unknown_species_reorder dflt labelsOf b sys hs hr h0 hre e hh)).elim
      have hi : b.ignoreUnused = true ∨ ∀ s ∈ sys.uniqueNames, s ∈ speciesUsed (b.reactions.getD []) := by
        cases hig : b.ignoreUnused with
        | true => exact .inl rfl
        | false =>
          exact .inr fun s hs1 => Decidable.byContradiction fun hs2 =>
            no (C20_build_unused_species dflt labelsOf b sys hs hr h0 hre hig ⟨s, hs1, hs2⟩)
      have hu : unknownIn sys.uniqueNames (b.reactions.getD []) = [] := by
        cases hh : (unknownIn sys.uniqueNames (b.reactions.getD [])).head? with
        | none => exact List.head?_eq_none_iff.1 hh
        | some e => exact (no (C20_build_unknown_species dflt labelsOf b sys hs hr h0 hi e hh)).elim
      exact ⟨sys, rfl, hr, h0, hu, hi, fun kv hkv => Decidable.byContradiction fun hn =>
        no (C20_build_tolerance_outOfRange dflt labelsOf b sys hs hr h0 hu hi ⟨kv, hkv, hn⟩)⟩
  · rintro ⟨sys, hs, hr, h0, hu, hi, ht⟩
    rw [(C20_build_errors dflt labelsOf b).2, buildOutcome_of_sys hs hr h0,
      (unusedCheck_eq_false_iff _ _ _).mpr hi, hu, (tolCheck_eq_true_iff _ _).mpr ht]
    cases b.reorder <;> rfl

/-- the success row with the natural sufficient condition on tolerances (only on non-parameterized
    species) -/
theorem C20_build_ok (b : BuildInput α) (sys : SystemDecl α) (hs : b.system = some sys)
    (hr : b.reactions.getD [] ≠ []) (h0 : sys.uniqueNames ≠ [])
    (hu : unknownIn sys.uniqueNames (b.reactions.getD []) = [])
    (hi : b.ignoreUnused = true ∨ ∀ s ∈ sys.uniqueNames, s ∈ speciesUsed (b.reactions.getD []))
    (ht : TolOnNonParam sys) : ∃ r, build dflt labelsOf b = .ok r :=
  (C20_build_ok_iff dflt labelsOf b).2 ⟨sys, hs, hr, h0, hu, hi, fun _ hkv =>
    (tolAssigns_keys_sublist sys ht).subset (List.mem_map_of_mem hkv)⟩

/-- `build` always returns: `DiagonalMarkowitzReorder` is only reached with `order ≥ 1`.  The only
    possible errors are the six `std::system_error`s of the table (four of the builder, two of the process
    set) and `std::out_of_range`. -/
theorem C20_build_never_hangs (b : BuildInput α) :
    build dflt labelsOf b ≠ .error .hang ∧ build dflt labelsOf b ≠ .error .runtime ∧
    ∀ e, build dflt labelsOf b = .error e →
      (∃ c, c ∈ [1, 2, 3, 4] ∧ e = .sys "MICM Solver Builder" c) ∨
      (∃ c, c ∈ [1, 2] ∧ e = .sys "MICM Process Set" c) ∨ e = .outOfRange := by
  have key : ∀ e, build dflt labelsOf b = .error e →
      (∃ c, c ∈ [1, 2, 3, 4] ∧ e = .sys "MICM Solver Builder" c) ∨
      (∃ c, c ∈ [1, 2] ∧ e = .sys "MICM Process Set" c) ∨ e = .outOfRange := by
    intro e he
    have ho := ((C20_build_errors dflt labelsOf b).1 e).1 he
    rcases buildOutcome_leaf b with ⟨c, hc, h⟩ | ⟨e', h⟩ | h | h <;> rw [h] at ho <;> cases ho
    · exact .inl ⟨c, hc, rfl⟩
    · exact .inr (.inl ((PSErr.toErr_cases e').elim (fun h => ⟨1, by decide, h⟩) (fun h => ⟨2, by decide, h⟩)))
    · exact .inr (.inr rfl)
  refine ⟨fun h => ?_, fun h => ?_, key⟩
  · rcases key _ h with ⟨c, -, hc⟩ | ⟨c, -, hc⟩ | hc <;> cases hc
  · rcases key _ h with ⟨c, -, hc⟩ | ⟨c, -, hc⟩ | hc <;> cases hc

end Build

section Setters
variable {σ ρ : Type} (clone : Bool) (kind : TempKind) (fresh : σ) (solveF : σ → σ × ρ)

/-- a rejected setter call on an existing State reports its error code and leaves the whole store
    (this State and every other) unchanged -/
theorem C20_setter_atomic (st : HStore σ) (s code : Nat) (o : HObj σ) (h : st s = some o) :
    hStep clone kind fresh solveF st (.badSet s code) = (st, .err code) := by
  simp only [hStep, h]

/-- the store is unchanged also when the slot is empty -/
theorem C20_setter_atomic_store (st : HStore σ) (s code : Nat) :
    (hStep clone kind fresh solveF st (.badSet s code)).1 = st :=
  hStep_badSet_fst clone kind fresh solveF st s code

/-- For every history, deleting all rejected setter calls changes neither the final store nor the
    outputs of the remaining operations (the outputs of `ops` at the positions of the non-rejected
    operations; `hRun` returns one output per operation). -/
theorem C20_rejected_calls_invisible (st : HStore σ) (ops : List (HOp σ)) :
    (hRun clone kind fresh solveF st ops).2.length = ops.length ∧
    (hRun clone kind fresh solveF st (ops.filter fun op => !op.isBadSet)).1
      = (hRun clone kind fresh solveF st ops).1 ∧
    (hRun clone kind fresh solveF st (ops.filter fun op => !op.isBadSet)).2
      = ((ops.zip (hRun clone kind fresh solveF st ops).2).filter fun p => !p.1.isBadSet).map (·.2) := by
  rw [hRun_filter_badSet]
  exact ⟨hRun_length clone kind fresh solveF st ops, rfl, rfl⟩

end Setters

namespace C20Ex

def exSys : SystemDecl Nat :=
  { gas := [{ name := "B", atol := some 5 }, { name := "A" }, { name := "M", param := true }],
    phases := [("aq", [{ name := "C", atol := some 7 }, { name := "D" }])] }

def exProcs : List (Process Nat) :=
  [ { reactants := [⟨"B", false⟩, ⟨"A", false⟩, ⟨"M", true⟩], products := [(⟨"aq.C", false⟩, 1)] },
    { reactants := [⟨"aq.C", false⟩], products := [(⟨"aq.D", false⟩, 1)] },
    { reactants := [⟨"aq.D", false⟩], products := [(⟨"B", false⟩, 2)] } ]

example (reorder : Bool) :
    ∃ r, build 1000 (fun _ => []) { system := some exSys, reactions := some exProcs, reorder := reorder } = .ok r := by
  apply C20_build_ok 1000 (fun _ => []) _ exSys rfl
  · exact List.cons_ne_nil _ _
  · decide
  · show unknownIn exSys.uniqueNames exProcs = []
    decide +kernel
  · right
    show ∀ s ∈ exSys.uniqueNames, s ∈ speciesUsed exProcs
    decide +kernel
  · constructor <;> decide

/-- unknown product `aq.E` (and unknown reactant `Z` in a later reaction); `aq.D` unused -/
def badProcs : List (Process Nat) :=
  [ { reactants := [⟨"B", false⟩, ⟨"A", false⟩], products := [(⟨"aq.E", false⟩, 1)] },
    { reactants := [⟨"aq.C", false⟩, ⟨"Z", false⟩], products := [] } ]

def noSpecies : SystemDecl Nat := { gas := [{ name := "M", param := true }], phases := [] }

/-- a parameterized species carrying a tolerance -/
def badTolSys : SystemDecl Nat :=
  { gas := [{ name := "A" }, { name := "M", param := true, atol := some 3 }], phases := [] }

example : buildOutcome ({ system := none, reactions := some exProcs } : BuildInput Nat)
    = some (.sys "MICM Solver Builder" 2) := by decide +kernel
example : buildOutcome ({ system := some exSys, reactions := some [] } : BuildInput Nat)
    = some (.sys "MICM Solver Builder" 3) := by decide +kernel
example : buildOutcome ({ system := some exSys, reactions := none } : BuildInput Nat)
    = some (.sys "MICM Solver Builder" 3) := by decide +kernel
example : buildOutcome ({ system := some noSpecies, reactions := some exProcs } : BuildInput Nat)
    = some (.sys "MICM Solver Builder" 4) := by decide +kernel
/-- reordering on reports the unknown species (the first one in source order) … -/
example : buildOutcome ({ system := some exSys, reorder := true, reactions := some badProcs } : BuildInput Nat)
    = some (.sys "MICM Process Set" 2) := by decide +kernel
/-- … reordering off reports the unused species first -/
example : buildOutcome ({ system := some exSys, reorder := false, reactions := some badProcs } : BuildInput Nat)
    = some (.sys "MICM Solver Builder" 1) := by decide +kernel
example : buildOutcome ({ system := some exSys, reorder := false, ignoreUnused := true,
                          reactions := some badProcs } : BuildInput Nat)
    = some (.sys "MICM Process Set" 2) := by decide +kernel
def oneProc : List (Process Nat) := [ { reactants := [⟨"A", false⟩], products := [] } ]
example : buildOutcome ({ system := some badTolSys, reactions := some oneProc } : BuildInput Nat)
    = some .outOfRange := by decide +kernel
example : build 1000 (fun _ => []) ({ system := some exSys, reorder := true, reactions := some badProcs } : BuildInput Nat)
    = .error (.sys "MICM Process Set" 2) :=
  ((C20_build_errors 1000 (fun _ => []) _).1 _).2 (by decide +kernel)

example : (hRun true .rosenbrock (0 : Nat) (fun v => (v + 1, v))
      (fun _ => none) [.new 0, .badSet 0 3, .set 0 (· + 10), .badSet 1 5, .solve 0]).2.length = 5 := by
  rw [(C20_rejected_calls_invisible true .rosenbrock 0 _ _ _).1]
  rfl

end C20Ex

end Micm

#print axioms Micm.C20_build_table
#print axioms Micm.C20_build_errors
#print axioms Micm.C20_processSet_codes
#print axioms Micm.C20_unknownIn_nil_iff
#print axioms Micm.C20_build_missing_system
#print axioms Micm.C20_build_missing_reactions
#print axioms Micm.C20_build_no_species
#print axioms Micm.C20_build_unknown_species_reorder
#print axioms Micm.C20_build_unused_species
#print axioms Micm.C20_build_unknown_species
#print axioms Micm.C20_build_tolerance_outOfRange
#print axioms Micm.C20_build_ok_iff
#print axioms Micm.C20_build_ok
#print axioms Micm.C20_build_never_hangs
#print axioms Micm.C20_setter_atomic
#print axioms Micm.C20_setter_atomic_store
#print axioms Micm.C20_rejected_calls_invisible
