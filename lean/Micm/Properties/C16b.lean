/-
C16 (the three-argument `Solve` overload) — why the premise of `C16_schedule_independence` matters, and what the
documented overload `Solver::Solve(time_step, state, parameters)` does to it.

`C16_schedule_independence` is about steps that only READ the shared solver value.  The three-argument overload also
WRITES it (`solver_parameters_ = parameters`, solver.hpp).  In the model below a step may replace the shared value;
then the outcome of a thread does depend on the schedule, already for two threads and two operations.  This is the
model-level counterpart of known finding KF-C16-1 (ThreadSanitizer: data race between that overload and `GetState` /
another `Solve` on the shared solver).  The two-argument `Solve`, `GetState` and `CalculateRateConstants` are steps
of the read-only kind, for which the theorem of `Properties/C16.lean` holds.
-/
import Micm.Properties.C16

namespace Micm

/-- a schedule run in which a step may also replace the shared value (what the three-argument `Solve` does with the
    stored solver parameters) -/
def runSchedW {S σ ρ ω : Type} (step : S → σ → ω → (σ × ρ) × S) :
    S → List Nat → (Nat → TState σ ρ ω) → S × (Nat → TState σ ρ ω)
  | s, [], ts => (s, ts)
  | s, i :: is, ts =>
    match (ts i).pending with
    | [] => runSchedW step s is ts
    | op :: ops =>
      let r := step s (ts i).loc op
      runSchedW step r.2 is (fun j => if j = i then ⟨r.1.1, ops, r.1.2 :: (ts i).outs⟩ else ts j)

/-- a miniature of the situation: the shared value is "the stored parameters" (a number of stages); operation `some k`
    is `Solve(dt, state, parameters_with_k_stages)` (stores `k`, reports `k`), operation `none` is the two-argument
    `Solve` / `GetState` (reads the stored value and reports it) -/
def miniStep (stored : Nat) (loc : Nat) : Option Nat → (Nat × Nat) × Nat
  | some k => ((loc, k), k)
  | none => ((loc, stored), stored)

/-- **schedule dependence**: thread 0 calls the two-argument `Solve` once, thread 1 calls the three-argument overload
    with other parameters once.  What thread 0 observes depends on who runs first — so no theorem of the form
    "every thread obtains the result of the same calls executed serially" can hold for this overload. -/
theorem C16_three_arg_solve_schedule_dependent :
    ((runSchedW miniStep 3 [0, 1] (fun i => if i = 0 then ⟨0, [none], []⟩ else ⟨0, [some 6], []⟩)).2 0).outs = [3] ∧
    ((runSchedW miniStep 3 [1, 0] (fun i => if i = 0 then ⟨0, [none], []⟩ else ⟨0, [some 6], []⟩)).2 0).outs = [6] := by
  decide

/-- whereas steps that leave the shared value alone are schedule independent in this richer model too: if no step
    changes the shared value, `runSchedW` is `runSched` -/
theorem C16_readonly_steps_embed {S σ ρ ω : Type} (step : S → σ → ω → σ × ρ) (s : S) (sched : List Nat)
    (ts : Nat → TState σ ρ ω) :
    runSchedW (fun s l op => (step s l op, s)) s sched ts = (s, runSched step s sched ts) := by
  induction sched generalizing ts with
  | nil => rfl
  | cons i is ih =>
    rw [runSched, ← ih, runSchedW]
    -- either branch of `runSchedW` hands on `ts` with thread `i` one `tstep` further
    cases hp : (ts i).pending with
    | nil =>
      refine congrArg (runSchedW _ s is) (funext fun j => ?_)
      split
      · subst_vars; exact (tstep_finished step s _ hp).symm
      · rfl
    | cons op ops =>
      refine congrArg (runSchedW _ s is) (funext fun j => ?_)
      split
      · subst_vars; simp only [tstep, hp]
      · rfl

end Micm
