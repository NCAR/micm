/-
C05 — every attempted step factors the genuine matrix `(1/(γ·H))·I − J(Y)` (Rosenbrock part).

`s.jacobian kc Y Z` is the model of `SubtractJacobianTerms` (it yields `−J(Y)` when started from a
zeroed buffer `Z = fillM B 0`); `s.alphaMinusJacobian M a` adds `a` to every diagonal element.
So `s.alphaMinusJacobian (s.jacobian kc Y (fillM B 0)) (1/(H·γ))` *is* `(1/(γH))·I − J(Y)`.
-/
import Micm.Lemmas.RosLoop

namespace Micm
set_option linter.unusedSectionVars false

section
variable {K : Type} [Field K]
variable (o : Ops K) (cs : Consts K) (s : SolverCfg K) (p : RosParams K) (kc : Mat K)
    (atol : Array K) (rtol : K) (T hm : K)

/-- exact shift semantics: two successive diagonal shifts add up.  Holds for *every* diagonal list
    (no `Nodup`/range assumption needed: out-of-range writes are dropped both times and a duplicated
    rank is shifted twice both times). -/
theorem C05_shift_add (J : Mat K) (a b : K) :
    s.alphaMinusJacobian (s.alphaMinusJacobian J a) b = s.alphaMinusJacobian J (a + b) :=
  alphaMinusJacobian_add s J a b

theorem C05_shift_zero (J : Mat K) : s.alphaMinusJacobian J 0 = J :=
  alphaMinusJacobian_zero s J

/-- entry-wise meaning for a duplicate-free diagonal list: in every cell the diagonal ranks (in
    range) get `+ a`, all other elements are unchanged, sizes are unchanged -/
theorem C05_shift_entry (hd : s.diag.Nodup) (J : Mat K) (a : K) (c : Nat) (hc : c < J.size) (j : Nat) :
    ((s.alphaMinusJacobian J a).getD c #[]).size = (J.getD c #[]).size ∧
    rd ((s.alphaMinusJacobian J a).getD c #[]) j =
      if j ∈ s.diag ∧ j < (J.getD c #[]).size then rd (J.getD c #[]) j + a else rd (J.getD c #[]) j := by
  have h1 : (s.alphaMinusJacobian J a).getD c #[] = shiftRow s.diag (J.getD c #[]) a := by
    simp [alphaMinusJacobian_eq, Array.getD, hc]
  rw [h1]
  exact ⟨shiftRow_size _ _ _, rd_shiftRow _ hd _ _ _⟩

/-- the non-in-place factorisations return the Jacobian buffer unchanged (so the shift accumulates) -/
theorem C05_factor_keeps_jacobian (h : s.la.kind.inPlace = false) (J Lo Up : Mat K) :
    (s.factor J Lo Up).1 = J :=
  factor_fst_of_not_inPlace s h J Lo Up

/-- the loop invariant of the retry loop is preserved by one iteration:
    while inside a step, `state.jacobian_` holds `−J(Y)` shifted by the total `last_alpha`
    (separate L/U variants), resp. the freshly regenerated `−J(Y)` (in-place variants) -/
theorem C05_invariant_step (r : RState K) (h : ShiftInv s kc r) :
    ShiftInv s kc (rosStep o cs s p kc atol rtol T hm r) :=
  rosStep_inv o cs s p kc atol rtol T hm (ShiftInv s kc) r (ShiftInv_prologue o cs s p kc T r)
    (fun r' h1 _ => ShiftInv_attempt o cs s p kc atol rtol hm r' h1) h

/-- **one iteration, precise form** (all four LU variants, any retry history encoded in `ShiftInv`):
    the matrix handed to `Factor` by the attempt of this iteration is `−J(r.Y)` — the Jacobian at the
    *current* solution — shifted by exactly `1/(H·γ)` for the `H` recorded with the attempt.
    When the iteration starts a new step the zeroed buffer is the current `r.sc.jac`. -/
theorem C05_matrix_step (r : RState K) (hr : r.status = .running) (hinv : ShiftInv s kc r)
    (att : Attempt K) (h : (rosStep o cs s p kc atol rtol T hm r).trace = att :: r.trace) :
    ∃ B, att.matrix = s.alphaMinusJacobian (s.jacobian kc r.Y (fillM B 0)) (1 / (att.h * p.gamma0)) ∧
         (r.inStep = false → B = r.sc.jac) :=
  C05_step o cs s p kc atol rtol T hm r hr hinv att h

/-- along `rosLoop` from any state satisfying the invariant, every recorded attempt (old and new)
    has a genuine matrix -/
theorem C05_matrix_loop (fuel : Nat) (r : RState K) (h : C05Inv s p kc r) :
    ∀ att ∈ (rosLoop o cs s p kc atol rtol T hm fuel r).trace,
      ∃ Y B, att.matrix = s.alphaMinusJacobian (s.jacobian kc Y (fillM B 0)) (1 / (att.h * p.gamma0)) :=
  (C05Inv_loop o cs s p kc atol rtol T hm fuel r h).2

/-- **C05_matrix**: in every result of `rosSolve`, for every LU variant and any number of preceding
    rejected attempts in the step, every attempt's matrix is `−J(Y)` shifted by `1/(H·γ)` for its own `H`
    (`Y` is the solution at the start of the attempt's step — see `C05_matrix_step` for the precise `Y`) -/
theorem C05_matrix (Y : Mat K) (sc : Scratch K) (fuel : Nat) :
    ∀ att ∈ (rosSolve o cs s p kc atol rtol T Y sc fuel).trace,
      ∃ Y' B, att.matrix = s.alphaMinusJacobian (s.jacobian kc Y' (fillM B 0)) (1 / (att.h * p.gamma0)) := by
  intro att hatt
  rw [rosSolve_eq] at hatt
  exact C05_matrix_loop o cs s p kc atol rtol T _ fuel _ (C05Inv_init s p kc _ Y sc) att (by simpa using hatt)

/-- the invariant holds at every iterate of `rosStep` from the initial state of `rosSolve`
    (so `C05_matrix_step` applies at each iteration of the loop, with the precise current `Y`) -/
theorem C05_invariant_iter (h0 : K) (Y : Mat K) (sc : Scratch K) (n : Nat) :
    ShiftInv s kc ((rosStep o cs s p kc atol rtol T hm)^[n] (rosInit h0 Y sc)) := by
  induction n with
  | zero => exact (C05Inv_init s p kc h0 Y sc).1
  | succ n ih => rw [Function.iterate_succ_apply']; exact C05_invariant_step o cs s p kc atol rtol T hm _ ih

end

section Stages
variable {α : Type} [OfNat α 0] [OfNat α 1] [Add α] [Sub α] [Mul α] [Div α]
variable (o : Ops α) (cs : Consts α) (s : SolverCfg α) (p : RosParams α) (kc : Mat α)
    (atol : Array α) (rtol : α) (T hm : α)

/-- **C05_stage_rhs**: let an iteration record the attempt `att`; let `r'` be the state after the
    step prologue (same `Y`, `k`, `lower`, `upper` as `r`; `f0` is the initial forcing), `K` the stage
    vectors left in the scratch and `(jac, lo, up)` the factorisation of `att.matrix`.  Then for every
    stage `i < stages`
      `K[i] = linSolve jac lo up (F_i + Σ_{j<i} (c[i(i−1)/2 + j] / H) · K[j])`
    where `F_i = stageForcing … i`: the initial forcing for `i = 0`; for `i > 0` the forcing at
    `Y + Σ_{j<i} a[i(i−1)/2 + j] · K[j]` if `new_function_evaluation[i]`, else `F_{i−1}`.
    (Needs the scratch to have room for all stage vectors: `stages ≤ k.size`.) -/
theorem C05_stage_rhs (r : RState α) (att : Attempt α)
    (h : (rosStep o cs s p kc atol rtol T hm r).trace = att :: r.trace)
    (hk : p.stages ≤ r.sc.k.size) (i : Nat) (hi : i < p.stages) :
    (rosStep o cs s p kc atol rtol T hm r).sc.k.getD i #[] =
      s.linSolve (s.factor att.matrix r.sc.lower r.sc.upper).1
        (s.factor att.matrix r.sc.lower r.sc.upper).2.1 (s.factor att.matrix r.sc.lower r.sc.upper).2.2
        (stageRhsOf p att.h (rosStep o cs s p kc atol rtol T hm r).sc.k
          (stageForcing s p kc r.Y (r.sc.k.setIfInBounds 0 (rosPrologue o cs s p kc T r).sc.f0)
            (rosStep o cs s p kc atol rtol T hm r).sc.k i) i) := by
  obtain ⟨hs, rfl⟩ := rosStep_trace_cons o cs s p kc atol rtol T hm r att h
  obtain ⟨f1, f2, f3, _⟩ := rosPrologue_frame_sc o cs s p kc T r
  have fY := (rosPrologue_frame o cs s p kc T r).2.1
  rw [rosStep_attempt o cs s p kc atol rtol T hm r hs]
  have := rosAttempt_stage_equations o cs s p kc atol rtol hm (rosPrologue o cs s p kc T r)
    (by rw [f1]; exact hk) i hi
  simpa only [attFactor, attRecord, f1, f2, f3, fY] using this

theorem C05_stageForcing_zero (Y : Mat α) (K0 K : Array (Mat α)) :
    stageForcing s p kc Y K0 K 0 = K0.getD 0 #[] := rfl

theorem C05_stageForcing_succ (Y : Mat α) (K0 K : Array (Mat α)) (i : Nat) :
    stageForcing s p kc Y K0 K (i + 1) =
      if p.newF.getD (i + 1) false
      then s.forcing kc
        ((List.range (i + 1)).foldl
          (fun yn j => axpyM (rd p.a ((i + 1) * (i + 1 - 1) / 2 + j)) (K.getD j #[]) yn) Y)
        (fillM (K0.getD (i + 1) #[]) 0)
      else stageForcing s p kc Y K0 K i := rfl

/-- entry `(c, v)` of the right-hand side: `F[c][v] + Σ_{j<i} (c[i(i−1)/2+j]/H) · K[j][c][v]`, added
    left to right as in the source -/
theorem C05_stage_rhs_entry (h : α) (K : Array (Mat α)) (F : Mat α) (i c v : Nat)
    (hc : c < F.size) (hv : v < (F.getD c #[]).size) :
    rd ((stageRhsOf p h K F i).getD c #[]) v =
      (List.range i).foldl
        (fun acc j => acc + rd p.c (i * (i - 1) / 2 + j) / h * rd ((K.getD j #[]).getD c #[]) v)
        (rd (F.getD c #[]) v) :=
  rd_axpy_fold (fun j => rd p.c (i * (i - 1) / 2 + j) / h) (fun j => K.getD j #[]) _ F c v hc hv

/-- `Ynew = Y + Σ m_i K_i`, `Yerr = Σ e_i K_i`: what an iteration that records an attempt leaves.
    On anything but a rejection `Y` becomes `Ynew`. -/
theorem C05_new_solution (r : RState α) (att : Attempt α)
    (h : (rosStep o cs s p kc atol rtol T hm r).trace = att :: r.trace) :
    (rosStep o cs s p kc atol rtol T hm r).sc.yerr =
      (List.range p.stages).foldl
        (fun ye i => axpyM (rd p.e i) ((rosStep o cs s p kc atol rtol T hm r).sc.k.getD i #[]) ye)
        (fillM r.sc.yerr 0) ∧
    (att.accepted = true → (rosStep o cs s p kc atol rtol T hm r).Y =
      (List.range p.stages).foldl
        (fun yn i => axpyM (rd p.m i) ((rosStep o cs s p kc atol rtol T hm r).sc.k.getD i #[]) yn) r.Y) := by
  obtain ⟨hs, rfl⟩ := rosStep_trace_cons o cs s p kc atol rtol T hm r att h
  obtain ⟨_, _, _, _, f5⟩ := rosPrologue_frame_sc o cs s p kc T r
  have fY := (rosPrologue_frame o cs s p kc T r).2.1
  rw [rosStep_attempt o cs s p kc atol rtol T hm r hs, rosAttempt_yerr, rosAttempt_k, rosAttempt_Y]
  refine ⟨by rw [attYerr, f5], ?_⟩
  intro ha
  have hd : (attDecide o cs s p kc atol rtol hm (rosPrologue o cs s p kc T r)).1 = .accept := by
    simpa [attRecord, decision_beq_accept] using ha
  rw [hd]; simp only [reduceCtorEq, if_false]
  rw [attYnew, fY]

/-- while inside a step, `initial_forcing` (stage 0's `F_0`) is the forcing at the current `Y` -/
theorem C05_initial_forcing_step (r : RState α) (h : F0Inv s kc r) :
    F0Inv s kc (rosStep o cs s p kc atol rtol T hm r) :=
  rosStep_inv o cs s p kc atol rtol T hm (F0Inv s kc) r (F0Inv_prologue o cs s p kc T r)
    (fun r' h1 _ => F0Inv_attempt o cs s p kc atol rtol hm r' h1) h

end Stages

/-! ### concrete instance: a four-rejection history (`H = 1000, 200, 40, 4, 2/5`, `γ = 1/2`, `−J = (1)`) -/

/-- separate-L/U variant: the matrices are `1 + 1/(H γ)` although the shifts passed to
    `AlphaMinusJacobian` are the re-based differences -/
example : (Ex.run .doolittle 1000 5).trace.map (fun a => (a.h, a.accepted, a.alpha, a.matrix)) =
    [(1000, false, 1/500, #[#[501/500]]), (200, false, 1/125, #[#[101/100]]),
     (40, false, 1/25, #[#[21/20]]), (4, false, 9/20, #[#[3/2]]), (2/5, true, 9/2, #[#[6]])] := by
  decide +kernel

/-- in-place variant: same matrices, the full `1/(H γ)` is applied to a regenerated Jacobian -/
example : (Ex.run .mozartInPlace 1000 5).trace.map (fun a => (a.h, a.accepted, a.alpha, a.matrix)) =
    [(1000, false, 1/500, #[#[501/500]]), (200, false, 1/100, #[#[101/100]]),
     (40, false, 1/20, #[#[21/20]]), (4, false, 1/2, #[#[3/2]]), (2/5, true, 5, #[#[6]])] := by
  decide +kernel

example : (Ex.cfg .doolittle).alphaMinusJacobian
    ((Ex.cfg .doolittle).jacobian #[#[1]] #[#[1]] (fillM #[#[7]] 0)) (1 / (40 * Ex.params.gamma0)) = #[#[21/20]] := by
  decide +kernel

#print axioms C05_shift_add
#print axioms C05_shift_zero
#print axioms C05_shift_entry
#print axioms C05_factor_keeps_jacobian
#print axioms C05_invariant_step
#print axioms C05_matrix_step
#print axioms C05_matrix_loop
#print axioms C05_matrix
#print axioms C05_invariant_iter
#print axioms C05_stage_rhs
#print axioms C05_stage_rhs_entry
#print axioms C05_new_solution
#print axioms C05_initial_forcing_step

end Micm
