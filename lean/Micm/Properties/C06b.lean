/-
C06 (time bounds) — `final_time` stays in `[0, time_step]`; `Converged` means `final_time` is within
`round_off` of `time_step`; bookkeeping of the documented continuation loop.

Ordered field, `OrderedOps o` (the model's comparisons are the field's, no NaN/Inf), legal controller
parameters, `safety < 1`, `0 ≤ round_off`, and the explicit hypothesis on the uninterpreted `pow`
(`1 ≤ x → 1 ≤ pow x (1/order)`, as in `C07_reject_shrinks`): it makes every rejection shrink `H`,
which is what keeps `t + H ≤ T` inside a step.  `hm` (the effective `h_max`) is arbitrary.
-/
import Micm.Lemmas.TimeBounds
import Micm.Properties.C06

namespace Micm
set_option linter.unusedSectionVars false

section TimeBounds
variable {K : Type} [Field K] [LinearOrder K] [IsStrictOrderedRing K]
variable {o : Ops K} (cs : Consts K) (s : SolverCfg K) (p : RosParams K) (kc : Mat K)
    (atol : Array K) (rtol : K) (T hm : K)

/-- one iteration of the loop preserves: `0 ≤ t ≤ T`; inside a step `0 ≤ H`, `t + H ≤ T` and
    (`round_off > 0`) `0 < H`; every accepted attempt recorded so far has `0 ≤ h ≤ t`.
    (Step start clips `H ≤ T − t`; a rejection only shrinks `H`; an acceptance adds `H` to `t`.) -/
theorem C06_time_bounds_step (ho : OrderedOps o) (lp : LegalParams p) (hs1 : p.safety < 1)
    (hpow : ∀ x, 1 ≤ x → 1 ≤ o.pow x (1 / p.order)) (hro : 0 ≤ p.roundOff) (r : RState K)
    (h : TimeInv p T r) : TimeInv p T (rosStep o cs s p kc atol rtol T hm r) :=
  TimeInv_step cs s p kc atol rtol T hm ho lp hs1 hpow hro r h

/-- **C06_time_bounds**: for `0 ≤ T`, every state reachable from the initial state of `rosSolve`
    (any first `H = h0`, any number `n` of loop iterations) satisfies `0 ≤ t ≤ T` and, while inside a
    step, `0 ≤ H`, `t + H ≤ T`, and `0 < H` provided `round_off > 0`. -/
theorem C06_time_bounds (ho : OrderedOps o) (lp : LegalParams p) (hs1 : p.safety < 1)
    (hpow : ∀ x, 1 ≤ x → 1 ≤ o.pow x (1 / p.order)) (hro : 0 ≤ p.roundOff) (hT : 0 ≤ T)
    (h0 : K) (Y : Mat K) (sc : Scratch K) (n : Nat) :
    0 ≤ ((rosStep o cs s p kc atol rtol T hm)^[n] (rosInit h0 Y sc)).ctl.t ∧
    ((rosStep o cs s p kc atol rtol T hm)^[n] (rosInit h0 Y sc)).ctl.t ≤ T ∧
    (((rosStep o cs s p kc atol rtol T hm)^[n] (rosInit h0 Y sc)).inStep = true →
      0 ≤ ((rosStep o cs s p kc atol rtol T hm)^[n] (rosInit h0 Y sc)).ctl.h ∧
      ((rosStep o cs s p kc atol rtol T hm)^[n] (rosInit h0 Y sc)).ctl.t +
        ((rosStep o cs s p kc atol rtol T hm)^[n] (rosInit h0 Y sc)).ctl.h ≤ T ∧
      (0 < p.roundOff → 0 < ((rosStep o cs s p kc atol rtol T hm)^[n] (rosInit h0 Y sc)).ctl.h)) := by
  have h : TimeInv p T ((rosStep o cs s p kc atol rtol T hm)^[n] (rosInit h0 Y sc)) := by
    induction n with
    | zero => exact TimeInv_init p T h0 Y sc hT
    | succ n ih =>
      rw [Function.iterate_succ_apply']
      exact TimeInv_step cs s p kc atol rtol T hm ho lp hs1 hpow hro _ ih
  exact ⟨h.1, h.2, fun hi => ⟨h.3 hi, h.4 hi, h.5 hi⟩⟩

/-- the same for the state in which `rosLoop` stops (any fuel, any status, including `outOfFuel`) -/
theorem C06_time_bounds_loop (ho : OrderedOps o) (lp : LegalParams p) (hs1 : p.safety < 1)
    (hpow : ∀ x, 1 ≤ x → 1 ≤ o.pow x (1 / p.order)) (hro : 0 ≤ p.roundOff) (hT : 0 ≤ T)
    (h0 : K) (Y : Mat K) (sc : Scratch K) (fuel : Nat) :
    0 ≤ (rosLoop o cs s p kc atol rtol T hm fuel (rosInit h0 Y sc)).ctl.t ∧
    (rosLoop o cs s p kc atol rtol T hm fuel (rosInit h0 Y sc)).ctl.t ≤ T ∧
    ((rosLoop o cs s p kc atol rtol T hm fuel (rosInit h0 Y sc)).inStep = true →
      0 ≤ (rosLoop o cs s p kc atol rtol T hm fuel (rosInit h0 Y sc)).ctl.h ∧
      (rosLoop o cs s p kc atol rtol T hm fuel (rosInit h0 Y sc)).ctl.t +
        (rosLoop o cs s p kc atol rtol T hm fuel (rosInit h0 Y sc)).ctl.h ≤ T ∧
      (0 < p.roundOff → 0 < (rosLoop o cs s p kc atol rtol T hm fuel (rosInit h0 Y sc)).ctl.h)) := by
  have h := TimeInv_loop cs s p kc atol rtol T hm ho lp hs1 hpow hro fuel _ (TimeInv_init p T h0 Y sc hT)
  exact ⟨h.1, h.2, fun hi => ⟨h.3 hi, h.4 hi, h.5 hi⟩⟩

variable (Y : Mat K) (sc : Scratch K) (fuel : Nat)

/-- **`0 ≤ final_time ≤ time_step`** for every result of `rosSolve` (any status), and every accepted
    attempt has `0 ≤ h ≤ final_time` -/
theorem C06_final_time_bounds (ho : OrderedOps o) (lp : LegalParams p) (hs1 : p.safety < 1)
    (hpow : ∀ x, 1 ≤ x → 1 ≤ o.pow x (1 / p.order)) (hro : 0 ≤ p.roundOff) (hT : 0 ≤ T) :
    0 ≤ (rosSolve o cs s p kc atol rtol T Y sc fuel).finalTime ∧
    (rosSolve o cs s p kc atol rtol T Y sc fuel).finalTime ≤ T ∧
    ∀ a ∈ (rosSolve o cs s p kc atol rtol T Y sc fuel).trace, a.accepted = true →
      0 ≤ a.h ∧ a.h ≤ (rosSolve o cs s p kc atol rtol T Y sc fuel).finalTime := by
  have h := TimeInv_loop cs s p kc atol rtol T (hmaxEff o p T) ho lp hs1 hpow hro fuel _
    (TimeInv_init p T (initialH o cs p T) Y sc hT)
  rw [rosSolve_eq]
  exact ⟨h.1, h.2, fun a ha => h.acc_le a (List.mem_reverse.mp ha)⟩

/-- **C06_converged_close**: `Converged ⇒ T − round_off < final_time ≤ T` -/
theorem C06_converged_close (ho : OrderedOps o) (lp : LegalParams p) (hs1 : p.safety < 1)
    (hpow : ∀ x, 1 ≤ x → 1 ≤ o.pow x (1 / p.order)) (hro : 0 ≤ p.roundOff) (hT : 0 ≤ T)
    (h : (rosSolve o cs s p kc atol rtol T Y sc fuel).status = .converged) :
    T - p.roundOff < (rosSolve o cs s p kc atol rtol T Y sc fuel).finalTime ∧
    (rosSolve o cs s p kc atol rtol T Y sc fuel).finalTime ≤ T :=
  ⟨(C06_converged_means_done cs s p kc atol rtol T Y sc fuel ho h).2,
   (C06_final_time_bounds cs s p kc atol rtol T Y sc fuel ho lp hs1 hpow hro hT).2.1⟩

/-- remainder bookkeeping of the documented continuation loop
    (`contLoop … k` = (remaining time, solution, scratch) after `k` calls, call `k+1` being
    `Solve(remaining, …)` and the new remainder `remaining − final_time`):
    if before each of the first `k` calls the remainder was still `≥ round_off` and each of these
    calls accepted at least one step of size `≥ δ`, the remainder after `k` calls lies in `[0, T − k·δ]`. -/
theorem C06_continuation_remainder (ho : OrderedOps o) (lp : LegalParams p) (hs1 : p.safety < 1)
    (hpow : ∀ x, 1 ≤ x → 1 ≤ o.pow x (1 / p.order)) (hro : 0 ≤ p.roundOff) (hT : 0 ≤ T)
    (δ : K) (k : Nat)
    (hprog : ∀ j, j < k →
      p.roundOff ≤ (contLoop o cs s p kc atol rtol fuel T Y sc j).1 →
      ∃ a ∈ (rosSolve o cs s p kc atol rtol (contLoop o cs s p kc atol rtol fuel T Y sc j).1
              (contLoop o cs s p kc atol rtol fuel T Y sc j).2.1
              (contLoop o cs s p kc atol rtol fuel T Y sc j).2.2 fuel).trace,
        a.accepted = true ∧ δ ≤ a.h)
    (hall : ∀ j, j < k → p.roundOff ≤ (contLoop o cs s p kc atol rtol fuel T Y sc j).1) :
    0 ≤ (contLoop o cs s p kc atol rtol fuel T Y sc k).1 ∧
    (contLoop o cs s p kc atol rtol fuel T Y sc k).1 ≤ T - (k : K) * δ := by
  induction k with
  | zero => exact ⟨hT, by rw [Nat.cast_zero, zero_mul, sub_zero]; exact le_refl T⟩
  | succ k ih =>
    obtain ⟨i1, i2⟩ := ih (fun j hj => hprog j (by omega)) (fun j hj => hall j (by omega))
    -- call `k + 1` ends at some `final_time ∈ [δ, remainder]`
    obtain ⟨_, b2, b3⟩ := C06_final_time_bounds cs s p kc atol rtol
      (contLoop o cs s p kc atol rtol fuel T Y sc k).1
      (contLoop o cs s p kc atol rtol fuel T Y sc k).2.1 (contLoop o cs s p kc atol rtol fuel T Y sc k).2.2
      fuel ho lp hs1 hpow hro i1
    obtain ⟨a, ha, hacc, hδ⟩ := hprog k (by omega) (hall k (by omega))
    refine ⟨sub_nonneg.mpr b2, ?_⟩
    rw [Nat.cast_succ, add_one_mul, sub_add_eq_sub_sub]
    exact sub_le_sub i2 (le_trans hδ (b3 a ha hacc).2)

/- Full claim (not provable without an assumption about the problem): "the continuation loop
   terminates".  What is missing is a guarantee of progress: a call may return without an accepted
   step (`StepSizeTooSmall`, `ConvergenceExceededMaxSteps`, fuel), so progress is a hypothesis. -/
/-- **C06_continuation_terminates_partial**: if every call made while the remainder is still
    `≥ round_off` accepts at least one step of size `≥ δ` (hypothesis `hprog`), then the remainder
    drops below `round_off` after finitely many calls — at the latest after the first `k` calls with
    `k·δ > T − round_off`. -/
theorem C06_continuation_terminates_partial (ho : OrderedOps o) (lp : LegalParams p)
    (hs1 : p.safety < 1) (hpow : ∀ x, 1 ≤ x → 1 ≤ o.pow x (1 / p.order)) (hro : 0 ≤ p.roundOff)
    (hT : 0 ≤ T) (δ : K) (k : Nat)
    (hprog : ∀ j, j < k →
      p.roundOff ≤ (contLoop o cs s p kc atol rtol fuel T Y sc j).1 →
      ∃ a ∈ (rosSolve o cs s p kc atol rtol (contLoop o cs s p kc atol rtol fuel T Y sc j).1
              (contLoop o cs s p kc atol rtol fuel T Y sc j).2.1
              (contLoop o cs s p kc atol rtol fuel T Y sc j).2.2 fuel).trace,
        a.accepted = true ∧ δ ≤ a.h)
    (hk : T - p.roundOff < (k : K) * δ) :
    ∃ j, j ≤ k ∧ (contLoop o cs s p kc atol rtol fuel T Y sc j).1 < p.roundOff := by
  by_contra hc
  have hall : ∀ j, j ≤ k → p.roundOff ≤ (contLoop o cs s p kc atol rtol fuel T Y sc j).1 :=
    fun j hj => not_lt.mp fun h => hc ⟨j, hj, h⟩
  have h1 := (C06_continuation_remainder cs s p kc atol rtol T Y sc fuel ho lp hs1 hpow hro hT δ k hprog
    (fun j hj => hall j (by omega))).2
  exact absurd hk (not_lt.mpr (le_sub_comm.mp (le_trans (hall k (le_refl _)) h1)))

end TimeBounds

/-! ### the hypotheses are satisfiable (`y' = −y` over `ℚ`, `Micm.Ex` of `Lemmas/RosLoop.lean`) -/

example : OrderedOps ratOps := ratOps_ordered

theorem C06_exParams_legal : LegalParams Ex.params := by
  constructor <;> simp only [Ex.params] <;> norm_num

example : Ex.params.safety < 1 := by simp only [Ex.params]; norm_num
example : (0 : ℚ) ≤ Ex.params.roundOff := by simp only [Ex.params]; norm_num
example : ∀ x : ℚ, 1 ≤ x → 1 ≤ ratOps.pow x (1 / Ex.params.order) := fun _ h => h

example (kind : LUKind) (T : ℚ) (hT : 0 ≤ T) (fuel : Nat) :
    0 ≤ (Ex.run kind T fuel).finalTime ∧ (Ex.run kind T fuel).finalTime ≤ T :=
  let h := C06_final_time_bounds Ex.consts (Ex.cfg kind) Ex.params #[#[1]] #[1/10] (1/10) T #[#[1]]
    Ex.scratch fuel ratOps_ordered C06_exParams_legal (by simp only [Ex.params]; norm_num) (fun _ h => h)
    (by simp only [Ex.params]; norm_num) hT
  ⟨h.1, h.2.1⟩

example : (Ex.run .mozart 1000 5).finalTime = 2/5 := by decide +kernel

/-- With enough fuel one call reaches `T = 1` (remainder `0`); with 5 iterations of fuel the first
    call on `T = 1000` only gets to `t = 2/5` and the second call is made on the remainder. -/
example :
    (contLoop ratOps Ex.consts (Ex.cfg .doolittle) Ex.params #[#[1]] #[1/10] (1/10) 40 1 #[#[1]] Ex.scratch 1).1 = 0 ∧
    (contLoop ratOps Ex.consts (Ex.cfg .doolittle) Ex.params #[#[1]] #[1/10] (1/10) 5 1000 #[#[1]] Ex.scratch 1).1
      = 1000 - 2/5 ∧
    (contLoop ratOps Ex.consts (Ex.cfg .doolittle) Ex.params #[#[1]] #[1/10] (1/10) 5 1000 #[#[1]] Ex.scratch 2).1
      < 1000 - 2/5 := by
  decide +kernel

/-- `0 < H` inside a step needs `round_off > 0`: with `round_off = 0` the loop does not stop at
    `t = T` and starts steps of size `H = min H |T − t| = 0` -/
example :
    ((rosSolve ratOps Ex.consts (Ex.cfg .doolittle) { Ex.params with roundOff := 0 } #[#[1]] #[1/10] (1/10)
      (2/5) #[#[1]] Ex.scratch 3).trace.map (·.h)) = [2/5, 0, 0] := by
  decide +kernel

#print axioms C06_time_bounds_step
#print axioms C06_time_bounds
#print axioms C06_time_bounds_loop
#print axioms C06_final_time_bounds
#print axioms C06_converged_close
#print axioms C06_continuation_remainder
#print axioms C06_continuation_terminates_partial

end Micm
