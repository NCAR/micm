/-
C18 (generated code, linear algebra) — the programs the LLVM backend generates for the diagonal shift
(`alpha_minus_jacobian`), the Doolittle decomposition and the forward/backward substitution compute what the
vectorised C++ kernels of the CPU backend compute for one group of `L` cells (`alphaMinusJacobianFlat`,
`doolittleVecGroup`, `solveVecGroup`), for every sparsity pattern (table), every `L ≥ 1` and every input.
Tie of the programs to the implementation: see `Model/JitProg.lean`.
-/
import Micm.Lemmas.JitProg

namespace Micm
set_option linter.unusedSectionVars false

section
variable {α : Type} [OfNat α 0] [Add α] [Sub α] [Mul α] [Div α]

/-- **the generated diagonal shift is `AlphaMinusJacobian` of the CPU backend** on a Jacobian of `L` blocks -/
theorem C18_jit_alpha (L nnz : Nat) (hL : 0 < L) (diag : List Nat) (J a1 a2 buf : Array α) (alpha : α) :
    (JProg.run L (genAlpha L diag) ⟨J, a1, a2, buf, alpha⟩).a0 = alphaMinusJacobianFlat L L nnz diag J alpha := by
  rw [genAlpha, JProg.run_map_arr L .a0 _ fun _ => rfl]
  -- unfold the array-level description into reads and writes; `laneAddr_eq` brings the addresses to the kernel's form
  simp only [alphaMinusJacobianFlat, if_neg (Nat.ne_of_gt hL), ceilDiv_self hL, List.range_one, List.foldl_cons,
    List.foldl_nil, Nat.zero_mul, lanesDo, JMem.set, JMem.get, JLoop.lanes, JLoc.idx, JExpr.eval, JMem.load, laneAddr_eq]

theorem run_solve_fw (L : Nat) (fw : List SubRow) (i : Nat) (m : JMem α) :
    JProg.run L (genSolveFw L fw i) m =
      { m with a0 := (fw.foldl (fun (s : Array α × Nat) r =>
          let x := r.pairs.foldl (fun x p => lanesDo L (fun x l =>
            wr x (0 + s.2 * L + l) (rd x (0 + s.2 * L + l) - rd m.a1 (0 + p.1 * L + l) * rd x (0 + p.2 * L + l))) x) s.1
          (lanesDo L (fun x l => wr x (0 + s.2 * L + l) (rd x (0 + s.2 * L + l) / rd m.a1 (0 + r.diag * L + l))) x, s.2 + 1))
          (m.a0, i)).1 } := by
  induction fw generalizing i m with
  | nil => rfl
  | cons r rs ih =>
    simp only [genSolveFw, List.foldl_cons]
    rw [JProg.run_append, JProg.run_append, ih, JProg.run_singleton, JLoop.run_eq,
      JProg.run_map_arr L .a0 _ fun _ => rfl]
    simp only [JLoc.arr, JMem.set, JMem.get, JLoop.lanes, JLoc.idx, JExpr.eval, JMem.load, laneAddr_eq, lanesDo]

/-- `k` = rows left; the generated row counter is `k - 1`, counting down -/
theorem run_solve_bw (hc : ∀ a b : α, a * b = b * a) (L : Nat) (bw : List SubRow) (k : Nat) (hk : bw.length ≤ k)
    (m : JMem α) :
    JProg.run L (genSolveBw L bw k) m =
      { m with a0 := (bw.foldl (fun (s : Array α × Nat) r =>
          let x := r.pairs.foldl (fun x p => lanesDo L (fun x l =>
            wr x (0 + s.2 * L + l) (rd x (0 + s.2 * L + l) - rd m.a2 (0 + p.1 * L + l) * rd x (0 + p.2 * L + l))) x) s.1
          (lanesDo L (fun x l => wr x (0 + s.2 * L + l) (rd x (0 + s.2 * L + l) / rd m.a2 (0 + r.diag * L + l))) x,
           if s.2 = 0 then 0 else s.2 - 1))
          (m.a0, k - 1)).1 } := by
  induction bw generalizing k m with
  | nil => rfl
  | cons r rs ih =>
    have hlen : rs.length ≤ k - 1 := by simp at hk; omega
    -- the generated counter `k - 1` is never zero while rows are left, so the kernel's guard is idle
    have hk1 : (if k - 1 = 0 then 0 else k - 1 - 1) = k - 1 - 1 := by split <;> omega
    simp only [genSolveBw, List.foldl_cons]
    rw [JProg.run_append, JProg.run_append, ih (k - 1) hlen, JProg.run_singleton, JLoop.run_eq,
      JProg.run_map_arr L .a0 _ fun _ => rfl]
    simp only [JLoc.arr, JMem.set, JMem.get, JLoop.lanes, JLoc.idx, JExpr.eval, JMem.load, laneAddr_eq, lanesDo,
      hk1, hc (rd m.a2 _)]

/-- **the generated linear solve is `LinearSolver::Solve` of the CPU backend** for one group of `L` cells
    (`n` rows: `bw` has one entry per row) -/
theorem C18_jit_solve (hc : ∀ a b : α, a * b = b * a) (L n : Nat) (fw bw : List SubRow) (hn : bw.length = n)
    (x Lo Up buf : Array α) (s : α) :
    (JProg.run L (genSolve L fw bw) ⟨x, Lo, Up, buf, s⟩).a0 = solveVecGroup L n fw bw Lo Up 0 0 0 x ∧
    (JProg.run L (genSolve L fw bw) ⟨x, Lo, Up, buf, s⟩).a1 = Lo ∧
    (JProg.run L (genSolve L fw bw) ⟨x, Lo, Up, buf, s⟩).a2 = Up := by
  simp only [genSolve]
  rw [JProg.run_append, run_solve_fw, run_solve_bw hc L bw bw.length (Nat.le_refl _)]
  subst hn
  exact ⟨rfl, rfl, rfl⟩

theorem C18_jit_solve_whole (hc : ∀ a b : α, a * b = b * a) (L n nnzL nnzU : Nat) (hL : 0 < L) (fw bw : List SubRow)
    (hn : bw.length = n) (x Lo Up buf : Array α) (s : α) :
    (JProg.run L (genSolve L fw bw) ⟨x, Lo, Up, buf, s⟩).a0 = solveFlat L L n fw bw nnzL nnzU Lo Up x := by
  rw [(C18_jit_solve hc L n fw bw hn x Lo Up buf s).1]
  simp [solveFlat, Nat.ne_of_gt hL, ceilDiv_self hL]

section LU
variable [OfNat α 1]

omit [OfNat α 1] in
theorem eval_jInit (L : Nat) (a : Option Nat) (m : JMem α) (i : Nat) :
    (jInit L a : JExpr α).eval m i = match a with | some a => rd m.a0 (i + a * L) | none => 0 := by
  cases a <;> rfl

theorem run_lu_u (L : Nat) (us : List DEntry) (m : JMem α) :
    JProg.run L (us.flatMap fun e =>
        [(⟨.arg 2 (e.t * L), jInit L e.a⟩ : JLoop α)]
          ++ e.pairs.map fun p =>
            ⟨.arg 2 (e.t * L), .sub (.ld (.arg 2 (e.t * L))) (.mul (.ld (.arg 1 (p.1 * L))) (.ld (.arg 2 (p.2 * L))))⟩) m =
      { m with a2 := us.foldl (fun U e =>
          let U := lanesDo L (fun U l => wr U (0 + e.t * L + l) (match e.a with | some a => rd m.a0 (0 + a * L + l) | none => 0)) U
          e.pairs.foldl (fun U p => lanesDo L (fun U l =>
            wr U (0 + e.t * L + l) (rd U (0 + e.t * L + l) - rd m.a1 (0 + p.1 * L + l) * rd U (0 + p.2 * L + l))) U) U) m.a2 } := by
  rw [JProg.run_flatMap]
  induction us generalizing m with
  | nil => rfl
  | cons e es ih =>
    simp only [List.foldl_cons]
    rw [JProg.run_append, ih, JProg.run_map_arr L .a2 _ fun _ => rfl, JProg.run_singleton, JLoop.run_eq]
    simp only [JLoc.arr, JMem.set, JMem.get, JLoop.lanes, JLoc.idx, JExpr.eval, eval_jInit, JMem.load, laneAddr_eq,
      lanesDo]

theorem run_lu_l (L uii : Nat) (ls : List DEntry) (m : JMem α) :
    JProg.run L (ls.flatMap fun e =>
        [(⟨.arg 1 (e.t * L), jInit L e.a⟩ : JLoop α)]
          ++ (e.pairs.map fun p =>
            ⟨.arg 1 (e.t * L), .sub (.ld (.arg 1 (e.t * L))) (.mul (.ld (.arg 1 (p.1 * L))) (.ld (.arg 2 (p.2 * L))))⟩)
          ++ [⟨.arg 1 (e.t * L), .div (.ld (.arg 1 (e.t * L))) (.ld (.arg 2 (uii * L)))⟩]) m =
      { m with a1 := ls.foldl (fun Lo e =>
          let Lo := lanesDo L (fun Lo l => wr Lo (0 + e.t * L + l) (match e.a with | some a => rd m.a0 (0 + a * L + l) | none => 0)) Lo
          let Lo := e.pairs.foldl (fun Lo p => lanesDo L (fun Lo l =>
            wr Lo (0 + e.t * L + l) (rd Lo (0 + e.t * L + l) - rd Lo (0 + p.1 * L + l) * rd m.a2 (0 + p.2 * L + l))) Lo) Lo
          lanesDo L (fun Lo l => wr Lo (0 + e.t * L + l) (rd Lo (0 + e.t * L + l) / rd m.a2 (0 + uii * L + l))) Lo) m.a1 } := by
  rw [JProg.run_flatMap]
  induction ls generalizing m with
  | nil => rfl
  | cons e es ih =>
    simp only [List.foldl_cons]
    rw [JProg.run_append, JProg.run_append, ih, JProg.run_singleton, JLoop.run_eq,
      JProg.run_map_arr L .a1 _ fun _ => rfl, JProg.run_singleton, JLoop.run_eq]
    simp only [JLoc.arr, JMem.set, JMem.get, JLoop.lanes, JLoc.idx, JExpr.eval, eval_jInit, JMem.load, laneAddr_eq,
      lanesDo]

/-- the store `L_ii := 1`, in all `L` lanes -/
theorem run_one_a1 (L t : Nat) (m : JMem α) :
    (⟨.arg 1 (t * L), .const 1⟩ : JLoop α).run L m =
      { m with a1 := lanesDo L (fun Lo l => wr Lo (0 + t * L + l) 1) m.a1 } := by
  rw [JLoop.run_eq]
  simp only [JLoc.arr, JMem.set, JMem.get, JLoop.lanes, JLoc.idx, JExpr.eval, laneAddr_eq, lanesDo]

/-- **the generated decomposition is `LuDecompositionDoolittle::Decompose` of the CPU backend** for one group of
    `L` cells, all `L` lanes active; whatever `lower` and `upper` held before -/
theorem C18_jit_lu (L : Nat) (rows : List DRow) (A Lo Up buf : Array α) (s : α) :
    ((JProg.run L (genDoolittle L rows) ⟨A, Lo, Up, buf, s⟩).a1, (JProg.run L (genDoolittle L rows) ⟨A, Lo, Up, buf, s⟩).a2)
      = doolittleVecGroup L L rows A 0 0 0 (Lo, Up) ∧
    (JProg.run L (genDoolittle L rows) ⟨A, Lo, Up, buf, s⟩).a0 = A := by
  have key : ∀ (rows : List DRow) (m : JMem α),
      JProg.run L (genDoolittle L rows) m =
        { m with a1 := (doolittleVecGroup L L rows m.a0 0 0 0 (m.a1, m.a2)).1,
                 a2 := (doolittleVecGroup L L rows m.a0 0 0 0 (m.a1, m.a2)).2 } := by
    intro rows
    simp only [genDoolittle, doolittleVecGroup]
    induction rows with
    | nil => intro m; rfl
    | cons r rs ih =>
      intro m
      rw [List.flatMap_cons, JProg.run_append, List.foldl_cons]
      rw [JProg.run_append, JProg.run_append, JProg.run_singleton, run_lu_u, run_one_a1, run_lu_l, ih]
      rfl
  rw [key]
  exact ⟨rfl, rfl⟩

theorem C18_jit_lu_whole (L nnzA nnzL nnzU : Nat) (hL : 0 < L) (rows : List DRow) (A Lo Up buf : Array α) (s : α) :
    ((JProg.run L (genDoolittle L rows) ⟨A, Lo, Up, buf, s⟩).a1, (JProg.run L (genDoolittle L rows) ⟨A, Lo, Up, buf, s⟩).a2)
      = doolittleFlat L L rows nnzA nnzL nnzU A (Lo, Up) := by
  rw [(C18_jit_lu L rows A Lo Up buf s).1]
  simp [doolittleFlat, Nat.ne_of_gt hL, ceilDiv_self hL]

end LU

end

/-- `A = [[4, 2], [2, 3]]` (full pattern, ranks 0..3 row-major): `L = [[1, 0], [1/2, 1]]`, `U = [[4, 2], [0, 2]]`; the
    generated program is run on garbage-filled `L`, `U` -/
example :
    let rows : List DRow :=
      [ { u := [⟨some 0, 0, []⟩, ⟨some 1, 1, []⟩], lii := 0, l := [⟨some 2, 1, []⟩], uii := 0 },
        { u := [⟨some 3, 2, [(1, 1)]⟩], lii := 2, l := [], uii := 2 } ]
    let m := JProg.run 1 (genDoolittle (α := Rat) 1 rows) ⟨#[4, 2, 2, 3], #[9, 9, 9], #[7, 7, 7], #[], 0⟩
    m.a1 = #[1, 1/2, 1] ∧ m.a2 = #[4, 2, 2] := by
  decide +kernel

#print axioms C18_jit_lu
#print axioms C18_jit_lu_whole
#print axioms C18_jit_alpha
#print axioms C18_jit_solve
#print axioms C18_jit_solve_whole
end Micm
