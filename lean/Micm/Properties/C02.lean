/-
C02 — "the matrix the library forms equals minus the partial derivatives of the forcing w.r.t. every
species at the declared sparse positions; every structurally possible non-zero derivative is
contained in the declared sparsity pattern; entries that no reaction touches stay zero."

Notation (helper definitions are in `Micm/Lemmas/Forcing.lean`, `ArraySum.lean` and `Jacobian.lean`):
* `specReactIds m l`, `specProdIds m l`  resolved ids of the non-parameterized reactants / products
  (what `reactIdsOf` / `prodIdsOf` return when they succeed);
* `jacNet rs pr i = Σ_{(i, yld) ∈ pr} yld − count i rs`  net stoichiometric coefficient, so that the
  forcing of C01 reads `f_i = Σ_r jacNet_r(i) · k_r · Π_{l ∈ rs_r} y_l`;
* `dMonomial y rs j = count j rs · Π_{l ∈ rs.erase j} y_l`  formal `∂/∂y_j` of `Π_{l ∈ rs} y_l`
  (shown equal to the Leibniz recursion, to the expanded product rule, and to the evaluation of
  Mathlib's `MvPolynomial.pderiv`);
* the sparse addressing is abstracted: the numeric theorem assumes that `Pattern.rank` is injective
  and in range on the elements it accepts (the `Pattern.rank` specification is C19's);
* exact-arithmetic theorems are stated over `[CommRing K]` (no division occurs), which covers every
  `[Field K]`; see `C02_jacobian_field`.
-/
import Micm.Lemmas.Jacobian
import Micm.Lemmas.JacobianPDeriv
import Mathlib.Algebra.Field.Rat

namespace Micm

/-- `SubtractJacobianTerms` on streams that are per-entry concatenations is the fold, over the
    entries, of the single-entry update
    `d := k[pid] * Π_{x ∈ deps} y[x]`, `J[rk x ind] += d` (x ∈ deps), `J[rk ind ind] += d`,
    `J[rk p ind] -= yield_p * d` (products).  Trailing stream contents `r1 r2 r3` are ignored. -/
theorem C02_jacGo_decode {α : Type} [OfNat α 0] [Add α] [Sub α] [Mul α]
    (k y : Array α) (rk : Nat → Nat → Nat) (es : List (JEntry α)) (hwf : ∀ e ∈ es, e.WF)
    (r1 : List Nat) (r2 : List α) (r3 : List Nat) (J : Array α) :
    jacGo k y (es.map (·.info)) (es.flatMap (·.deps) ++ r1)
        (es.flatMap (fun e => e.prods.map (·.2)) ++ r2)
        (es.flatMap (fun e => e.deps.map (fun x => rk x e.info.ind) ++ [rk e.info.ind e.info.ind]
            ++ e.prods.map (fun p => rk p.1 e.info.ind)) ++ r3) J
      = es.foldl (fun J e =>
          let d := e.deps.foldl (fun acc i => acc * rd y i) (rd k e.info.pid)
          let J := (e.deps.map (fun x => rk x e.info.ind) ++ [rk e.info.ind e.info.ind]).foldl
            (fun J id => wr J id (rd J id + d)) J
          (e.prods.map (fun p => (rk p.1 e.info.ind, p.2))).foldl
            (fun J p => wr J p.1 (rd J p.1 - p.2 * d)) J) J :=
  jacGo_decode k y rk es hwf r1 r2 r3 J

/-- the same for arbitrary per-entry flat-id lists of the right lengths -/
theorem C02_jacGo_decode_gen {α : Type} [OfNat α 0] [Add α] [Sub α] [Mul α]
    (k y : Array α) (fa fb : JEntry α → List Nat) (es : List (JEntry α))
    (hwf : ∀ e ∈ es, e.WF)
    (hfa : ∀ e ∈ es, (fa e).length = e.deps.length + 1)
    (hfb : ∀ e ∈ es, (fb e).length = e.prods.length)
    (r1 : List Nat) (r2 : List α) (r3 : List Nat) (J : Array α) :
    jacGo k y (es.map (·.info)) (es.flatMap (·.deps) ++ r1)
        (es.flatMap (fun e => e.prods.map (·.2)) ++ r2)
        (es.flatMap (fun e => fa e ++ fb e) ++ r3) J
      = es.foldl (fun J e => jacEntryStep k y e.info.pid e.deps (fa e)
          ((fb e).zip (e.prods.map (·.2))) J) J :=
  jacGo_decode_gen k y fa fb es hwf hfa hfb r1 r2 r3 J

/-- `SetJacobianFlatIds` succeeds iff every written position is a present element, and then pushes,
    per entry, `dep ranks ++ [diag rank] ++ product ranks` -/
theorem C02_flatIds_decode {α : Type} (p : Pattern) (es : List (JEntry α)) (hwf : ∀ e ∈ es, e.WF)
    (r1 r2 : List Nat) (flat : List Nat) :
    flatIdsGo p (es.map (·.info)) (es.flatMap (·.deps) ++ r1)
        (es.flatMap (fun e => e.prods.map (·.1)) ++ r2) = .ok flat
      ↔ (∀ e ∈ es, e.Present p) ∧ flat = es.flatMap (entryFlatIds p.rk) :=
  flatIdsGo_decode p es hwf r1 r2 flat

/-- The tables of a successfully built process set are the concatenated
    streams of the nested second constructor loop over the resolved processes. -/
theorem C02_build_entries {α : Type} (procs : List (Process α)) (m : NameMap) (t : PSTables α)
    (h : ProcessSet.build procs m = .ok t) :
    let es := buildJacobianEntries (sortByIdx m) (procs.map (resolveProc m))
    (∀ e ∈ es, e.WF) ∧
    t.jInfo = es.map (·.info) ∧ t.jReactIds = es.flatMap (·.deps) ∧
    t.jProdIds = es.flatMap (fun e => e.prods.map (·.1)) ∧
    t.jYields = es.flatMap (fun e => e.prods.map (·.2)) := by
  obtain ⟨-, rfl⟩ := (ProcessSet.build_ok_iff procs m t).1 h
  exact ⟨buildJacobianEntries_WF _ _, rfl, rfl, rfl, rfl⟩

/-- The closed form of the derivative is not ad hoc: it equals the Leibniz recursion, the expanded
    product rule (sum over the positions holding `j` of the product of the other factors), and the
    evaluation of Mathlib's `MvPolynomial.pderiv` of the monomial `Π X_l`. -/
theorem C02_dMonomial_is_derivative {K : Type} [CommRing K] (y : Nat → K) (rs : List Nat) (j : Nat) :
    dMonomial y rs j = dMonomialLeibniz y rs j ∧
    dMonomial y rs j = (((List.range rs.length).filter (fun q => rs[q]? = some j)).map
        (fun q => ((rs.eraseIdx q).map y).prod)).sum ∧
    dMonomial y rs j = MvPolynomial.eval y (MvPolynomial.pderiv j (monomialPoly K rs)) ∧
    rateMonomial y rs = MvPolynomial.eval y (monomialPoly K rs) :=
  ⟨dMonomial_eq_leibniz y rs j, dMonomial_eq_pos y rs j, (eval_pderiv_monomialPoly y rs j).symm,
    (eval_monomialPoly y rs).symm⟩

/-- For one reaction `p` and one independent variable `nv = (name, ind)` of the map, the second
    constructor loop creates one entry per occurrence of `ind` among the resolved reactants `rs`,
    each with dependents `rs.erase ind` (first occurrence removed); the `d_rate_d_ind` values these
    entries compute add up to `k · ∂(Π_{l ∈ rs} y_l)/∂y_ind`. -/
theorem C02_entry_is_partial_derivative {K : Type} [CommRing K]
    (m : NameMap) (hk : (m.map (·.1)).Nodup) (hv : (m.map (·.2)).Nodup)
    (nv : String × Nat) (hnv : nv ∈ m) (p : Process K)
    (hparam : ∀ r ∈ p.reactants, r.param = true → nmLookup m r.name = none) (y : Array K) (kr : K) :
    let rs := specReactIds m p.reactants
    let es := buildJacobianEntries [nv] [resolveProc m p]
    es.length = rs.count nv.2 ∧
    (∀ e ∈ es, e.deps = rs.erase nv.2 ∧ e.info.ind = nv.2 ∧ e.prods = specProdIds m p.products) ∧
    (es.map fun e => e.deps.foldl (fun acc i => acc * rd y i) kr).sum
      = kr * dMonomial (rd y) rs nv.2 := by
  refine ⟨?_, ?_, entries_single_sum m hk hv nv hnv p hparam y kr⟩
  · rw [entries_single m hk hv nv hnv p hparam, List.length_replicate]
  · intro e he
    rw [entries_single m hk hv nv hnv p hparam] at he
    rw [(List.mem_replicate.mp he).2]
    exact ⟨rfl, rfl, rfl⟩

/-- For a successfully built process set (name map with distinct names and distinct indices,
    parameterized reactants not in the map — as `GetSpeciesMap` guarantees), flat ids that
    `SetJacobianFlatIds` computed on a pattern whose ranks are injective and in range: starting from
    any `J0`, for every present element `(i, j)` with rank `q`,
    `J[q] = J0[q] − Σ_r net_r(i) · k_r · ∂(Π_{l ∈ reactants r} y_l)/∂y_j`. -/
theorem C02_jacobian {K : Type} [CommRing K] (procs : List (Process K)) (m : NameMap)
    (t : PSTables K) (hb : ProcessSet.build procs m = .ok t)
    (hk : (m.map (·.1)).Nodup) (hv : (m.map (·.2)).Nodup)
    (hparam : ∀ p ∈ procs, ∀ r ∈ p.reactants, r.param = true → nmLookup m r.name = none)
    (p : Pattern) (flat : List Nat) (hf : t.jacobianFlatIds p = .ok flat)
    (hinj : ∀ r c r' c' q, p.rank r c = .ok q → p.rank r' c' = .ok q → r = r' ∧ c = c')
    (k y J0 : Array K) (hrange : ∀ r c q, p.rank r c = .ok q → q < J0.size)
    (i j q : Nat) (hq : p.rank i j = .ok q) :
    rd (t.subtractJacobianCell flat k y J0) q
      = rd J0 q - (procs.zipIdx.map fun pi =>
          jacNet (specReactIds m pi.1.reactants) (specProdIds m pi.1.products) i
            * (rd k pi.2 * dMonomial (rd y) (specReactIds m pi.1.reactants) j)).sum := by
  obtain ⟨-, rfl⟩ := (ProcessSet.build_ok_iff procs m t).1 hb
  obtain ⟨hpres, rfl⟩ := (jacobianFlatIds_built m procs p flat).1 hf
  obtain rfl := p.rank_ok_rk i j q hq
  have hinj' : ∀ r c r' c', p.Present r c → p.Present r' c' → p.rk r c = p.rk r' c' → r = r' ∧ c = c' :=
    fun r c r' c' h h' he => hinj r c r' c' _ (he ▸ h) h'
  -- each entry contributes coefficient × rate (pattern level); these add up to `−∂f_i/∂y_j` (build level)
  exact (jacGo_entries_rd p _ (buildJacobianEntries_WF _ _) hpres hinj' k y J0 i j (p.present_of_ok i j _ hq)
    (hrange i j _ hq)).trans
    ((congrArg (rd J0 (p.rk i j) + ·) (sum_entries_build m hk hv procs hparam k y i j)).trans
      (sub_eq_add_neg _ _).symm)

/-- from a zero-filled block the matrix is `−∂f_i/∂y_j` at every present element -/
theorem C02_jacobian_zero {K : Type} [CommRing K] (procs : List (Process K)) (m : NameMap)
    (t : PSTables K) (hb : ProcessSet.build procs m = .ok t)
    (hk : (m.map (·.1)).Nodup) (hv : (m.map (·.2)).Nodup)
    (hparam : ∀ p ∈ procs, ∀ r ∈ p.reactants, r.param = true → nmLookup m r.name = none)
    (p : Pattern) (flat : List Nat) (hf : t.jacobianFlatIds p = .ok flat)
    (hinj : ∀ r c r' c' q, p.rank r c = .ok q → p.rank r' c' = .ok q → r = r' ∧ c = c')
    (k y : Array K) (n : Nat) (hrange : ∀ r c q, p.rank r c = .ok q → q < n)
    (i j q : Nat) (hq : p.rank i j = .ok q) :
    rd (t.subtractJacobianCell flat k y (Array.replicate n 0)) q
      = - (procs.zipIdx.map fun pi =>
          jacNet (specReactIds m pi.1.reactants) (specProdIds m pi.1.products) i
            * (rd k pi.2 * dMonomial (rd y) (specReactIds m pi.1.reactants) j)).sum := by
  rw [C02_jacobian procs m t hb hk hv hparam p flat hf hinj k y (Array.replicate n 0)
    (fun r c q h => (Array.size_replicate (n := n) (v := (0 : K))).symm ▸ hrange r c q h) i j q hq]
  rw [rd_replicate_zero, zero_sub]

/-- the `[Field K]` reading of `C02_jacobian_zero` (a field is a commutative ring; the model's
    `Add K`, `Mul K`, … instances are the field's) -/
theorem C02_jacobian_field {K : Type} [Field K] (procs : List (Process K)) (m : NameMap)
    (t : PSTables K) (hb : ProcessSet.build procs m = .ok t)
    (hk : (m.map (·.1)).Nodup) (hv : (m.map (·.2)).Nodup)
    (hparam : ∀ p ∈ procs, ∀ r ∈ p.reactants, r.param = true → nmLookup m r.name = none)
    (p : Pattern) (flat : List Nat) (hf : t.jacobianFlatIds p = .ok flat)
    (hinj : ∀ r c r' c' q, p.rank r c = .ok q → p.rank r' c' = .ok q → r = r' ∧ c = c')
    (k y : Array K) (n : Nat) (hrange : ∀ r c q, p.rank r c = .ok q → q < n)
    (i j q : Nat) (hq : p.rank i j = .ok q) :
    rd (t.subtractJacobianCell flat k y (Array.replicate n 0)) q
      = - (procs.zipIdx.map fun pi =>
          jacNet (specReactIds m pi.1.reactants) (specProdIds m pi.1.products) i
            * (rd k pi.2 * dMonomial (rd y) (specReactIds m pi.1.reactants) j)).sum :=
  C02_jacobian_zero procs m t hb hk hv hparam p flat hf hinj k y n hrange i j q hq

/-- every position `(x, ind)`, `(ind, ind)`, `(p, ind)` that some Jacobian entry writes is a member
    of `NonZeroJacobianElements` -/
theorem C02_pattern_complete {α : Type} (procs : List (Process α)) (m : NameMap) (t : PSTables α)
    (hb : ProcessSet.build procs m = .ok t) (hk : (m.map (·.1)).Nodup)
    (hparam : ∀ p ∈ procs, ∀ r ∈ p.reactants, r.param = true → nmLookup m r.name = none) :
    ∀ e ∈ buildJacobianEntries (sortByIdx m) (procs.map (resolveProc m)),
      (∀ x ∈ e.deps, (x, e.info.ind) ∈ t.nonZeroJacobianElements) ∧
      (e.info.ind, e.info.ind) ∈ t.nonZeroJacobianElements ∧
      ∀ pr ∈ e.prods, (pr.1, e.info.ind) ∈ t.nonZeroJacobianElements :=
  entries_in_nonZero procs m t hb hk hparam

/-- hence `SetJacobianFlatIds` never hits `ZeroElementAccess` (nor any other error) on a pattern
    in which every declared element has a rank — e.g. the one built from
    `buildJacobianSet n t.nonZeroJacobianElements`, or any superset such as the fill-closed one -/
theorem C02_flatids_defined {α : Type} (procs : List (Process α)) (m : NameMap) (t : PSTables α)
    (hb : ProcessSet.build procs m = .ok t) (hk : (m.map (·.1)).Nodup)
    (hparam : ∀ p ∈ procs, ∀ r ∈ p.reactants, r.param = true → nmLookup m r.name = none)
    (p : Pattern) (hp : ∀ x ∈ t.nonZeroJacobianElements, ∃ q, p.rank x.1 x.2 = .ok q) :
    ∃ flat, t.jacobianFlatIds p = .ok flat :=
  ⟨_, flatIds_defined procs m t hb hk hparam p hp⟩

/-- slots whose rank is not among the flat ids are unchanged (stay zero), for *any* streams -/
theorem C02_untouched {α : Type} [OfNat α 0] [Add α] [Sub α] [Mul α] (t : PSTables α)
    (flat : List Nat) (k y J : Array α) (q : Nat) (hq : q ∉ flat) :
    rd (t.subtractJacobianCell flat k y J) q = rd J q ∧
    (t.subtractJacobianCell flat k y J).size = J.size :=
  ⟨jacGo_untouched k y _ _ _ flat J q hq, jacGo_size k y _ _ _ flat J⟩

/-- the declared set is exactly `{(d, i) | some reaction has i among its reactants and d among its
    reactants or products}`, strictly sorted (so duplicate free) like the `std::set` it models -/
theorem C02_nonZero_spec {α : Type} (procs : List (Process α)) (m : NameMap) (t : PSTables α)
    (hb : ProcessSet.build procs m = .ok t) :
    (∀ x : Pair, x ∈ t.nonZeroJacobianElements ↔ ∃ p ∈ procs, x.2 ∈ specReactIds m p.reactants ∧
      (x.1 ∈ specReactIds m p.reactants ∨ x.1 ∈ (specProdIds m p.products).map (·.1))) ∧
    t.nonZeroJacobianElements.Pairwise (fun a b => pairLt a b = true) ∧
    t.nonZeroJacobianElements.Nodup :=
  ⟨mem_nonZero_of_build procs m t hb,
    nonZeroGo_sorted _ _ _ _ [] List.Pairwise.nil,
    (nonZeroGo_sorted _ _ _ _ [] List.Pairwise.nil).nodup⟩

/-- stream-level form: no hypothesis on how the tables were built -/
theorem C02_nonZeroGo_spec (rxs : List (List Nat × List Nat)) (r1 r2 : List Nat) (s : List Pair)
    (x : Pair) :
    x ∈ nonZeroGo (rxs.map (·.1.length)) (rxs.map (·.2.length)) (rxs.flatMap (·.1) ++ r1)
        (rxs.flatMap (·.2) ++ r2) s
      ↔ x ∈ s ∨ ∃ rx ∈ rxs, x.2 ∈ rx.1 ∧ (x.1 ∈ rx.1 ∨ x.1 ∈ rx.2) :=
  mem_nonZeroGo rxs (·.1) (·.2) r1 r2 s x

/-! ## Examples: `s0 + s0 + s1 → 2 s2 ;  s2 → s0`   (A + A + B: the multiplicity `2kAB`) -/

section Example

def c02Procs (K : Type) [OfNat K 2] [OfNat K 1] : List (Process K) :=
  [ { reactants := [⟨"s0", false⟩, ⟨"s0", false⟩, ⟨"s1", false⟩], products := [(⟨"s2", false⟩, 2)] },
    { reactants := [⟨"s2", false⟩], products := [(⟨"s0", false⟩, 1)] } ]

def c02Map : NameMap := [("s0", 0), ("s1", 1), ("s2", 2)]

def c02Tables (K : Type) [OfNat K 2] [OfNat K 1] : PSTables K :=
  { nReact := [3, 1], reactIds := [0, 0, 1, 2], nProd := [1, 1], prodIds := [2, 0], yields := [2, 1],
    jInfo := [⟨0, 0, 2, 1⟩, ⟨0, 0, 2, 1⟩, ⟨0, 1, 2, 1⟩, ⟨1, 2, 0, 1⟩],
    jReactIds := [0, 1, 0, 1, 0, 0], jProdIds := [2, 2, 2, 0], jYields := [2, 2, 2, 1] }

/-- the constructor produces two entries for (reaction 0, s0) -/
theorem c02Build (K : Type) [OfNat K 2] [OfNat K 1] :
    ProcessSet.build (c02Procs K) c02Map = .ok (c02Tables K) := by
  rfl  -- not the term `rfl`: its elaboration runs the evaluation a second time

/-- CSR, standard ordering, pattern = declared elements + diagonal (8 of the 9 positions) -/
def c02Pattern : Pattern :=
  Pattern.mk' 3 false 0 (buildJacobianSet 3 (c02Tables Rat).nonZeroJacobianElements)

def c02FlatIds : List Nat := [0, 3, 0, 5, 0, 3, 0, 5, 1, 1, 4, 6, 7, 2]

example : (c02Tables Rat).nonZeroJacobianElements
    = [(0, 0), (0, 1), (0, 2), (1, 0), (1, 1), (2, 0), (2, 1), (2, 2)] := by decide +kernel

theorem c02Flat' : flatIdsGo c02Pattern [⟨0, 0, 2, 1⟩, ⟨0, 0, 2, 1⟩, ⟨0, 1, 2, 1⟩, ⟨1, 2, 0, 1⟩]
    [0, 1, 0, 1, 0, 0] [2, 2, 2, 0] = .ok c02FlatIds := by decide +kernel

theorem c02Flat (K : Type) [OfNat K 2] [OfNat K 1] :
    (c02Tables K).jacobianFlatIds c02Pattern = .ok c02FlatIds := c02Flat'

example : ((c02Tables Rat).subtractJacobianCell c02FlatIds #[3, 5] #[2, 7, 11] (Array.replicate 8 0)).toList
    = [168, 24, -5, 84, 12, -168, -24, 5] := by decide +kernel

/-- The right-hand side is `−∂f/∂y` of `f0 = −2·k0·a²·b + k1·c`, `f1 = −k0·a²·b`,
    `f2 = 2·k0·a²·b − k1·c` at the positions `(0,0) (0,1) (0,2) (1,0) (1,1) (2,0) (2,1) (2,2)`. -/
example {K : Type} [Field K] (k0 k1 a b c : K) :
    (c02Tables K).subtractJacobianCell c02FlatIds #[k0, k1] #[a, b, c] #[0, 0, 0, 0, 0, 0, 0, 0]
      = #[4 * k0 * a * b, 2 * k0 * a * a, -k1, 2 * k0 * a * b, k0 * a * a,
          -(4 * k0 * a * b), -(2 * k0 * a * a), k1] := by
  simp [PSTables.subtractJacobianCell, c02Tables, c02FlatIds, jacGo, rd, wr]
  refine ⟨?_, ?_, ?_, ?_, ?_⟩ <;> ring

theorem c02Rank_bound (r c q : Nat) (h : c02Pattern.rank r c = .ok q) : r < 3 ∧ c < 3 := by
  unfold Pattern.rank at h
  have hs : c02Pattern.start.size - 1 = 3 := by decide +kernel
  rw [hs] at h
  by_cases hb : (decide (r ≥ 3) || decide (c ≥ 3)) = true
  · simp [hb] at h
  · simp only [Bool.or_eq_true, decide_eq_true_eq, not_or, not_le] at hb
    exact hb

/-- A left inverse of `c02Pattern.rank`: injectivity and the range bound both follow from it. -/
theorem c02Rank_pos (r c q : Nat) (h : c02Pattern.rank r c = .ok q) :
    [(0, 0), (0, 1), (0, 2), (1, 0), (1, 1), (2, 0), (2, 1), (2, 2)][q]? = some (r, c) := by
  obtain ⟨h1, h2⟩ := c02Rank_bound r c q h
  have key : ∀ r < 3, ∀ c < 3, ((c02Pattern.rank r c).toOption.all fun q =>
      [(0, 0), (0, 1), (0, 2), (1, 0), (1, 1), (2, 0), (2, 1), (2, 2)][q]? == some (r, c)) = true := by
    decide +kernel
  have := key r h1 c h2
  rw [h] at this
  simpa [Except.toOption] using this

theorem c02Rank_inj (r c r' c' q : Nat) (h : c02Pattern.rank r c = .ok q)
    (h' : c02Pattern.rank r' c' = .ok q) : r = r' ∧ c = c' :=
  Prod.ext_iff.1 (Option.some.inj ((c02Rank_pos r c q h).symm.trans (c02Rank_pos r' c' q h')))

theorem c02Rank_range (r c q : Nat) (h : c02Pattern.rank r c = .ok q) : q < 8 :=
  (List.getElem?_eq_some_iff.1 (c02Rank_pos r c q h)).1

example {K : Type} [Field K] (k0 k1 a b c : K) :
    rd ((c02Tables K).subtractJacobianCell c02FlatIds #[k0, k1] #[a, b, c] (Array.replicate 8 0)) 0
        = 4 * k0 * a * b ∧
    rd ((c02Tables K).subtractJacobianCell c02FlatIds #[k0, k1] #[a, b, c] (Array.replicate 8 0)) 6
        = -(2 * k0 * a * a) := by
  have hparam : ∀ p ∈ c02Procs K, ∀ r ∈ p.reactants, r.param = true → nmLookup c02Map r.name = none := by
    simp [c02Procs]
  have h00 : c02Pattern.rank 0 0 = .ok 0 := by decide +kernel
  have h21 : c02Pattern.rank 2 1 = .ok 6 := by decide +kernel
  have hk : (c02Map.map (·.1)).Nodup := by decide
  have hv : (c02Map.map (·.2)).Nodup := by decide
  have key := fun i j q h => C02_jacobian_field (c02Procs K) c02Map (c02Tables K) (c02Build K) hk hv hparam
    c02Pattern c02FlatIds (c02Flat K) c02Rank_inj #[k0, k1] #[a, b, c] 8 c02Rank_range i j q h
  have hr0 : specReactIds c02Map [⟨"s0", false⟩, ⟨"s0", false⟩, ⟨"s1", false⟩] = [0, 0, 1] := by decide +kernel
  have hr1 : specReactIds c02Map [⟨"s2", false⟩] = [2] := by decide +kernel
  have hp0 : specProdIds c02Map [((⟨"s2", false⟩ : SpecRef), (2 : K))] = [(2, 2)] := rfl
  have hp1 : specProdIds c02Map [((⟨"s0", false⟩ : SpecRef), (1 : K))] = [(0, 1)] := rfl
  simp only [c02Procs, List.zipIdx_cons, List.zipIdx_nil, List.map_cons, List.map_nil, List.sum_cons,
    List.sum_nil, hr0, hr1, hp0, hp1] at key
  constructor
  · rw [key 0 0 0 h00]
    simp [jacNet, dMonomial, rd]
    ring
  · rw [key 2 1 6 h21]
    simp [jacNet, dMonomial, rd]
    ring

example {K : Type} [Field K] (y : Nat → K) : dMonomial y [0, 0, 1] 0 = 2 * y 0 * y 1 := by
  simp [dMonomial]; ring

/-! The hypothesis `hparam` is necessary (observation about the source, not a model artefact): the
    outer test of the second constructor loop compares *names* before `IsParameterized()` is
    consulted, so a parameterized reactant whose name is also a state variable gets an entry.
    `s0(parameterized) + s1 → s2 ; s0 → s1 + s2` with `s0` in the map: flat ids are computed without
    error and `J[0,0]` becomes `k0·y1 + k1 = 26` instead of `−∂f0/∂y0 = k1 = 5`.
    (`SolverBuilder::GetSpeciesMap` never produces such a map: `Phase::UniqueNames` drops
    parameterized species; it needs a reactant `Species` copy that is parameterized while the
    phase's species of the same name is not.) -/

def c02BadProcs : List (Process Rat) :=
  [ { reactants := [⟨"s0", true⟩, ⟨"s1", false⟩], products := [(⟨"s2", false⟩, 1)] },
    { reactants := [⟨"s0", false⟩], products := [(⟨"s1", false⟩, 1), (⟨"s2", false⟩, 1)] } ]

example :
    (do let t ← (ProcessSet.build c02BadProcs c02Map).toOption
        let p := Pattern.mk' 3 false 0 (buildJacobianSet 3 t.nonZeroJacobianElements)
        let flat ← (t.jacobianFlatIds p).toOption
        let r ← (p.rank 0 0).toOption
        pure (rd (t.subtractJacobianCell flat #[3, 5] #[2, 7, 11] (Array.replicate p.nnz 0)) r))
      = some (26 : Rat) := by decide +kernel

end Example

#print axioms C02_jacGo_decode
#print axioms C02_jacGo_decode_gen
#print axioms C02_flatIds_decode
#print axioms C02_build_entries
#print axioms C02_dMonomial_is_derivative
#print axioms C02_entry_is_partial_derivative
#print axioms C02_jacobian
#print axioms C02_jacobian_zero
#print axioms C02_jacobian_field
#print axioms C02_pattern_complete
#print axioms C02_flatids_defined
#print axioms C02_untouched
#print axioms C02_nonZero_spec
#print axioms C02_nonZeroGo_spec

end Micm
