/-
C07 — step-size control honours the solver parameters (Rosenbrock part).

All statements are about the model definitions `ctlDecide`, `rosStep`, `rosSolve` themselves.
`OrderedOps o` ties the model's comparison record to the order of the field `K` (no NaN/Inf);
`o.pow`, `o.sqrt`, `o.ofNat` stay arbitrary, so `clampFac o p e = min fmax (max fmin (safety / pow e (1/order)))`
is stated with the uninterpreted `pow` — where a property of `pow` is needed it is an explicit hypothesis.
-/
import Micm.Lemmas.RosLoop
import Micm.Gen.Params

namespace Micm
set_option linter.unusedSectionVars false

section Ctl
variable {K : Type} [Field K] [LinearOrder K] [IsStrictOrderedRing K]
variable {o : Ops K} (ho : OrderedOps o) (p : RosParams K) (hm : K) (c : Ctl K) (e : K)

/-- over an ordered field every attempt is accepted or rejected (never the nan/inf exits) -/
theorem C07_decision (ho : OrderedOps o) :
    (ctlDecide o p hm c e).1 = .accept ∨ (ctlDecide o p hm c e).1 = .reject :=
  ho.decision_cases p hm c e

/-- accepted ⇔ `e < 1 ∨ H < h_min` -/
theorem C07_accept_iff (ho : OrderedOps o) :
    (ctlDecide o p hm c e).1 = .accept ↔ (e < 1 ∨ c.h < p.hmin) :=
  ho.accept_iff p hm c e

/-- rejected ⇔ `1 ≤ e ∧ h_min ≤ H` -/
theorem C07_reject_iff (ho : OrderedOps o) :
    (ctlDecide o p hm c e).1 = .reject ↔ (1 ≤ e ∧ p.hmin ≤ c.h) :=
  ho.reject_iff p hm c e

/-- on acceptance: `t' = t + H`, `H' = max h_min (min (H·clamp) h_max')`, additionally `min … H`
    after a rejected attempt; both flags reset.  `clamp = min fmax (max fmin (safety / pow e (1/order)))`. -/
theorem C07_accept_next (ho : OrderedOps o) (h : (ctlDecide o p hm c e).1 = .accept) :
    (ctlDecide o p hm c e).2 =
      { t := c.t + c.h,
        h := if c.rejectLast
             then min (max p.hmin (min (c.h * min p.fmax (max p.fmin (p.safety / o.pow e (1 / p.order)))) hm)) c.h
             else max p.hmin (min (c.h * min p.fmax (max p.fmin (p.safety / o.pow e (1 / p.order)))) hm),
        rejectLast := false, rejectMore := false } :=
  ho.accept_next p hm c e h

/-- on acceptance with `h_min ≤ h_max'` the new step lies in `[h_min, h_max']`, except that after a
    rejection it may be the (smaller) current `H` -/
theorem C07_accept_bounds (ho : OrderedOps o) (h : (ctlDecide o p hm c e).1 = .accept)
    (hmm : p.hmin ≤ hm) :
    (ctlDecide o p hm c e).2.h ≤ hm ∧
    (c.rejectLast = false → p.hmin ≤ (ctlDecide o p hm c e).2.h) ∧
    (c.rejectLast = true → (ctlDecide o p hm c e).2.h ≤ c.h ∧ min p.hmin c.h ≤ (ctlDecide o p hm c e).2.h) := by
  rw [ho.accept_next p hm c e h]
  have hb : max p.hmin (min (c.h * clampFac o p e) hm) ≤ hm := max_le hmm (min_le_right _ _)
  cases c.rejectLast
  · exact ⟨hb, fun _ => le_max_left _ _, fun h => Bool.noConfusion h⟩
  · exact ⟨le_trans (min_le_left _ _) hb, fun h => Bool.noConfusion h,
      fun _ => ⟨min_le_right _ _, min_le_min (le_max_left _ _) le_rfl⟩⟩

/-- on rejection: `t` unchanged; `H' = H·clamp` on the first and second consecutive rejection,
    `H' = H·rejection_factor_decrease` from the third on; `reject_more' = reject_last`,
    `reject_last' = true` -/
theorem C07_reject_next (ho : OrderedOps o) (h : (ctlDecide o p hm c e).1 = .reject) :
    (ctlDecide o p hm c e).2 =
      { t := c.t,
        h := if c.rejectMore then c.h * p.rejDec
             else c.h * min p.fmax (max p.fmin (p.safety / o.pow e (1 / p.order))),
        rejectLast := true, rejectMore := c.rejectLast } :=
  ho.reject_next p hm c e h

/-- on rejection `H' ≤ H·fmax` always (needs only `0 ≤ H`, `rejDec ≤ fmax`) -/
theorem C07_reject_le (ho : OrderedOps o) (h : (ctlDecide o p hm c e).1 = .reject)
    (hh : 0 ≤ c.h) (hrf : p.rejDec ≤ p.fmax) :
    (ctlDecide o p hm c e).2.h ≤ c.h * p.fmax := by
  rw [ho.reject_next p hm c e h]
  cases c.rejectMore
  · exact mul_le_mul_of_nonneg_left (clampFac_le_fmax o p e) hh
  · exact mul_le_mul_of_nonneg_left hrf hh

/-- on a first/second consecutive rejection (`¬ reject_more`), `H' < H` **iff** the clamp is `< 1`,
    which for `fmin < 1 ≤ fmax` is **iff** the raw ratio `safety / pow e (1/order)` is `< 1` -/
theorem C07_reject_lt_iff (ho : OrderedOps o) (h : (ctlDecide o p hm c e).1 = .reject)
    (hh : 0 < c.h) (hrm : c.rejectMore = false) (h1 : p.fmin < 1) (h2 : 1 ≤ p.fmax) :
    (ctlDecide o p hm c e).2.h < c.h ↔ p.safety / o.pow e (1 / p.order) < 1 := by
  rw [ho.reject_next p hm c e h, ← clampFac_lt_one_iff o p e h1 h2, hrm]
  exact mul_lt_iff_lt_one_right hh

/-- from the third consecutive rejection on (`reject_more`): `H' = rejDec·H`, and `0 < H' < H` -/
theorem C07_reject_more (ho : OrderedOps o) (h : (ctlDecide o p hm c e).1 = .reject)
    (hh : 0 < c.h) (hrm : c.rejectMore = true) (h1 : 0 < p.rejDec) (h2 : p.rejDec < 1) :
    (ctlDecide o p hm c e).2.h = c.h * p.rejDec ∧
    0 < (ctlDecide o p hm c e).2.h ∧ (ctlDecide o p hm c e).2.h < c.h := by
  rw [ho.reject_next p hm c e h, hrm]
  exact ⟨rfl, mul_pos hh h1, mul_lt_of_lt_one_right hh h2⟩

/-- every rejection shrinks the step (`0 < H' < H`) provided `pow` behaves like a power on `[1, ∞)`:
    `1 ≤ x → 1 ≤ pow x (1/order)` (true for the real power with `order > 0`), `fmin < 1 ≤ fmax`,
    `0 < safety < 1`, `0 < rejDec < 1`.  Without the `pow` hypothesis this is false for the model's
    uninterpreted `pow`, which is why it is a hypothesis and not hidden. -/
theorem C07_reject_shrinks (ho : OrderedOps o) (lp : LegalParams p) (hs1 : p.safety < 1)
    (hpow : ∀ x, 1 ≤ x → 1 ≤ o.pow x (1 / p.order))
    (h : (ctlDecide o p hm c e).1 = .reject) (hh : 0 < c.h) :
    0 < (ctlDecide o p hm c e).2.h ∧ (ctlDecide o p hm c e).2.h < c.h := by
  obtain ⟨f, f0, f1, e'⟩ := ho.reject_factor p hm lp hpow c e h
  rw [e']
  exact ⟨mul_pos hh f0, mul_lt_of_lt_one_right hh (lt_of_le_of_lt f1 (rejFactor_lt_one p lp hs1))⟩

end Ctl

section Solve
variable {K : Type} [Field K] [LinearOrder K] [IsStrictOrderedRing K]
variable {o : Ops K} (cs : Consts K) (s : SolverCfg K) (p : RosParams K) (kc : Mat K)
    (atol : Array K) (rtol : K) (T : K)

/-- **first step**: `rosSolve` runs the loop from `t = 0`, `H = H₀`, with
    `h_max' = (h_max = 0 ? T : min T h_max)`, `h_start' = (h_start = 0 ? max h_min DELTA_MIN : min h_max' h_start)`,
    `H₀ = min (max |h_min| |h_start'|) |h_max'|`, replaced by `DELTA_MIN` when `|H₀| ≤ 10·round_off`. -/
theorem C07_first_step (ho : OrderedOps o) (Y : Mat K) (sc : Scratch K) (fuel : Nat) :
    (rosSolve o cs s p kc atol rtol T Y sc fuel =
      let r := rosLoop o cs s p kc atol rtol T (hmaxEff o p T) fuel (rosInit (initialH o cs p T) Y sc)
      { status := r.status, finalTime := r.ctl.t, stats := r.stats, Y := r.Y, sc := r.sc,
        trace := r.trace.reverse }) ∧
    hmaxEff o p T = (if p.hmax = 0 then T else min T p.hmax) ∧
    hstartEff o cs p T = (if p.hstart = 0 then max p.hmin cs.deltaMin else min (hmaxEff o p T) p.hstart) ∧
    initialH o cs p T =
      (if |min (max |p.hmin| |hstartEff o cs p T|) (|hmaxEff o p T|)| ≤ cs.ten * p.roundOff then cs.deltaMin
       else min (max |p.hmin| |hstartEff o cs p T|) |hmaxEff o p T|) :=
  ⟨rosSolve_eq o cs s p kc atol rtol T Y sc fuel, ho.hmaxEff_eq p T, ho.hstartEff_eq cs p T,
   ho.initialH_eq cs p T⟩

/-- for non-negative parameters and `0 < T` the absolute values disappear: `H₀` is `h_start'`
    clamped into `[h_min, h_max']` (as `min (max h_min h_start') h_max'`), unless substituted -/
theorem C07_first_step_clamp (ho : OrderedOps o) (hT : 0 < T) (hmin : 0 ≤ p.hmin) (hmax : 0 ≤ p.hmax)
    (hstart : 0 ≤ p.hstart)
    (hns : ¬ |min (max p.hmin (hstartEff o cs p T)) (hmaxEff o p T)| ≤ cs.ten * p.roundOff) :
    initialH o cs p T = min (max p.hmin (hstartEff o cs p T)) (hmaxEff o p T) := by
  rw [ho.initialH_eq, ho.rawInitialH_eq_clamp cs p T hT hmin hmax hstart, if_neg hns]

/-- what is true about `H₀ ≤ T`: for `0 < T`, `0 ≤ h_max`, either `H₀ ≤ h_max' ≤ T`, or the
    `DELTA_MIN` substitution fired (`H₀ = DELTA_MIN`, which may exceed `T`; the first attempt is then
    cut to `|T − t|` by `C07_h_le_remaining`). -/
theorem C07_first_step_le (ho : OrderedOps o) (hT : 0 < T) (hmax : 0 ≤ p.hmax) :
    (initialH o cs p T ≤ hmaxEff o p T ∧ initialH o cs p T ≤ T) ∨
    (initialH o cs p T = cs.deltaMin ∧ |rawInitialH o cs p T| ≤ cs.ten * p.roundOff) := by
  rw [ho.initialH_eq]; split
  · exact Or.inr ⟨rfl, ‹_›⟩
  · exact Or.inl (ho.rawInitialH_le cs p T hT hmax)

/-- if `0 ≤ 10·round_off` and `0 < DELTA_MIN`, then `H₀ > 0` -/
theorem C07_first_step_pos (ho : OrderedOps o) (hro : 0 ≤ cs.ten * p.roundOff) (hd : 0 < cs.deltaMin) :
    0 < initialH o cs p T := by
  rw [ho.initialH_eq]; split
  · exact hd
  · rename_i h
    have h1 := lt_of_le_of_lt hro (not_le.mp h)
    rwa [abs_of_nonneg (rawInitialH_nonneg o cs p T)] at h1

variable (hm : K)

/-- the `H` of an attempt that starts a new step is `min H |T − t|`, hence `≤ |T − t|`; an attempt
    that retries inside a step uses the controller's `H` unchanged -/
theorem C07_h_le_remaining (ho : OrderedOps o) (r : RState K) (hr : r.status = .running)
    (att : Attempt K) (h : (rosStep o cs s p kc atol rtol T hm r).trace = att :: r.trace) :
    (r.inStep = false → att.h = min r.ctl.h |T - r.ctl.t| ∧ att.h ≤ |T - r.ctl.t|) ∧
    (r.inStep = true → att.h = r.ctl.h) := by
  have h1 := rosStep_att_h o cs s p kc atol rtol T hm r hr att h
  rw [ho.cmin_eq, ho.abs] at h1
  constructor
  · intro hi; simp only [hi, Bool.false_eq_true, if_false] at h1
    exact ⟨h1, h1 ▸ min_le_right _ _⟩
  · intro hi; simpa [hi] using h1

end Solve

section MaxSteps
variable {α : Type} [OfNat α 0] [OfNat α 1] [Add α] [Sub α] [Mul α] [Div α]
variable (o : Ops α) (cs : Consts α) (s : SolverCfg α) (p : RosParams α) (kc : Mat α)
    (atol : Array α) (rtol : α) (T hm : α)

/-- no new step is started once `number_of_steps > max_number_of_steps`: the status becomes
    `ConvergenceExceededMaxSteps`, nothing else changes, no attempt is recorded (any carrier) -/
theorem C07_max_steps (r : RState α) (hi : r.inStep = false)
    (ht : o.le (r.ctl.t - T + p.roundOff) 0 = true) (hn : r.stats.numberOfSteps > p.maxSteps) :
    rosStep o cs s p kc atol rtol T hm r = { r with status := .convergenceExceededMaxSteps } ∧
    (rosStep o cs s p kc atol rtol T hm r).trace = r.trace := by
  rw [rosStep_max_steps o cs s p kc atol rtol T hm r hi ht hn]; exact ⟨rfl, rfl⟩

/-- … and the loop stops there -/
theorem C07_max_steps_loop (fuel : Nat) (r : RState α) (hr : r.status = .running) (hi : r.inStep = false)
    (ht : o.le (r.ctl.t - T + p.roundOff) 0 = true) (hn : r.stats.numberOfSteps > p.maxSteps) :
    rosLoop o cs s p kc atol rtol T hm (fuel + 1) r = { r with status := .convergenceExceededMaxSteps } := by
  rw [rosLoop_succ, if_pos hr, rosStep_max_steps o cs s p kc atol rtol T hm r hi ht hn,
    rosLoop_not_running]
  simp

end MaxSteps

/-! ### the hypotheses are satisfiable: an ordered `Ops ℚ`; the generated defaults are legal -/

example : OrderedOps ratOps := ratOps_ordered

/-- `RosenbrockSolverParameters` with the member defaults of the header and the table `t` -/
def defaultParams (t : Gen.RosTable) : RosParams ℚ where
  stages := t.stages
  a := t.a.toArray
  c := t.c.toArray
  m := t.m.toArray
  e := t.e.toArray
  gamma0 := t.gamma.headD 0
  newF := t.newF.toArray
  order := t.order
  roundOff := Gen.default_round_off
  fmin := Gen.default_factor_min
  fmax := Gen.default_factor_max
  rejDec := Gen.default_rejection_factor_decrease
  safety := Gen.default_safety_factor
  hmin := Gen.default_h_min
  hmax := Gen.default_h_max
  hstart := Gen.default_h_start
  maxSteps := Gen.default_max_number_of_steps

def defaultConsts : Consts ℚ :=
  { deltaMin := Gen.lit_delta_min, errorMin := Gen.lit_error_min, tenth := Gen.lit_tenth, ten := Gen.lit_ten }

theorem defaultParams_legal (t : Gen.RosTable) : LegalParams (defaultParams t) := by
  constructor <;>
    simp only [defaultParams, Gen.default_h_min, Gen.default_factor_min, Gen.default_factor_max,
      Gen.default_rejection_factor_decrease, Gen.default_safety_factor] <;> norm_num

example (t : Gen.RosTable) : (defaultParams t).safety < 1 := by
  simp only [defaultParams, Gen.default_safety_factor]; norm_num

/-- `ratOps` (`pow x _ = x`) satisfies the `pow` hypothesis of `C07_reject_shrinks` -/
example (t : Gen.RosTable) : ∀ x : ℚ, 1 ≤ x → 1 ≤ ratOps.pow x (1 / (defaultParams t).order) :=
  fun _ h => h

example :
    let r := ctlDecide ratOps (defaultParams Gen.ros2) 1000 ⟨0, 1000, true, false⟩ 25
    r.1 = .reject ∧ r.2.t = 0 ∧ r.2.h = 1000 * Gen.default_factor_min ∧ r.2.rejectLast = true ∧
      r.2.rejectMore = true := by
  decide +kernel

/-- without `fmin < 1` a rejection need not shrink `H` (`fmin = fmax = 1` keeps `H`) -/
example : (ctlDecide ratOps { defaultParams Gen.ros2 with fmin := 1, fmax := 1 } 1000 ⟨0, 10, false, false⟩ 25).2.h
    = 10 := by
  decide +kernel

example : initialH ratOps defaultConsts (defaultParams Gen.ros2) 1 = Gen.lit_delta_min := by
  decide +kernel

#print axioms C07_decision
#print axioms C07_accept_iff
#print axioms C07_reject_iff
#print axioms C07_accept_next
#print axioms C07_accept_bounds
#print axioms C07_reject_next
#print axioms C07_reject_le
#print axioms C07_reject_lt_iff
#print axioms C07_reject_more
#print axioms C07_reject_shrinks
#print axioms C07_first_step
#print axioms C07_first_step_clamp
#print axioms C07_first_step_le
#print axioms C07_first_step_pos
#print axioms C07_h_le_remaining
#print axioms C07_max_steps
#print axioms C07_max_steps_loop
#print axioms defaultParams_legal

end Micm
