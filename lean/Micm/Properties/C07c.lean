/-
C07 (third part) — `NormalizedError` on flat storage is the logical `NormalizedError`.

`normFlat` (`Micm/Model/FlatKernels3.lean`) models the two overloads of `NormalizedError` loop for
loop on the flat storage of `Y`, `Ynew`, `errors`:
 * row-major (`L = 0`): `for i < nCells·nVars: … atol[i % nVars]`;
 * vector (`L ≥ 1`): the whole groups linearly, `for i < ⌊nCells/L⌋·L·nVars: … atol[(i / L) % nVars]`,
   then the rows of the partial group, `for y < nVars, x < nCells % L: idx = whole + y·L + x, atol[y]`
   (padding lanes are never read).
`normalizedError` (`Micm/Model/Rosenbrock.lean`, the one C07 / C06 / C08 speak of) folds `errTerm`
over `normOrder L nCells nVars` on the logical rows.

`C07_norm_flat_eq_logical`: they are equal on the logical rows `denseRows nCells nVars L D`
(`= ((List.range nCells).map (flatRow ⟨nCells, nVars, L⟩ D)).toArray`) of the flat arrays — the two
folds visit the same terms in the same order (so the statement holds for any carrier, in particular
bit for bit for `Float`: no reassociation of the sum).

Hypotheses: none.  No size hypothesis on `Y`, `Ynew`, `errors`, `atol`, no `0 < nVars`: both sides
read the same slots (`rd` is total) — slot `DenseShape.addr c v` of the data, entry `v` of `atol`
(`i % nVars = v`, resp. `(i / L) % nVars = v`, for the slot `i` of `(c, v)`).

`C07_norm_visits_slots`: the slots visited, in order, are `visitSlots` — exactly the slots of the
logical elements, as for `ForEach` / `Axpy` (C19, dense part).
-/
import Micm.Lemmas.Lanes3
namespace Micm

section
variable {α : Type} [OfNat α 0] [Add α] [Mul α] [Div α]

example (nCells nVars L : Nat) (D : Array α) :
    denseRows nCells nVars L D = ((List.range nCells).map (flatRow ⟨nCells, nVars, L⟩ D)).toArray := rfl

/-- **The flat norm is the logical norm.**  Both layouts (`L = 0`, every `L ≥ 1`), every cell count
    (also `nCells < L`, `nCells % L ≠ 0`), every number of variables, any carrier. -/
theorem C07_norm_flat_eq_logical (o : Ops α) (cs : Consts α) (L nCells nVars : Nat) (atol : Array α)
    (rtol : α) (Y Yn E : Array α) :
    normFlat o cs L nCells nVars atol rtol Y Yn E
      = normalizedError o cs L nVars atol rtol (denseRows nCells nVars L Y) (denseRows nCells nVars L Yn)
          (denseRows nCells nVars L E) := by
  unfold normFlat normalizedError
  simp only [denseRows_size]
  rw [normSum_eq, normOrder_map_slot]
  by_cases hL : L = 0
  · subst hL
    rw [if_pos rfl, if_pos rfl, normFlatRow_eq, List.foldl_map]
  · rw [if_neg hL, if_neg hL, normFlatVec_eq, List.foldl_append, List.foldl_map, List.foldl_flatMap]
    simp only [List.foldl_map]

/-- the statement with the container's sizes as hypotheses (they are not needed) -/
theorem C07_norm_flat_eq_logical' (o : Ops α) (cs : Consts α) (L nCells nVars : Nat) (atol : Array α)
    (rtol : α) (Y Yn E : Array α) (_hY : Y.size = (DenseShape.mk nCells nVars L).size)
    (_hYn : Yn.size = (DenseShape.mk nCells nVars L).size) (_hE : E.size = (DenseShape.mk nCells nVars L).size)
    (_hat : atol.size = nVars) (_hn : 0 < nVars) :
    normFlat o cs L nCells nVars atol rtol Y Yn E
      = normalizedError o cs L nVars atol rtol (denseRows nCells nVars L Y) (denseRows nCells nVars L Yn)
          (denseRows nCells nVars L E) :=
  C07_norm_flat_eq_logical o cs L nCells nVars atol rtol Y Yn E

/-- the sums themselves (before `sqrt`, `max`): row-major -/
theorem C07_norm_sum_row (o : Ops α) (nCells nVars : Nat) (atol : Array α) (rtol : α) (Y Yn E : Array α) :
    (List.range (nCells * nVars)).foldl (fun acc i =>
        let ymax := cmax o (o.abs (rd Y i)) (o.abs (rd Yn i))
        let eos := rd E i / (rd atol (i % nVars) + rtol * ymax)
        acc + eos * eos) 0
      = (normOrder 0 nCells nVars).foldl (fun acc cv => acc + errTerm o atol rtol
          (denseRows nCells nVars 0 Y) (denseRows nCells nVars 0 Yn) (denseRows nCells nVars 0 E) cv.1 cv.2) 0 :=
  by rw [normSum_eq, normOrder_map_slot, if_pos rfl, List.foldl_map]; rfl

end

/-- **Same slots, same order.**  The slots `NormalizedError` reads, in its visiting order, are
    `visitSlots`: the addresses of the logical elements, whole groups linearly and then the real
    lanes of the partial group — no padding slot is read. -/
theorem C07_norm_visits_slots (L nCells nVars : Nat) :
    (normOrder L nCells nVars).map (fun cv => (DenseShape.mk nCells nVars L).addr cv.1 cv.2)
      = visitSlots ⟨nCells, nVars, L⟩ := by
  have h := congrArg (List.map Prod.fst) (normOrder_map_slot L nCells nVars)
  rw [List.map_map] at h
  rw [show (fun cv : Nat × Nat => (DenseShape.mk nCells nVars L).addr cv.1 cv.2)
    = Prod.fst ∘ fun cv => ((DenseShape.mk nCells nVars L).addr cv.1 cv.2, cv.2) from rfl, h]
  unfold visitSlots
  by_cases hL : L = 0
  · subst hL
    simp only [if_true, List.map_map, Function.comp_def, List.map_id']
  · simp only [hL, if_false, List.map_append, List.map_map, List.map_flatMap, Function.comp_def, List.map_id',
      Nat.mul_assoc]

/-! ### instance: `L = 3`, 4 cells, 2 variables (one full group + a partial group with one real lane) -/
namespace C07cEx

/-- a toy carrier: `Int` with truncating division, `sqrt = id` -/
def exOps : Ops Int where
  lt a b := decide (a < b)
  le a b := decide (a ≤ b)
  eq a b := a == b
  abs a := Int.ofNat a.natAbs
  sqrt a := a
  pow a _ := a
  isNaN _ := false
  isInf _ := false
  isFinite _ := true
  ofNat n := Int.ofNat n

def exCs : Consts Int := ⟨0, 1, 0, 10⟩

/-- state (2 groups x 2 variables x 3 lanes): cell `c` has `y = (c + 1, -2)`, padding `99` -/
def exY : Array Int := #[1, 2, 3, -2, -2, -2,   4, 99, 99, -2, 99, 99]
def exYn : Array Int := #[2, 1, 3, -3, -1, -2,   5, 99, 99, -2, 99, 99]
/-- errors: cell `c` has `e = (10 (c + 1), 40)`, padding `1000` -/
def exE : Array Int := #[10, 20, 30, 40, 40, 40,   40, 1000, 1000, 40, 1000, 1000]
def exAtol : Array Int := #[1, 2]

example : (DenseShape.mk 4 2 3).size = 12 := by decide

example : normOrder 3 4 2 = [(0, 0), (1, 0), (2, 0), (0, 1), (1, 1), (2, 1), (3, 0), (3, 1)] := by decide
example : visitSlots ⟨4, 2, 3⟩ = [0, 1, 2, 3, 4, 5, 6, 9] := by decide
example : denseRows 4 2 3 exY = #[#[1, -2], #[2, -2], #[3, -2], #[4, -2]] := by decide +kernel

/-- both sides of `C07_norm_flat_eq_logical`, evaluated: the padding values `99`, `1000` do not enter -/
example : normFlat exOps exCs 3 4 2 exAtol 1 exY exYn exE = 61 := by decide +kernel
example : normalizedError exOps exCs 3 2 exAtol 1 (denseRows 4 2 3 exY) (denseRows 4 2 3 exYn)
    (denseRows 4 2 3 exE) = 61 := by decide +kernel

def exYr : Array Int := #[1, -2, 2, -2, 3, -2, 4, -2]
def exYnr : Array Int := #[2, -3, 1, -1, 3, -2, 5, -2]
def exEr : Array Int := #[10, 40, 20, 40, 30, 40, 40, 40]
example : denseRows 4 2 0 exYr = denseRows 4 2 3 exY := by decide +kernel
example : normFlat exOps exCs 0 4 2 exAtol 1 exYr exYnr exEr = 61 := by decide +kernel

example (cs : Consts Float) (atol : Array Float) (rtol : Float) (Y Yn E : Array Float) :
    normFlat floatOps cs 3 4 2 atol rtol Y Yn E
      = normalizedError floatOps cs 3 2 atol rtol (denseRows 4 2 3 Y) (denseRows 4 2 3 Yn) (denseRows 4 2 3 E) :=
  C07_norm_flat_eq_logical floatOps cs 3 4 2 atol rtol Y Yn E

end C07cEx

end Micm

#print axioms Micm.C07_norm_flat_eq_logical
#print axioms Micm.C07_norm_flat_eq_logical'
#print axioms Micm.C07_norm_sum_row
#print axioms Micm.C07_norm_visits_slots
