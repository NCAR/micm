/-
  C10 (second part) — a NaN input is never silently accepted by the Rosenbrock solver:
  the missing middle of the chain   NaN input → NaN forcing → K₀ → Yerror → error norm → NaNDetected.

  All statements are about the model definitions `solveCell`, `solveInPlaceCell`,
  `SolverCfg.linSolve`, `stagesGo` (via `attStages`), `attYerr`, `rosStep`, `rosSolve` themselves, for
  an ARBITRARY solver configuration `s : SolverCfg α` (any of the four LU kinds, any substitution
  tables `fw`/`bw` — built by `LinAlg.build` or not —, CSR/CSC, any dense layout `L`), any Rosenbrock
  parameter set with at least one stage, any carrier satisfying the IEEE facts `NaNLaws o`
  (assumed for `Float`, proved for `NaNRat`: `nanRatOps_laws`).

  Claimed: a NaN in slot `i` of the right-hand side of `LinearSolver(InPlace)::Solve` is a NaN in slot `i`
  of the solution, with no hypothesis on the tables or on the matrix values (slot `i` is only ever written
  by row programs whose cursor is `i`, and those compute `(x[i] − Σ…)/d`); `K[0]` is the solve of
  `initial_forcing` and `Yerror = 0 + e₀K₀ + …` is NaN there (`e₀·NaN` is NaN even for `e₀ = 0`); hence an
  iteration — ANY iteration of the loop, not only the first — that starts from a NaN forcing or a NaN
  concentration ends `NaNDetected`.  For the whole solve: a NaN forcing at the initial state, a NaN rate
  constant of a reaction with a state reactant/product, a NaN reactant concentration (through the chain), a
  NaN concentration of ANY state variable (directly: `max(|NaN|, ·)` keeps the NaN in the norm's scale), a
  NaN absolute / relative tolerance all give `NaNDetected`; the `…_not_converged` forms assume only that
  the outer loop test holds at t = 0 and give `StepSizeTooSmall` or `NaNDetected`, never `Converged`.  That
  hypothesis is necessary (`C10_ros_nan_needs_loop_entry`): if the outer test fails at t = 0
  (time_step < round_off, KF-C06-1) the result is `Converged` and the NaN is returned untouched.

  Side conditions of the chain through `Yerror` (all met by a `State` made by the solver: `K` has
  `stages` matrices, every dense matrix is `#cells × nSpecies`):
     0 < p.stages,  0 < sc.k.size,  c < Y.size,  v < s.nSpecies,
     (c, v) is a position of the `Yerror` buffer (and of `initial_forcing` for the corollaries).
  "Loop entered" = `o.le (0 − T + round_off) 0 = true` (not the no-progress case of
  `C06_no_progress_iff`) and the first `H` passes the step-size test.
-/
import Micm.Lemmas.NaNPropSolve
namespace Micm
set_option linter.unusedSectionVars false

section
variable {α : Type} [OfNat α 0] [OfNat α 1] [Add α] [Sub α] [Mul α] [Div α]
variable {o : Ops α}

/-- `LinearSolver::Solve` on one cell: NaN in `b[i]` ⇒ NaN in `x[i]`, for any tables, any `L`, `U` -/
theorem C10_solveCell_nan (hl : NaNLaws o) (fw bw : List SubRow) (L U x : Array α) (i : Nat)
    (h : o.isNaN (rd x i) = true) : o.isNaN (rd (solveCell fw bw L U x) i) = true :=
  solveCell_induct (fun x => o.isNaN (rd x i) = true) (hl.sticky_sub i) (hl.sticky_div i) fw bw L U x h

/-- `LinearSolverInPlace::Solve` on one cell -/
theorem C10_solveInPlaceCell_nan (hl : NaNLaws o) (fw bw : List SubRow) (M x : Array α) (i : Nat)
    (h : o.isNaN (rd x i) = true) : o.isNaN (rd (solveInPlaceCell fw bw M x) i) = true :=
  solveInPlaceCell_induct (fun x => o.isNaN (rd x i) = true) (hl.sticky_sub i) (hl.sticky_div i)
    fw bw M x h

/-- the configured `linear_solver_.Solve` on the whole block (no range hypothesis at all) -/
theorem C10_linSolve_nan (hl : NaNLaws o) (s : SolverCfg α) (J Lo Up x : Mat α) (c v : Nat)
    (h : o.isNaN (rd (x.getD c #[]) v) = true) :
    o.isNaN (rd ((s.linSolve J Lo Up x).getD c #[]) v) = true :=
  linSolve_induct (fun x => o.isNaN (rd x v) = true) (hl.sticky_sub v) (hl.sticky_div v) s J Lo Up x c h

variable (cs : Consts α) (s : SolverCfg α) (p : RosParams α) (kc : Mat α)
    (atol : Array α) (rtol : α) (timeStep hm : α)

/-- the first stage vector of an attempt is the solve of `initial_forcing` (any carrier) -/
theorem C10_K0_eq (r : RState α) (hst : 0 < p.stages) (hk : 0 < r.sc.k.size) :
    (attStages s p kc r).1.getD 0 #[] =
      s.linSolve (attFactor s p r).1 (attFactor s p r).2.1 (attFactor s p r).2.2 r.sc.f0 := by
  unfold attStages
  obtain ⟨n, hn⟩ : ∃ n, p.stages = n + 1 := ⟨p.stages - 1, by omega⟩
  -- later stages never write `K[0]`
  rw [hn, stagesGo_succ, stagesGo_K_lt _ _ _ _ _ _ _ _ _ _ _ _ _ 0 (by omega)]
  have hpre : ∀ (K : Array (Mat α)) (ynew : Mat α) (st : Stats),
      (stagePre s p kc r.Y 0 K ynew st).1 = K := by
    intro K ynew st; unfold stagePre; rw [if_pos rfl]
  rw [hpre]
  have hsz : 0 < (stageCopy p 0 (r.sc.k.setIfInBounds 0 r.sc.f0)).size := by
    rw [stageCopy_size, Array.size_setIfInBounds]; exact hk
  rw [getD_set_eq _ _ _ _ hsz]
  have hrhs : stageRhs p r.ctl.h 0 (stageCopy p 0 (r.sc.k.setIfInBounds 0 r.sc.f0)) = r.sc.f0 := by
    unfold stageRhs
    simp only [List.range_zero, List.foldl_nil]
    rw [stageCopy_getD_ne p 0 _ 0 (by omega), getD_set_eq _ _ _ _ hk]
  rw [hrhs]

/-- NaN in `initial_forcing` at (c, v) ⇒ NaN in `Yerror` at (c, v), whatever the coefficients `e`
    and the other stage vectors -/
theorem C10_yerr_nan (hl : NaNLaws o) (r : RState α) (hst : 0 < p.stages) (hk : 0 < r.sc.k.size)
    (c v : Nat) (hce : c < r.sc.yerr.size) (hve : v < (r.sc.yerr.getD c #[]).size)
    (h : o.isNaN (rd (r.sc.f0.getD c #[]) v) = true) :
    o.isNaN (rd ((attYerr s p kc r).getD c #[]) v) = true := by
  unfold attYerr
  obtain ⟨hs, hg⟩ := fillM_getD_size r.sc.yerr (0 : α) c
  rw [rd_axpy_fold (fun i => rd p.e i) (fun i => (attStages s p kc r).1.getD i #[])
    (List.range p.stages) _ c v (by rw [hs]; exact hce) (by rw [hg]; exact hve)]
  apply hl.foldl_add (fun j => rd p.e j * rd (((attStages s p kc r).1.getD j #[]).getD c #[]) v)
  refine Or.inr ⟨0, List.mem_range.2 hst, hl.mul _ _ (Or.inr ?_)⟩
  rw [C10_K0_eq s p kc r hst hk]
  exact C10_linSolve_nan hl s _ _ _ _ c v h

theorem NaNLaws.attError_nan_f0 (hl : NaNLaws o) (r : RState α) (hst : 0 < p.stages)
    (hk : 0 < r.sc.k.size) (c v : Nat) (hc : c < r.Y.size) (hv : v < s.nSpecies)
    (hce : c < r.sc.yerr.size) (hve : v < (r.sc.yerr.getD c #[]).size)
    (h : o.isNaN (rd (r.sc.f0.getD c #[]) v) = true) :
    o.isNaN (attError o cs s p kc atol rtol r) = true := by
  unfold attError
  exact hl.normalizedError_term cs s.L s.nSpecies atol rtol _ _ _ c v
    ((mem_normOrder s.L r.Y.size s.nSpecies c v).2 ⟨hc, hv⟩)
    (hl.errTerm atol rtol _ _ _ c v (C10_yerr_nan s p kc hl r hst hk c v hce hve h))

/-- an iteration whose attempt starts with a NaN in `initial_forcing` ends `NaNDetected` -/
theorem C10_ros_nan_step_forcing (hl : NaNLaws o) (r : RState α)
    (hrun : (rosPrologue o cs s p kc timeStep r).status = .running)
    (hst : 0 < p.stages) (hk : 0 < r.sc.k.size) (c v : Nat) (hc : c < r.Y.size) (hv : v < s.nSpecies)
    (hce : c < r.sc.yerr.size) (hve : v < (r.sc.yerr.getD c #[]).size)
    (hnan : o.isNaN (rd ((rosPrologue o cs s p kc timeStep r).sc.f0.getD c #[]) v) = true) :
    (rosStep o cs s p kc atol rtol timeStep hm r).status = .nanDetected := by
  refine (C10_ros_nan_error cs s p kc atol rtol timeStep hm o r hrun ?_).1
  obtain ⟨k1, _, _, _, k5⟩ := rosPrologue_frame_sc o cs s p kc timeStep r
  have hY := (rosPrologue_frame o cs s p kc timeStep r).2.1
  exact hl.attError_nan_f0 cs s p kc atol rtol _ hst (by rw [k1]; exact hk) c v (by rw [hY]; exact hc) hv
    (by rw [k5]; exact hce) (by rw [k5]; exact hve) hnan

/-- an iteration that starts a new step at a `Y` whose forcing has a NaN ends `NaNDetected` -/
theorem C10_ros_nan_new_step (hl : NaNLaws o) (r : RState α) (hi : r.inStep = false)
    (hrun : (rosPrologue o cs s p kc timeStep r).status = .running)
    (hst : 0 < p.stages) (hk : 0 < r.sc.k.size) (c v : Nat) (hc : c < r.Y.size) (hv : v < s.nSpecies)
    (hce : c < r.sc.yerr.size) (hve : v < (r.sc.yerr.getD c #[]).size)
    (hnan : o.isNaN (rd ((s.forcing kc r.Y (fillM r.sc.f0 0)).getD c #[]) v) = true) :
    (rosStep o cs s p kc atol rtol timeStep hm r).status = .nanDetected := by
  refine C10_ros_nan_step_forcing cs s p kc atol rtol timeStep hm hl r hrun hst hk c v hc hv hce hve ?_
  rw [rosPrologue_f0_of_new_step cs s p kc timeStep r hi hrun]; exact hnan

/-- an iteration that makes an attempt from a `Y` with a NaN at a real (cell, variable) ends
    `NaNDetected` — no condition on the mechanism, the stages or the scratch -/
theorem C10_ros_nan_step_concentration (hl : NaNLaws o) (r : RState α)
    (hrun : (rosPrologue o cs s p kc timeStep r).status = .running)
    (c v : Nat) (hc : c < r.Y.size) (hv : v < s.nSpecies)
    (hnan : o.isNaN (rd (r.Y.getD c #[]) v) = true) :
    (rosStep o cs s p kc atol rtol timeStep hm r).status = .nanDetected := by
  refine (C10_ros_nan_error cs s p kc atol rtol timeStep hm o r hrun ?_).1
  have hY := (rosPrologue_frame o cs s p kc timeStep r).2.1
  exact hl.attError_nan_y s p kc cs atol rtol _ c v (by rw [hY]; exact hc) hv (by rw [hY]; exact hnan)

variable (Y : Mat α) (sc : Scratch α) (fuel : Nat)

/-- core: the first attempt's error norm is NaN.  Assuming only the outer loop test at `t = 0`, the
    status is exactly `StepSizeTooSmall` (first `H` refused) or `NaNDetected`. -/
theorem C10_ros_nan_first_attempt
    (hloop : o.le (0 - timeStep + p.roundOff) 0 = true)
    (hnan : o.isNaN (attError o cs s p kc atol rtol (firstAttemptState o cs s p kc timeStep Y sc)) = true) :
    (rosSolve o cs s p kc atol rtol timeStep Y sc (fuel + 1)).status =
      if (o.eq (0 + cs.tenth * initialH o cs p timeStep) 0 ||
          o.le (initialH o cs p timeStep) p.roundOff) = true
      then .stepSizeTooSmall else .nanDetected := by
  cases h2 : (o.eq (0 + cs.tenth * initialH o cs p timeStep) 0 || o.le (initialH o cs p timeStep) p.roundOff)
  · rw [if_neg (by simp)]
    exact rosSolve_nan_first o cs s p kc atol rtol timeStep Y sc fuel ⟨hloop, h2⟩ hnan
  · rw [if_pos rfl]
    exact rosSolve_first_tooSmall o cs s p kc atol rtol timeStep Y sc fuel hloop h2

theorem rosSolve_nan_first_ne_converged (hloop : o.le (0 - timeStep + p.roundOff) 0 = true)
    (hnan : o.isNaN (attError o cs s p kc atol rtol (firstAttemptState o cs s p kc timeStep Y sc)) = true) :
    (rosSolve o cs s p kc atol rtol timeStep Y sc (fuel + 1)).status ≠ .converged := by
  rw [C10_ros_nan_first_attempt cs s p kc atol rtol timeStep Y sc fuel hloop hnan]
  split <;> simp

/-- **NaN forcing at the initial state ⇒ `NaNDetected`** (end-to-end: substitution, stage
    combination, norm, loop). -/
theorem C10_ros_nan_input (hl : NaNLaws o)
    (hloop : o.le (0 - timeStep + p.roundOff) 0 = true)
    (hstep : (o.eq (0 + cs.tenth * initialH o cs p timeStep) 0 ||
              o.le (initialH o cs p timeStep) p.roundOff) = false)
    (hst : 0 < p.stages) (hk : 0 < sc.k.size) (c v : Nat) (hc : c < Y.size) (hv : v < s.nSpecies)
    (hce : c < sc.yerr.size) (hve : v < (sc.yerr.getD c #[]).size)
    (hnan : o.isNaN (rd ((s.forcing kc Y (fillM sc.f0 0)).getD c #[]) v) = true) :
    (rosSolve o cs s p kc atol rtol timeStep Y sc (fuel + 1)).status = .nanDetected :=
  rosSolve_nan_first o cs s p kc atol rtol timeStep Y sc fuel ⟨hloop, hstep⟩
    (hl.attError_nan_f0 cs s p kc atol rtol _ hst hk c v hc hv hce hve hnan)

/-- the same assuming only the outer loop test: never `Converged` -/
theorem C10_ros_nan_input_not_converged (hl : NaNLaws o)
    (hloop : o.le (0 - timeStep + p.roundOff) 0 = true)
    (hst : 0 < p.stages) (hk : 0 < sc.k.size) (c v : Nat) (hc : c < Y.size) (hv : v < s.nSpecies)
    (hce : c < sc.yerr.size) (hve : v < (sc.yerr.getD c #[]).size)
    (hnan : o.isNaN (rd ((s.forcing kc Y (fillM sc.f0 0)).getD c #[]) v) = true) :
    (rosSolve o cs s p kc atol rtol timeStep Y sc (fuel + 1)).status ≠ .converged :=
  rosSolve_nan_first_ne_converged cs s p kc atol rtol timeStep Y sc fuel hloop
    (hl.attError_nan_f0 cs s p kc atol rtol _ hst hk c v hc hv hce hve hnan)

section Mechanism
variable {m : NameMap} {procs : List (Process α)} {rxns : List (RRxn α)}

/-- the forcing of the initial state has a NaN at (c, v) when reaction `n` has a NaN rate constant
    in cell `c` or a NaN reactant concentration, and `v` is a reactant or product of it -/
theorem C10_initial_forcing_nan (hl : NaNLaws o)
    (hb : ProcessSet.build procs m = .ok s.tables) (hr : Resolves m procs rxns)
    (c v : Nat) (hcf : c < sc.f0.size) (hvf : v < (sc.f0.getD c #[]).size)
    (n : Nat) (rx : RRxn α) (kn : α) (hrx : rxns[n]? = some rx) (hkn : (kc.getD c #[])[n]? = some kn)
    (hnan : o.isNaN kn = true ∨ ∃ j ∈ rx.1, o.isNaN (rd (Y.getD c #[]) j) = true)
    (hmem : v ∈ rx.1 ∨ ∃ q ∈ rx.2, q.1 = v) :
    o.isNaN (rd ((s.forcing kc Y (fillM sc.f0 0)).getD c #[]) v) = true := by
  obtain ⟨hs, hg⟩ := fillM_getD_size sc.f0 (0 : α) c
  exact C10_forcing_nan_cell hl s hb hr kc Y _ c (by rw [hs]; exact hcf) n rx kn hrx hkn hnan v
    (by rw [hg]; exact hvf) hmem

/-- **NaN rate constant ⇒ `NaNDetected`.**  The solver tables are those built from the mechanism
    `procs`; reaction `n` has a NaN rate constant in cell `c` and a state species `v` among its
    reactants or products. -/
theorem C10_ros_nan_rate_constant (hl : NaNLaws o)
    (hb : ProcessSet.build procs m = .ok s.tables) (hr : Resolves m procs rxns)
    (hloop : o.le (0 - timeStep + p.roundOff) 0 = true)
    (hstep : (o.eq (0 + cs.tenth * initialH o cs p timeStep) 0 ||
              o.le (initialH o cs p timeStep) p.roundOff) = false)
    (hst : 0 < p.stages) (hk : 0 < sc.k.size) (c v : Nat) (hc : c < Y.size) (hv : v < s.nSpecies)
    (hce : c < sc.yerr.size) (hve : v < (sc.yerr.getD c #[]).size)
    (hcf : c < sc.f0.size) (hvf : v < (sc.f0.getD c #[]).size)
    (n : Nat) (rx : RRxn α) (kn : α) (hrx : rxns[n]? = some rx) (hkn : (kc.getD c #[])[n]? = some kn)
    (hnan : o.isNaN kn = true) (hmem : v ∈ rx.1 ∨ ∃ q ∈ rx.2, q.1 = v) :
    (rosSolve o cs s p kc atol rtol timeStep Y sc (fuel + 1)).status = .nanDetected :=
  C10_ros_nan_input cs s p kc atol rtol timeStep Y sc fuel hl hloop hstep hst hk c v hc hv hce hve
    (C10_initial_forcing_nan s kc Y sc hl hb hr c v hcf hvf n rx kn hrx hkn (Or.inl hnan) hmem)

theorem C10_ros_nan_rate_constant_not_converged (hl : NaNLaws o)
    (hb : ProcessSet.build procs m = .ok s.tables) (hr : Resolves m procs rxns)
    (hloop : o.le (0 - timeStep + p.roundOff) 0 = true)
    (hst : 0 < p.stages) (hk : 0 < sc.k.size) (c v : Nat) (hc : c < Y.size) (hv : v < s.nSpecies)
    (hce : c < sc.yerr.size) (hve : v < (sc.yerr.getD c #[]).size)
    (hcf : c < sc.f0.size) (hvf : v < (sc.f0.getD c #[]).size)
    (n : Nat) (rx : RRxn α) (kn : α) (hrx : rxns[n]? = some rx) (hkn : (kc.getD c #[])[n]? = some kn)
    (hnan : o.isNaN kn = true) (hmem : v ∈ rx.1 ∨ ∃ q ∈ rx.2, q.1 = v) :
    (rosSolve o cs s p kc atol rtol timeStep Y sc (fuel + 1)).status ≠ .converged :=
  C10_ros_nan_input_not_converged cs s p kc atol rtol timeStep Y sc fuel hl hloop hst hk c v hc hv hce hve
    (C10_initial_forcing_nan s kc Y sc hl hb hr c v hcf hvf n rx kn hrx hkn (Or.inl hnan) hmem)

/-- **NaN reactant concentration ⇒ `NaNDetected`, through the forcing → LU → `Yerror` chain**: the
    NaN concentration `Y[c][j]` of a reactant `j` of reaction `n` reaches the error norm through the
    `Yerror` entry of every reactant and product `v` of that reaction (this does not use that the
    norm also reads `Y` itself, see `C10_ros_nan_concentration`). -/
theorem C10_ros_nan_reactant (hl : NaNLaws o)
    (hb : ProcessSet.build procs m = .ok s.tables) (hr : Resolves m procs rxns)
    (hloop : o.le (0 - timeStep + p.roundOff) 0 = true)
    (hstep : (o.eq (0 + cs.tenth * initialH o cs p timeStep) 0 ||
              o.le (initialH o cs p timeStep) p.roundOff) = false)
    (hst : 0 < p.stages) (hk : 0 < sc.k.size) (c v : Nat) (hc : c < Y.size) (hv : v < s.nSpecies)
    (hce : c < sc.yerr.size) (hve : v < (sc.yerr.getD c #[]).size)
    (hcf : c < sc.f0.size) (hvf : v < (sc.f0.getD c #[]).size)
    (n : Nat) (rx : RRxn α) (kn : α) (hrx : rxns[n]? = some rx) (hkn : (kc.getD c #[])[n]? = some kn)
    (j : Nat) (hj : j ∈ rx.1) (hnan : o.isNaN (rd (Y.getD c #[]) j) = true)
    (hmem : v ∈ rx.1 ∨ ∃ q ∈ rx.2, q.1 = v) :
    (rosSolve o cs s p kc atol rtol timeStep Y sc (fuel + 1)).status = .nanDetected ∧
    o.isNaN (rd ((attYerr s p kc (firstAttemptState o cs s p kc timeStep Y sc)).getD c #[]) v) = true := by
  have hf := C10_initial_forcing_nan s kc Y sc hl hb hr c v hcf hvf n rx kn hrx hkn
    (Or.inr ⟨j, hj, hnan⟩) hmem
  exact ⟨C10_ros_nan_input cs s p kc atol rtol timeStep Y sc fuel hl hloop hstep hst hk c v hc hv hce hve hf,
    C10_yerr_nan s p kc hl _ hst hk c v hce hve hf⟩

end Mechanism

/-- **NaN concentration of any state variable ⇒ `NaNDetected`** — whether or not any reaction reads
    it, for any mechanism, any stage count, any scratch: the norm's scale
    `atol + rtol·max(|Y|, |Ynew|)` is NaN because `std::max(NaN, ·)` returns its first argument. -/
theorem C10_ros_nan_concentration (hl : NaNLaws o)
    (hloop : o.le (0 - timeStep + p.roundOff) 0 = true)
    (hstep : (o.eq (0 + cs.tenth * initialH o cs p timeStep) 0 ||
              o.le (initialH o cs p timeStep) p.roundOff) = false)
    (c v : Nat) (hc : c < Y.size) (hv : v < s.nSpecies)
    (hnan : o.isNaN (rd (Y.getD c #[]) v) = true) :
    (rosSolve o cs s p kc atol rtol timeStep Y sc (fuel + 1)).status = .nanDetected :=
  rosSolve_nan_first o cs s p kc atol rtol timeStep Y sc fuel ⟨hloop, hstep⟩
    (hl.attError_nan_y s p kc cs atol rtol _ c v hc hv hnan)

theorem C10_ros_nan_concentration_not_converged (hl : NaNLaws o)
    (hloop : o.le (0 - timeStep + p.roundOff) 0 = true)
    (c v : Nat) (hc : c < Y.size) (hv : v < s.nSpecies)
    (hnan : o.isNaN (rd (Y.getD c #[]) v) = true) :
    (rosSolve o cs s p kc atol rtol timeStep Y sc (fuel + 1)).status ≠ .converged :=
  rosSolve_nan_first_ne_converged cs s p kc atol rtol timeStep Y sc fuel hloop
    (hl.attError_nan_y s p kc cs atol rtol _ c v hc hv hnan)

/-- a NaN absolute tolerance of a state variable, or a NaN relative tolerance ⇒ `NaNDetected`
    (at least one cell) -/
theorem C10_ros_nan_tolerance (hl : NaNLaws o)
    (hloop : o.le (0 - timeStep + p.roundOff) 0 = true)
    (hstep : (o.eq (0 + cs.tenth * initialH o cs p timeStep) 0 ||
              o.le (initialH o cs p timeStep) p.roundOff) = false)
    (v : Nat) (hc : 0 < Y.size) (hv : v < s.nSpecies)
    (hnan : o.isNaN (rd atol v) = true ∨ o.isNaN rtol = true) :
    (rosSolve o cs s p kc atol rtol timeStep Y sc (fuel + 1)).status = .nanDetected := by
  refine rosSolve_nan_first o cs s p kc atol rtol timeStep Y sc fuel ⟨hloop, hstep⟩ ?_
  rcases hnan with h | h
  · exact hl.attError_nan_atol s p kc cs atol rtol _ v hc hv h
  · exact hl.attError_nan_rtol s p kc cs atol rtol _ hc (by omega) h

/-- **the loop-entry hypothesis is necessary** (interplay with KF-C06-1): when the outer test fails
    at `t = 0` (`time_step < round_off`; also when `time_step` itself is NaN, every comparison being
    false) `rosSolve` answers `Converged` and returns `Y` untouched, NaN entries included. -/
theorem C10_ros_nan_needs_loop_entry (hno : o.le (0 - timeStep + p.roundOff) 0 = false) :
    (rosSolve o cs s p kc atol rtol timeStep Y sc (fuel + 1)).status = .converged ∧
    (rosSolve o cs s p kc atol rtol timeStep Y sc (fuel + 1)).Y = Y := by
  rw [rosSolve_eq]
  simp only []
  rw [rosLoop_no_progress o cs s p kc atol rtol timeStep (hmaxEff o p timeStep) fuel _ rfl rfl hno]
  exact ⟨rfl, rfl⟩

end

namespace C10bEx

/-- the configuration `SolverBuilder::Build` makes for the mechanism `A → B` of `C10.lean`, for the LU
    variant `kind`, dense layout / sparse vector length `L`, CSR (`csc = false`) or CSC -/
def cfg (kind : LUKind) (L : Nat) (csc : Bool) : SolverCfg NaNRat :=
  let jac := Pattern.mk' 2 csc L (buildJacobianSet 2 c10tables.nonZeroJacobianElements)
  let la := LinAlg.build kind jac
  { nSpecies := 2, L, tables := c10tables,
    flatIds := (match c10tables.jacobianFlatIds la.A with | .ok f => f | .error _ => []),
    la, diag := la.A.diagRanks }

def q (a b : Nat) : NaNRat := NaNRat.ofRat ((a : Rat) / (b : Rat))

/-- a two-stage table; note `e₀ = 0`: the NaN of `K₀` still reaches `Yerror` (`0 · NaN` is NaN) -/
def params : RosParams NaNRat :=
  { stages := 2, a := #[1], c := #[NaNRat.ofRat (-2)], m := #[q 3 2, q 1 2], e := #[0, q 1 2],
    gamma0 := q 17 10, newF := #[true, true], order := 2,
    roundOff := q 1 1000000000000000, fmin := q 1 5, fmax := 6, rejDec := q 1 10, safety := q 9 10,
    hmin := 0, hmax := 0, hstart := 0, maxSteps := 1000 }

def consts : Consts NaNRat :=
  { deltaMin := q 1 1000000, errorMin := q 1 10000000000, tenth := q 1 10, ten := 10 }

def dm : Mat NaNRat := #[#[0, 0], #[0, 0]]
def scratch : Scratch NaNRat :=
  { jac := #[#[0, 0, 0], #[0, 0, 0]], lower := #[#[0, 0, 0], #[0, 0, 0]], upper := #[#[0, 0, 0], #[0, 0, 0]],
    ynew := dm, f0 := dm, k := #[dm, dm], yerr := dm }

def kNaN : Mat NaNRat := #[#[2], #[NaNRat.nan]]
def kOk : Mat NaNRat := #[#[2], #[3]]
def yOk : Mat NaNRat := #[#[1, 1], #[1, 1]]
/-- `B` is a product only: no reaction reads the NaN -/
def yNaN : Mat NaNRat := #[#[1, NaNRat.nan], #[1, 1]]
def atol : Array NaNRat := #[q 1 1000, q 1 1000]

theorem loop : nanRatOps.le (0 - (1 : NaNRat) + params.roundOff) 0 = true := by decide +kernel
theorem step : (nanRatOps.eq (0 + consts.tenth * initialH nanRatOps consts params 1) 0 ||
    nanRatOps.le (initialH nanRatOps consts params 1) params.roundOff) = false := by decide +kernel

end C10bEx

open C10bEx in
/-- seen through `A`, variable 0, a reactant -/
example (kind : LUKind) (L : Nat) (csc : Bool) (fuel : Nat) :
    (rosSolve nanRatOps consts (cfg kind L csc) params kNaN atol (q 1 1000) 1 yOk scratch (fuel + 1)).status
      = .nanDetected :=
  C10_ros_nan_rate_constant consts (cfg kind L csc) params kNaN atol (q 1 1000) 1 yOk scratch fuel
    nanRatOps_laws (m := c10map) (procs := c10procs) (rxns := [([0], [(1, 1)])]) c10_build c10_resolves
    loop step (by decide) (by decide) 1 0 (by decide) (show 0 < 2 by decide) (by decide) (by decide) (by decide)
    (by decide) 0 ([0], [(1, 1)]) NaNRat.nan rfl rfl rfl (Or.inl List.mem_cons_self)

open C10bEx in
/-- seen through `B`, variable 1, a product only -/
example (kind : LUKind) (L : Nat) (csc : Bool) (fuel : Nat) :
    (rosSolve nanRatOps consts (cfg kind L csc) params kNaN atol (q 1 1000) 1 yOk scratch (fuel + 1)).status
      = .nanDetected :=
  C10_ros_nan_rate_constant consts (cfg kind L csc) params kNaN atol (q 1 1000) 1 yOk scratch fuel
    nanRatOps_laws (m := c10map) (procs := c10procs) (rxns := [([0], [(1, 1)])]) c10_build c10_resolves
    loop step (by decide) (by decide) 1 1 (by decide) (show 1 < 2 by decide) (by decide) (by decide) (by decide)
    (by decide) 0 ([0], [(1, 1)]) NaNRat.nan rfl rfl rfl (Or.inr ⟨(1, 1), List.mem_cons_self, rfl⟩)

open C10bEx in
example (kind : LUKind) (L : Nat) (csc : Bool) (fuel : Nat) :
    (rosSolve nanRatOps consts (cfg kind L csc) params kOk atol (q 1 1000) 1 yNaN scratch (fuel + 1)).status
      = .nanDetected :=
  C10_ros_nan_concentration consts (cfg kind L csc) params kOk atol (q 1 1000) 1 yNaN scratch fuel
    nanRatOps_laws loop step 0 1 (by decide) (show 1 < 2 by decide) rfl

open C10bEx in
example (kind : LUKind) (L : Nat) (csc : Bool) (fuel : Nat) :
    (rosSolve nanRatOps consts (cfg kind L csc) params kOk atol (q 1 1000) 1 #[#[NaNRat.nan, 1], #[1, 1]]
      scratch (fuel + 1)).status = .nanDetected :=
  (C10_ros_nan_reactant consts (cfg kind L csc) params kOk atol (q 1 1000) 1 #[#[NaNRat.nan, 1], #[1, 1]]
    scratch fuel nanRatOps_laws (m := c10map) (procs := c10procs) (rxns := [([0], [(1, 1)])]) c10_build
    c10_resolves loop step (by decide) (by decide) 0 1 (by decide) (show 1 < 2 by decide) (by decide)
    (by decide) (by decide) (by decide) 0 ([0], [(1, 1)]) 2 rfl rfl 0 List.mem_cons_self rfl
    (Or.inr ⟨(1, 1), List.mem_cons_self, rfl⟩)).1

open C10bEx in
example (kind : LUKind) (L : Nat) (csc : Bool) (fuel : Nat) :
    (rosSolve nanRatOps consts (cfg kind L csc) params kOk #[q 1 1000, NaNRat.nan] (q 1 1000) 1 yOk
      scratch (fuel + 1)).status = .nanDetected :=
  C10_ros_nan_tolerance consts (cfg kind L csc) params kOk #[q 1 1000, NaNRat.nan] (q 1 1000) 1 yOk
    scratch fuel nanRatOps_laws loop step 1 (by decide) (show 1 < 2 by decide) (Or.inl rfl)

open C10bEx in
/-- by evaluating the model, independently of the theorems; the last conjunct: the same run without the
    NaN does not stop at once -/
example :
    (rosSolve nanRatOps consts (cfg .doolittle 0 false) params kNaN atol (q 1 1000) 1 yOk scratch 1).status
      = .nanDetected ∧
    (rosSolve nanRatOps consts (cfg .mozart 0 true) params kNaN atol (q 1 1000) 1 yOk scratch 1).status
      = .nanDetected ∧
    (rosSolve nanRatOps consts (cfg .doolittleInPlace 2 false) params kNaN atol (q 1 1000) 1 yOk scratch 1).status
      = .nanDetected ∧
    (rosSolve nanRatOps consts (cfg .mozartInPlace 0 false) params kNaN atol (q 1 1000) 1 yOk scratch 1).status
      = .nanDetected ∧
    (rosSolve nanRatOps consts (cfg .doolittle 0 false) params kOk atol (q 1 1000) 1 yOk scratch 1).status
      = .outOfFuel := by
  decide +kernel

open C10bEx in
/-- `time_step = 10⁻¹⁶ < round_off = 10⁻¹⁵` -/
example :
    (rosSolve nanRatOps consts (cfg .doolittle 0 false) params kOk atol (q 1 1000) (q 1 10000000000000000)
      yNaN scratch 1).status = .converged :=
  (C10_ros_nan_needs_loop_entry consts (cfg .doolittle 0 false) params kOk atol (q 1 1000)
    (q 1 10000000000000000) yNaN scratch 0 (by decide +kernel)).1

#print axioms C10_solveCell_nan
#print axioms C10_solveInPlaceCell_nan
#print axioms C10_linSolve_nan
#print axioms C10_K0_eq
#print axioms C10_yerr_nan
#print axioms C10_ros_nan_step_forcing
#print axioms C10_ros_nan_new_step
#print axioms C10_ros_nan_step_concentration
#print axioms C10_ros_nan_first_attempt
#print axioms C10_ros_nan_input
#print axioms C10_ros_nan_input_not_converged
#print axioms C10_initial_forcing_nan
#print axioms C10_ros_nan_rate_constant
#print axioms C10_ros_nan_rate_constant_not_converged
#print axioms C10_ros_nan_reactant
#print axioms C10_ros_nan_concentration
#print axioms C10_ros_nan_concentration_not_converged
#print axioms C10_ros_nan_tolerance
#print axioms C10_ros_nan_needs_loop_entry

end Micm
