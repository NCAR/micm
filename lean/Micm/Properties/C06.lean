/-
C06 — `Solve` returns a truthful outcome / bookkeeping (Rosenbrock part).

Invariants of `rosStep`, lifted over `rosLoop` by induction on fuel, stated for `rosSolve`.
Dataflow theorems hold for an arbitrary carrier `α`; the two time theorems that need the order are
stated for an ordered field under `OrderedOps`.
-/
import Micm.Lemmas.RosLoop

namespace Micm
set_option linter.unusedSectionVars false

section Any
variable {α : Type} [OfNat α 0] [OfNat α 1] [Add α] [Sub α] [Mul α] [Div α]
variable (o : Ops α) (cs : Consts α) (s : SolverCfg α) (p : RosParams α) (kc : Mat α)
    (atol : Array α) (rtol : α) (T hm : α) (Y : Mat α) (sc : Scratch α) (fuel : Nat)

/-- one iteration preserves "the counters agree with the ghost trace" … -/
theorem C06_counters_step (r : RState α) (h : CountInv p r) :
    CountInv p (rosStep o cs s p kc atol rtol T hm r) :=
  rosStep_inv o cs s p kc atol rtol T hm _ r (CountInv_prologue o cs s p kc T r)
    (fun r' _ _ => CountInv_attempt o cs s p kc atol rtol hm r') h

/-- … hence in every result of `rosSolve`: `decompositions`, `number_of_steps` equal the number of
    attempts, `solves = stages · attempts`, `accepted` = number of accepted attempts, and
    `rejected ≤ attempts − accepted` (rejections before the first acceptance are not counted) -/
theorem C06_counters :
    (rosSolve o cs s p kc atol rtol T Y sc fuel).stats.decompositions =
      (rosSolve o cs s p kc atol rtol T Y sc fuel).trace.length ∧
    (rosSolve o cs s p kc atol rtol T Y sc fuel).stats.numberOfSteps =
      (rosSolve o cs s p kc atol rtol T Y sc fuel).trace.length ∧
    (rosSolve o cs s p kc atol rtol T Y sc fuel).stats.solves =
      p.stages * (rosSolve o cs s p kc atol rtol T Y sc fuel).trace.length ∧
    (rosSolve o cs s p kc atol rtol T Y sc fuel).stats.accepted =
      ((rosSolve o cs s p kc atol rtol T Y sc fuel).trace.filter (·.accepted)).length ∧
    (rosSolve o cs s p kc atol rtol T Y sc fuel).stats.rejected ≤
      (rosSolve o cs s p kc atol rtol T Y sc fuel).trace.length -
        (rosSolve o cs s p kc atol rtol T Y sc fuel).stats.accepted := by
  have h := CountInv_loop o cs s p kc atol rtol T (hmaxEff o p T) fuel
    (rosInit (initialH o cs p T) Y sc) ⟨rfl, rfl, rfl, rfl, Nat.zero_le _⟩
  rw [rosSolve_eq]
  simpa [CountInv, List.filter_reverse] using h

/-- `final_time` is the left-to-right sum (starting from `0`) of the `H` of the accepted attempts -/
theorem C06_time_is_sum_of_accepted :
    (rosSolve o cs s p kc atol rtol T Y sc fuel).finalTime =
      ((rosSolve o cs s p kc atol rtol T Y sc fuel).trace.filter (·.accepted)).foldl
        (fun t a => t + a.h) 0 := by
  have h := time_loop o cs s p kc atol rtol T (hmaxEff o p T) 0 fuel
    (rosInit (initialH o cs p T) Y sc) rfl
  rw [accTime_eq_foldl] at h
  rw [rosSolve_eq]; exact h

/-- one iteration changes `Y` only if it records an accepted attempt (or leaves through the
    nan/inf exits, where the source swaps `Y` and `Ynew` before breaking) -/
theorem C06_state_changes_only_on_accept (r : RState α) :
    (rosStep o cs s p kc atol rtol T hm r).Y = r.Y ∨
    (rosStep o cs s p kc atol rtol T hm r).status = .nanDetected ∨
    (rosStep o cs s p kc atol rtol T hm r).status = .infDetected ∨
    ∃ att, (rosStep o cs s p kc atol rtol T hm r).trace = att :: r.trace ∧ att.accepted = true :=
  rosStep_Y o cs s p kc atol rtol T hm r

/-- in particular a rejected attempt leaves `Y` unchanged -/
theorem C06_rejected_keeps_state (r : RState α) (att : Attempt α)
    (h2 : (rosStep o cs s p kc atol rtol T hm r).status = .running)
    (ht : (rosStep o cs s p kc atol rtol T hm r).trace = att :: r.trace) (ha : att.accepted = false) :
    (rosStep o cs s p kc atol rtol T hm r).Y = r.Y := by
  rcases rosStep_Y o cs s p kc atol rtol T hm r with h | h | h | ⟨att', ht', ha'⟩
  · exact h
  · rw [h] at h2; cases h2
  · rw [h] at h2; cases h2
  · rw [ht] at ht'; injection ht' with h1 _; subst h1; rw [ha] at ha'; cases ha'

/-- … and a whole solve without an accepted attempt returns the input state (except nan/inf exits) -/
theorem C06_state_unchanged_without_accept
    (h1 : (rosSolve o cs s p kc atol rtol T Y sc fuel).status ≠ .nanDetected)
    (h2 : (rosSolve o cs s p kc atol rtol T Y sc fuel).status ≠ .infDetected)
    (h3 : ∀ a ∈ (rosSolve o cs s p kc atol rtol T Y sc fuel).trace, a.accepted = false) :
    (rosSolve o cs s p kc atol rtol T Y sc fuel).Y = Y := by
  have h := NoAccInv_loop o cs s p kc atol rtol T (hmaxEff o p T) Y fuel
    (rosInit (initialH o cs p T) Y sc) (fun _ _ _ => rfl)
  rw [rosSolve_eq] at h1 h2 h3 ⊢
  exact h h1 h2 (fun a ha => h3 a (by simpa using ha))

/-- `Converged` is only ever produced by the outer loop test failing (any carrier) -/
theorem C06_converged_means_test_failed
    (h : (rosSolve o cs s p kc atol rtol T Y sc fuel).status = .converged) :
    o.le ((rosSolve o cs s p kc atol rtol T Y sc fuel).finalTime - T + p.roundOff) 0 = false := by
  have hc := ConvInv_loop o cs s p kc atol rtol T (hmaxEff o p T) fuel
    (rosInit (initialH o cs p T) Y sc) (fun h => by cases h)
  rw [rosSolve_eq] at h ⊢
  exact hc h

/-- `outOfFuel` (model only) arises only when each of the `fuel` iterations recorded an attempt -/
theorem C06_outOfFuel_only_if
    (h : (rosSolve o cs s p kc atol rtol T Y sc fuel).status = .outOfFuel) :
    (rosSolve o cs s p kc atol rtol T Y sc fuel).trace.length = fuel := by
  rw [rosSolve_eq] at h ⊢
  have := rosLoop_outOfFuel o cs s p kc atol rtol T (hmaxEff o p T) fuel
    (rosInit (initialH o cs p T) Y sc) (by simp [rosInit]) h
  simpa [rosInit] using this

end Any

section Ordered
variable {K : Type} [Field K] [LinearOrder K] [IsStrictOrderedRing K]
variable {o : Ops K} (cs : Consts K) (s : SolverCfg K) (p : RosParams K) (kc : Mat K)
    (atol : Array K) (rtol : K) (T : K) (Y : Mat K) (sc : Scratch K) (fuel : Nat)

/-- `Converged ⇒ time_step − round_off < final_time` -/
theorem C06_converged_means_done (ho : OrderedOps o)
    (h : (rosSolve o cs s p kc atol rtol T Y sc fuel).status = .converged) :
    ¬ ((rosSolve o cs s p kc atol rtol T Y sc fuel).finalTime - T + p.roundOff ≤ 0) ∧
    T - p.roundOff < (rosSolve o cs s p kc atol rtol T Y sc fuel).finalTime := by
  have h1 := C06_converged_means_test_failed o cs s p kc atol rtol T Y sc fuel h
  rw [ho.le] at h1
  have h2 : ¬ ((rosSolve o cs s p kc atol rtol T Y sc fuel).finalTime - T + p.roundOff ≤ 0) :=
    of_decide_eq_false h1
  have h3 := not_le.mp h2
  rw [sub_add_eq_add_sub, sub_pos] at h3
  exact ⟨h2, sub_lt_iff_lt_add.mpr h3⟩

/-- **witness of the known defect**: a time step below round-off makes the very first loop test
    fail; the solver reports `Converged` with `final_time = 0`, no attempt, and the state untouched -/
theorem C06_no_progress (ho : OrderedOps o) (hT : T < p.roundOff) :
    (rosSolve o cs s p kc atol rtol T Y sc (fuel + 1)).status = .converged ∧
    (rosSolve o cs s p kc atol rtol T Y sc (fuel + 1)).finalTime = 0 ∧
    (rosSolve o cs s p kc atol rtol T Y sc (fuel + 1)).trace = [] ∧
    (rosSolve o cs s p kc atol rtol T Y sc (fuel + 1)).Y = Y ∧
    (rosSolve o cs s p kc atol rtol T Y sc (fuel + 1)).stats = {} := by
  have ht : o.le ((rosInit (initialH o cs p T) Y sc).ctl.t - T + p.roundOff) 0 = false := by
    rw [ho.le]
    refine decide_eq_false (not_le.mpr ?_)
    show 0 < 0 - T + p.roundOff
    rw [zero_sub, neg_add_eq_sub]; exact sub_pos.mpr hT
  rw [rosSolve_eq, rosLoop_no_progress o cs s p kc atol rtol T (hmaxEff o p T) fuel _ rfl rfl ht]
  simp [rosInit]

/-- characterisation: `Converged` with `final_time = 0` ⇔ `time_step < round_off` (given at least
    one unit of fuel).  For `0 < time_step < round_off` this is a converged verdict without progress. -/
theorem C06_no_progress_iff (ho : OrderedOps o) :
    ((rosSolve o cs s p kc atol rtol T Y sc (fuel + 1)).status = .converged ∧
     (rosSolve o cs s p kc atol rtol T Y sc (fuel + 1)).finalTime = 0) ↔ T < p.roundOff := by
  constructor
  · rintro ⟨h1, h2⟩
    have := (C06_converged_means_done cs s p kc atol rtol T Y sc (fuel + 1) ho h1).2
    rw [h2] at this; exact sub_neg.mp this
  · intro h
    obtain ⟨h1, h2, _⟩ := C06_no_progress cs s p kc atol rtol T Y sc fuel ho h
    exact ⟨h1, h2⟩

/-- the same with "zero attempts" in place of `final_time = 0` -/
theorem C06_no_attempts_iff (ho : OrderedOps o) :
    ((rosSolve o cs s p kc atol rtol T Y sc (fuel + 1)).status = .converged ∧
     (rosSolve o cs s p kc atol rtol T Y sc (fuel + 1)).trace = []) ↔ T < p.roundOff := by
  constructor
  · rintro ⟨h1, h2⟩
    have h3 := C06_time_is_sum_of_accepted o cs s p kc atol rtol T Y sc (fuel + 1)
    rw [h2] at h3
    exact (C06_no_progress_iff cs s p kc atol rtol T Y sc fuel ho).mp ⟨h1, h3⟩
  · intro h
    obtain ⟨h1, _, h3, _⟩ := C06_no_progress cs s p kc atol rtol T Y sc fuel ho h
    exact ⟨h1, h3⟩

end Ordered

/-! ### concrete instances (`y' = -y` over `ℚ`, see `Micm.Ex`) -/

/-- the defect on a concrete input: `0 < T = 10⁻¹⁶ < round_off = 10⁻¹⁵` ⇒ `Converged`, `final_time = 0` -/
example : (Ex.run .doolittle (1/10000000000000000) 7).status = .converged ∧
    (Ex.run .doolittle (1/10000000000000000) 7).finalTime = 0 ∧
    (Ex.run .doolittle (1/10000000000000000) 7).trace.length = 0 := by
  decide +kernel

/-- four rejections then an acceptance, fuel exhausted: `outOfFuel` with exactly `fuel` attempts;
    `rejected = 0 < 4` shows that the inequality of `C06_counters` is strict in general -/
example : (Ex.run .mozart 1000 5).status = .outOfFuel ∧
    (Ex.run .mozart 1000 5).trace.length = 5 ∧
    (Ex.run .mozart 1000 5).stats = ⟨1, 1, 5, 1, 0, 5, 5⟩ ∧
    (Ex.run .mozart 1000 5).finalTime = 2/5 ∧
    (Ex.run .mozart 1000 5).trace.map (fun a => (a.h, a.accepted)) =
      [(1000, false), (200, false), (40, false), (4, false), (2/5, true)] := by
  decide +kernel

example : (Ex.run .doolittleInPlace (2/5) 5).status = .converged ∧
    (Ex.run .doolittleInPlace (2/5) 5).finalTime = 2/5 ∧
    (Ex.run .doolittleInPlace (2/5) 5).Y = #[#[5/6]] := by
  decide +kernel

#print axioms C06_counters_step
#print axioms C06_counters
#print axioms C06_time_is_sum_of_accepted
#print axioms C06_state_changes_only_on_accept
#print axioms C06_rejected_keeps_state
#print axioms C06_state_unchanged_without_accept
#print axioms C06_converged_means_test_failed
#print axioms C06_outOfFuel_only_if
#print axioms C06_converged_means_done
#print axioms C06_no_progress
#print axioms C06_no_progress_iff
#print axioms C06_no_attempts_iff

end Micm
