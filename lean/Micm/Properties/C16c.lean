/-
C16 (the premise, extracted) — `C16_schedule_independence` needs the operations the threads perform to READ the shared
solver and write only their own State.  `Gen/Effects.lean` is regenerated on every run by `tools/effects.py` from the
typed clang AST of /repo's headers: for each instantiated solver configuration (Rosenbrock / backward Euler,
standard / vector layout, separate / in-place / Mozart LU) and each entry point of `micm::Solver` it lists every
store whose target is rooted in the shared solver object (its members and the members of its sub-objects, reached
through `this` or through reference / pointer parameters, `const` or not -- so `mutable` members and `const_cast` are
seen --, through virtual dispatch to every override) or in static / global storage.

The theorems below say that, for the source as it is now, the three entry points the property names write nothing
shared, in every configuration; the steps of the interleaving model are therefore of the read-only kind
(`fun s l op => (step s l op, s)`), for which `C16_readonly_steps_embed` and `C16_schedule_independence` give:
every thread obtains, under every schedule, the results of its own calls executed serially.
A change that makes an entry point store into the solver (a `mutable` cache, a `static` scratch buffer, a member
used to restore a rejected step ...) changes the generated table and these theorems stop holding.

The three-argument `Solve` does write the solver (`solver_parameters_ = parameters`): its row is not empty, which is
known finding KF-C16-1 and the reason `C16_three_arg_solve_schedule_dependent` exists.
-/
import Micm.Gen.Effects
import Micm.Properties.C16b

namespace Micm
open Gen

def c16Named : EntryPoint → Bool
  | .getState | .calculateRateConstants | .solve2 => true
  | .solve3 => false

/-- **no store into shared storage** from `GetState`, `CalculateRateConstants`, `Solve(time_step, state)` -/
theorem C16_entry_points_write_nothing_shared :
    sharedWrites.all (fun e => !c16Named e.2.1 || e.2.2.isEmpty) = true := by
  decide +kernel

/-- the table covers both integrators, both layouts and the LU variants: 7 configurations × 3 entry points -/
theorem C16_effects_table_complete :
    (sharedWrites.filter fun e => c16Named e.2.1).length = 21 ∧
    (sharedWrites.map (·.1)).eraseDups.length = 7 := by
  decide +kernel

/-! The reading of the table is made explicit as a hypothesis: an operation of the interleaving model stands for an entry
point of a solver configuration, and *if that entry point's row is empty, the operation leaves the shared value as it
was* (`RespectsTable` — this is what the effect extraction asserts about the C++; it is the trusted step).  Under that
reading the theorems above give: a system whose operations are all calls of the three named entry points, on any
analysed configuration, is schedule independent. -/

/-- the row of the table for a configuration and an entry point (`none` if the configuration was not analysed) -/
def effectsRow (cfg : String) (e : EntryPoint) : Option (List String) :=
  (sharedWrites.find? fun r => r.1 == cfg && r.2.1 == e).map (·.2.2)

structure LabelledStep (S σ ρ ω : Type) where
  entry : ω → EntryPoint
  step : S → σ → ω → (σ × ρ) × S

def RespectsTable {S σ ρ ω : Type} (cfg : String) (ls : LabelledStep S σ ρ ω) : Prop :=
  ∀ s l op, effectsRow cfg (ls.entry op) = some [] → (ls.step s l op).2 = s

/-- every named entry point of every analysed configuration has an empty row -/
theorem C16_named_rows_empty :
    (sharedWrites.map (·.1)).eraseDups.all (fun cfg =>
      [EntryPoint.getState, .calculateRateConstants, .solve2].all fun e => effectsRow cfg e == some []) = true := by
  decide +kernel

/-- **schedule independence of the named entry points, from the extracted table**: if the operations respect the table,
    all of them are calls of `GetState` / `CalculateRateConstants` / `Solve(time_step, state)` and the configuration's rows
    for these are empty (which `C16_named_rows_empty` establishes for all seven analysed configurations), then running
    any schedule leaves the shared solver value untouched and gives every thread what the read-only model gives it -- and
    that, by `C16_schedule_independence`, is its serial result. -/
theorem C16_named_ops_schedule_independent {S σ ρ ω : Type} (cfg : String) (ls : LabelledStep S σ ρ ω)
    (hrows : ∀ e, c16Named e = true → effectsRow cfg e = some [])
    (hresp : RespectsTable cfg ls) (hnamed : ∀ op, c16Named (ls.entry op) = true)
    (s : S) (sched : List Nat) (ts : Nat → TState σ ρ ω) :
    runSchedW ls.step s sched ts = (s, runSched (fun s l op => (ls.step s l op).1) s sched ts) := by
  have hstep : ls.step = fun s l op => ((ls.step s l op).1, s) := by
    funext s l op
    have h2 : (ls.step s l op).2 = s := hresp s l op (hrows _ (hnamed op))
    exact Prod.ext rfl h2
  rw [hstep]
  exact C16_readonly_steps_embed (fun s l op => (ls.step s l op).1) s sched ts

#print axioms C16_named_rows_empty
#print axioms C16_named_ops_schedule_independent
#print axioms C16_entry_points_write_nothing_shared
#print axioms C16_effects_table_complete
end Micm
