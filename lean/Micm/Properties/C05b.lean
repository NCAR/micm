/-
C05 (backward-Euler part) — "every backward-Euler iteration is a Newton iteration on
`y − y_n − H f(y) = 0` with the matrix `I/H − ∂f/∂y`, followed only by clipping".

Subject: `beStep` / `beLoop` / `beSolve` of `Micm/Model/BackwardEuler.lean` (one `beStep` = one Newton
iteration of `BackwardEuler::Solve`).  Vocabulary (`Micm/Lemmas/BEStep.lean`, `Lemmas/BackwardEuler.lean`):
* `beHead o T r`       the state after the `while (t < time_step)` test (only `status`/`done` change);
* `beResidual s kc r`  what `forcing_` holds after `Solve`: the Newton update `δ`;
* `beNewY o s kc r`    the new `Yn1` (`max(Yn1 + δ, 0)` entry-wise);
* `beInit`, `beInitialH`  the state in which `beSolve` enters the loop;
* `negJac m procs k y i j` the logical `−∂f_i/∂y_j` (C02), `BuiltCfg` a configuration as the builder
  assembles it (C09b), `attPivot` the diagonal of `U` after `Factor`.
-/
import Micm.Lemmas.BackwardEuler

namespace Micm
set_option linter.unusedSectionVars false
open Finset

section Any
variable {α : Type} [OfNat α 0] [OfNat α 1] [OfNat α 2] [Add α] [Sub α] [Mul α] [Div α]
variable (o : Ops α) (s : SolverCfg α) (p : BEParams α) (kc : Mat α) (atol : Array α) (rtol : α)
    (T : α)

/-- **one iteration** (any carrier): an iteration that passes the loop head records exactly one
    `BEIter`, whose `h` is the current step size and whose matrix is `AddToDiagonal(1/h)` applied to
    the (negative) Jacobian evaluated at the current `Yn1` into the zeroed buffer; an iteration that
    stops at the loop head records nothing. -/
theorem C05_be_matrix_step (r : BEState α) :
    (beStep o s p kc atol rtol T r).trace =
      if (beHead o T r).done then r.trace
      else { h := r.h,
             matrix := addDiag s.diag (s.jacobian kc r.Yn1 (fillM r.sc.jac 0)) (1 / r.h) } :: r.trace :=
  beStep_trace o s p kc atol rtol T r

/-- **the loop** (any carrier): every `BEIter` in the trace where `beLoop` stops was either already
    there or was recorded by the `k`-th iteration, `k < fuel`, from the `Yn1`, `h` and Jacobian buffer
    of the state `rₖ = beStep^[k] r` current at that iteration. -/
theorem C05_be_matrix (fuel : Nat) (r : BEState α) (it : BEIter α)
    (h : it ∈ (beLoop o s p kc atol rtol T fuel r).trace) :
    it ∈ r.trace ∨ ∃ k, k < fuel ∧
      it = { h := ((beStep o s p kc atol rtol T)^[k] r).h,
             matrix := addDiag s.diag
               (s.jacobian kc ((beStep o s p kc atol rtol T)^[k] r).Yn1
                 (fillM ((beStep o s p kc atol rtol T)^[k] r).sc.jac 0))
               (1 / ((beStep o s p kc atol rtol T)^[k] r).h) } := by
  induction fuel generalizing r with
  | zero =>
    rw [beLoop_zero] at h
    left; split at h <;> exact h
  | succ n ih =>
    rw [beLoop_succ] at h
    split at h
    · exact Or.inl h
    · rcases ih _ h with h1 | ⟨k, hk, h1⟩
      · rw [beStep_trace] at h1
        split at h1
        · exact Or.inl h1
        · rcases List.mem_cons.mp h1 with h2 | h2
          · exact Or.inr ⟨0, by omega, h2⟩
          · exact Or.inl h2
      · exact Or.inr ⟨k + 1, by omega, by rw [Function.iterate_succ_apply]; exact h1⟩

/-- **the whole solve** (any carrier): every attempt reported by `beSolve` has
    `alpha = 1/h`, `matrix = AddToDiagonal(1/h)(−J(Yn1ₖ))` for the `Yn1ₖ`, `hₖ` of some loop state
    `rₖ`, `k < fuel`, reached from the initial state of the solve. -/
theorem C05_be_matrix_solve (Y : Mat α) (sc : Scratch α) (fuel : Nat) (att : Attempt α)
    (h : att ∈ (beSolve o s p kc atol rtol T Y sc fuel).trace) :
    ∃ k, k < fuel ∧
      att.h = ((beStep o s p kc atol rtol T)^[k] (beInit (beInitialH o p T) Y sc)).h ∧
      att.alpha = 1 / att.h ∧
      att.matrix = addDiag s.diag
        (s.jacobian kc ((beStep o s p kc atol rtol T)^[k] (beInit (beInitialH o p T) Y sc)).Yn1
          (fillM ((beStep o s p kc atol rtol T)^[k] (beInit (beInitialH o p T) Y sc)).sc.jac 0))
        (1 / att.h) := by
  rw [beSolve_eq] at h
  simp only [List.mem_map, List.mem_reverse] at h
  obtain ⟨it, hit, rfl⟩ := h
  rcases C05_be_matrix o s p kc atol rtol T fuel _ it hit with h0 | ⟨k, hk, rfl⟩
  · simp [beInit] at h0
  · exact ⟨k, hk, rfl, rfl, rfl⟩

end Any

section Exact
variable {K : Type} [Field K]
variable (o : Ops K) {s : SolverCfg K} (p : BEParams K) (kc : Mat K) (atol : Array K) (rtol : K)
    (T : K) {n : Nat} (c : Nat) {m : NameMap} {procs : List (Process K)} {kind : LUKind}
    {jac : Pattern}

/-- `AddToDiagonal(v)` is the operation `AlphaMinusJacobian(v)` of the Rosenbrock model (so the shift
    lemmas and `C09_matrix_columns` apply to the backward-Euler matrix) -/
theorem C05_be_addDiag (J : Mat K) (v : K) : addDiag s.diag J v = s.alphaMinusJacobian J v := rfl

/-- **the Newton update** (exact arithmetic, logical rows of cell `c`, all four LU variants).
    From any loop state `r` that passes the loop head, with the buffers of cell `c` of the configured
    sizes and no zero pivot in the factorisation of cell `c`:

    1. after the iteration `forcing_` (`sc.f0`) holds `δ` with
       `(I/H − ∂f/∂y(Yn1)) δ = f(Yn1) − (Yn1 − Yn)/H`   (`negJac = −∂f/∂y`, `H = r.h`,
       `f(Yn1)` = the mass-action forcing `addForcingCell` assembled into a zero vector);
    2. the clamped iterate is `max(Yn1 + δ, 0)` entry-wise (`cmax o · 0`);
    3. `Yn1` after the iteration is that clamped iterate — except when the outer iteration fails and
       is retried, where `Yn1` is reset to `Yn`.  Nothing else is done to the iterate. -/
theorem C05_be_newton_update (hb : BuiltCfg s m procs n kind jac) (r : BEState K)
    (hd : (beHead o T r).done = false)
    (hY : CellShape n c r.Yn1) (hf0 : CellShape n c r.sc.f0)
    (hj : CellShape s.la.A.nnz c r.sc.jac) (hl : CellShape s.la.Lp.nnz c r.sc.lower)
    (hu : CellShape s.la.Up.nnz c r.sc.upper)
    (hpiv : ∀ i, i < n → attPivot s
      (s.factor (addDiag s.diag (s.jacobian kc r.Yn1 (fillM r.sc.jac 0)) (1 / r.h))
        r.sc.lower r.sc.upper) c i ≠ 0) :
    (∀ i, i < n →
      ∑ j ∈ range n,
        ((if i = j then 1 / r.h else 0) + negJac m procs (kc.getD c #[]) (r.Yn1.getD c #[]) i j)
          * rd ((beStep o s p kc atol rtol T r).sc.f0.getD c #[]) j
        = rd (s.tables.addForcingCell (kc.getD c #[]) (r.Yn1.getD c #[]) (Array.replicate n 0)) i
            - (rd (r.Yn1.getD c #[]) i - rd (r.Yn.getD c #[]) i) / r.h) ∧
    (∀ v, v < n → rd ((beNewY o s kc r).getD c #[]) v =
      cmax o (rd (r.Yn1.getD c #[]) v
        + rd ((beStep o s p kc atol rtol T r).sc.f0.getD c #[]) v) 0) ∧
    (beStep o s p kc atol rtol T r).Yn1 =
      (if beConv o s p kc atol rtol r = false ∧ ¬ r.iterations + 1 < p.maxSteps ∧
          r.nFail < p.reductions.length then r.Yn else beNewY o s kc r) := by
  have hsc : (beStep o s p kc atol rtol T r).sc.f0 = beResidual s kc r := by
    rw [beStep_sc o s p kc atol rtol T r hd]
  refine ⟨fun i hi => ?_, fun v hv => ?_, beStep_Yn1 o s p kc atol rtol T r hd⟩
  · rw [hsc, ← (beForcing_cell kc c s r hf0).2]
    exact be_newton_system kc c hb r hf0 hj hl hu hpiv i hi
  · rw [hsc, rd_beNewY o kc c r hY v hv, rd_beUnclipped kc c s r hY v hv]

end Exact

/-! ### the hypotheses are satisfiable: `A → B`, `k = 1`, `Y₀ = (1, 0)`, `time_step = 1` -/

namespace BEEx

/-- the run: two Newton iterations with `H = 1` (the second one finds `δ = 0` and converges) -/
example : (run .doolittle params 1 10).status = .converged ∧
    (run .doolittle params 1 10).finalTime = 1 ∧
    (run .doolittle params 1 10).Y = #[#[1/2, 1/2]] ∧
    (run .doolittle params 1 10).trace.map (·.h) = [1, 1] := by decide +kernel

/-- The hypotheses of `C05_be_newton_update` in the first two loop states of this run, for every
    LU variant. -/
theorem exNewtonHyps (kind : LUKind) (k : Nat) (hk : k < 2) :
    (beHead ratOps 1 (iter kind params 1 k)).done = false ∧
    CellShape 2 0 (iter kind params 1 k).Yn1 ∧ CellShape 2 0 (iter kind params 1 k).sc.f0 ∧
    CellShape (cfg kind).la.A.nnz 0 (iter kind params 1 k).sc.jac ∧
    CellShape (cfg kind).la.Lp.nnz 0 (iter kind params 1 k).sc.lower ∧
    CellShape (cfg kind).la.Up.nnz 0 (iter kind params 1 k).sc.upper ∧
    ∀ i, i < 2 → attPivot (cfg kind)
      ((cfg kind).factor (addDiag (cfg kind).diag ((cfg kind).jacobian #[#[1]] (iter kind params 1 k).Yn1
        (fillM (iter kind params 1 k).sc.jac 0)) (1 / (iter kind params 1 k).h))
        (iter kind params 1 k).sc.lower (iter kind params 1 k).sc.upper) 0 i ≠ 0 := by
  revert k
  cases kind <;> decide +kernel

/-- The first update solves `(I/1 − J) δ = f(y₀)`: `δ = (−½, ½)`; the second is `0`. -/
example : ((iter .doolittle params 1 1).sc.f0, (iter .doolittle params 1 1).Yn1,
    (iter .doolittle params 1 2).sc.f0) = (#[#[-1/2, 1/2]], #[#[1/2, 1/2]], #[#[0, 0]]) := by
  decide +kernel

end BEEx

#print axioms C05_be_matrix_step
#print axioms C05_be_matrix
#print axioms C05_be_matrix_solve
#print axioms C05_be_addDiag
#print axioms C05_be_newton_update
#print axioms BEEx.exNewtonHyps

end Micm
