/-
  C08 — the five Rosenbrock coefficient tables are consistent methods of their documented orders.

  All facts are about the GENERATED constants `Micm.Gen.ros2 … rodas4` (exact rationals of the
  binary64 values in /repo/include/micm/solver/rosenbrock_solver_parameters.hpp); nothing is
  retyped here.  The conversion implementation form → textbook form and the Hairer–Wanner order
  conditions are in `Micm/Spec/OrderConditions.lean`; the checks are decided by the kernel on core
  `Rat` (`ros2_checks` … `rodas4_checks`) and fail if a coefficient is edited to a wrong value; the
  `1e-14` statements follow from the tighter ones, the checks being monotone in the tolerance.

  Tolerances: `tenTo k = 10^{-k}`, `tol14 = 1e-14`.
  Not proved here (DESIGN.md §4 C08): the global-accuracy sentence ("a Converged result differs
  from the exact solution by a modest multiple of the tolerance"); it is measured, not proved.
-/
import Micm.Spec.OrderConditions
import Micm.Lemmas.OrderConditionsRos2
import Mathlib.Analysis.Real.Sqrt
import Mathlib.Tactic.Linarith

namespace Micm
open Micm.Gen Micm.OrderCond

/-- `a`, `c` have `s(s−1)/2` entries; `m`, `e`, `newF`, `alpha`, `gamma` have `s`; `s ≥ 1`;
    the first stage evaluates the forcing (`newF[0] = true`). -/
theorem C08_stages_consistent :
    stagesConsistent ros2 = true ∧ stagesConsistent ros3 = true ∧ stagesConsistent ros4 = true ∧
    stagesConsistent rodas3 = true ∧ stagesConsistent rodas4 = true := by decide +kernel

/-! All checks that need the textbook form `toTextbook` of a table form one statement per table, decided by
evaluation; the theorems after them read their conjuncts off. -/

theorem ros2_checks :
    orderCheck ros2 2 1 (tenTo 15) = true ∧ mainFails ros2 3 (tenTo 3) = true ∧
    embFails ros2 2 (tenTo 3) = true ∧ rowsumCheck ros2 (tenTo 15) (tenTo 15) = true ∧
    rinfCheck ros2 0 (tenTo 16) = true := by decide +kernel

theorem ros3_checks :
    orderCheck ros3 3 2 (tenTo 15) = true ∧ mainFails ros3 4 (tenTo 3) = true ∧
    embFails ros3 3 (tenTo 3) = true ∧ rowsumCheck ros3 (tenTo 15) (tenTo 15) = true ∧
    rinfCheck ros3 0 0 = true := by decide +kernel

theorem ros4_checks :
    orderCheck ros4 4 3 (tenTo 15) = true ∧ embFails ros4 4 (tenTo 3) = true ∧
    rowsumCheck ros4 (tenTo 15) (tenTo 15) = true ∧
    rinfCheck ros4 (15 * tenTo 6) (16 * tenTo 6) = true := by decide +kernel

theorem rodas3_checks :
    orderCheck rodas3 3 2 (tenTo 15) = true ∧ mainFails rodas3 4 (tenTo 3) = true ∧
    embFails rodas3 3 (tenTo 3) = true ∧ rowsumCheck rodas3 0 0 = true ∧
    rinfCheck rodas3 0 0 = true := by decide +kernel

theorem rodas4_checks :
    orderCheck rodas4 4 3 (tenTo 15) = true ∧ embFails rodas4 4 (tenTo 3) = true ∧
    rowsumCheck rodas4 (tenTo 15) (tenTo 15) = true ∧ rinfCheck rodas4 0 0 = true := by
  decide +kernel

theorem allWithin_mono {tol tol' : Q} (h : tol ≤ tol') {rs : List Q}
    (hr : allWithin tol rs = true) : allWithin tol' rs = true := by
  simp only [allWithin, List.all_eq_true, decide_eq_true_eq] at hr ⊢
  exact fun r hm => Rat.le_trans (hr r hm) h

theorem orderCheck_mono {t : RosTable} {p ph : Nat} {tol tol' : Q} (h : tol ≤ tol')
    (hc : orderCheck t p ph tol = true) : orderCheck t p ph tol' = true := by
  simp only [orderCheck, Bool.and_eq_true] at hc ⊢
  exact ⟨allWithin_mono h hc.1, allWithin_mono h hc.2⟩

theorem rowsumCheck_mono {t : RosTable} {a a' g g' : Q} (ha : a ≤ a') (hg : g ≤ g')
    (hc : rowsumCheck t a g = true) : rowsumCheck t a' g' = true := by
  simp only [rowsumCheck, Bool.and_eq_true] at hc ⊢
  exact ⟨⟨hc.1.1, allWithin_mono ha hc.1.2⟩, allWithin_mono hg hc.2⟩

theorem rinfCheck_mono {t : RosTable} {lo lo' hi hi' : Q} (hlo : lo' ≤ lo) (hhi : hi ≤ hi')
    (hc : rinfCheck t lo hi = true) : rinfCheck t lo' hi' = true := by
  simp only [rinfCheck, Bool.and_eq_true, decide_eq_true_eq] at hc ⊢
  exact ⟨Rat.le_trans hlo hc.1, Rat.le_trans hc.2 hhi⟩

theorem tenTo15_le_tol14 : tenTo 15 ≤ tol14 := by decide +kernel
theorem zero_le_tol14 : (0 : Q) ≤ tol14 := by decide +kernel

/-! ### order conditions: main method up to the documented order, embedded one order lower,
    every residual `≤ 1e-14` in absolute value -/

theorem C08_order_ros2   : orderCheck ros2   2 1 tol14 = true :=
  orderCheck_mono tenTo15_le_tol14 ros2_checks.1
theorem C08_order_ros3   : orderCheck ros3   3 2 tol14 = true :=
  orderCheck_mono tenTo15_le_tol14 ros3_checks.1
theorem C08_order_ros4   : orderCheck ros4   4 3 tol14 = true :=
  orderCheck_mono tenTo15_le_tol14 ros4_checks.1
theorem C08_order_rodas3 : orderCheck rodas3 3 2 tol14 = true :=
  orderCheck_mono tenTo15_le_tol14 rodas3_checks.1
theorem C08_order_rodas4 : orderCheck rodas4 4 3 tol14 = true :=
  orderCheck_mono tenTo15_le_tol14 rodas4_checks.1

/-- the same with the tightest power of ten that holds for all five sets: `1e-15`
    (largest measured residual: `8.6e-16`, condition `Σb̂ = 1` of the six-stage set) -/
theorem C08_order_tight :
    orderCheck ros2 2 1 (tenTo 15) = true ∧ orderCheck ros3 3 2 (tenTo 15) = true ∧
    orderCheck ros4 4 3 (tenTo 15) = true ∧ orderCheck rodas3 3 2 (tenTo 15) = true ∧
    orderCheck rodas4 4 3 (tenTo 15) = true :=
  ⟨ros2_checks.1, ros3_checks.1, ros4_checks.1, rodas3_checks.1, rodas4_checks.1⟩

/-- the documented orders are sharp: some condition of the next order is violated by more than
    `1e-3` — for the main method of the order-2/3 sets (order-5 conditions are not formalised, so
    nothing is claimed about the main methods of `ros4`, `rodas4`) and for every embedded method. -/
theorem C08_order_sharp :
    mainFails ros2 3 (tenTo 3) = true ∧ mainFails ros3 4 (tenTo 3) = true ∧
    mainFails rodas3 4 (tenTo 3) = true ∧
    embFails ros2 2 (tenTo 3) = true ∧ embFails ros3 3 (tenTo 3) = true ∧
    embFails ros4 4 (tenTo 3) = true ∧ embFails rodas3 3 (tenTo 3) = true ∧
    embFails rodas4 4 (tenTo 3) = true :=
  ⟨ros2_checks.2.1, ros3_checks.2.1, rodas3_checks.2.1, ros2_checks.2.2.1, ros3_checks.2.2.1,
    ros4_checks.2.1, rodas3_checks.2.2.1, rodas4_checks.2.1⟩

/-! ### tabulated `alpha_[i] = Σ_j α_ij`, `gamma_[i] = Σ_j γ_ij` (within `1e-14`) -/

theorem C08_rowsums_ros2   : rowsumCheck ros2   tol14 tol14 = true :=
  rowsumCheck_mono tenTo15_le_tol14 tenTo15_le_tol14 ros2_checks.2.2.2.1
theorem C08_rowsums_ros3   : rowsumCheck ros3   tol14 tol14 = true :=
  rowsumCheck_mono tenTo15_le_tol14 tenTo15_le_tol14 ros3_checks.2.2.2.1
theorem C08_rowsums_ros4   : rowsumCheck ros4   tol14 tol14 = true :=
  rowsumCheck_mono tenTo15_le_tol14 tenTo15_le_tol14 ros4_checks.2.2.1
theorem C08_rowsums_rodas3 : rowsumCheck rodas3 tol14 tol14 = true :=
  rowsumCheck_mono zero_le_tol14 zero_le_tol14 rodas3_checks.2.2.2.1
theorem C08_rowsums_rodas4 : rowsumCheck rodas4 tol14 tol14 = true :=
  rowsumCheck_mono tenTo15_le_tol14 tenTo15_le_tol14 rodas4_checks.2.2.1

/-- tightest power of ten for all sets: `1e-15` (largest: `8.6e-16`, `alpha_[5]` of `rodas4`);
    `rodas3` agrees exactly. -/
theorem C08_rowsums_tight :
    rowsumCheck ros2 (tenTo 15) (tenTo 15) = true ∧ rowsumCheck ros3 (tenTo 15) (tenTo 15) = true ∧
    rowsumCheck ros4 (tenTo 15) (tenTo 15) = true ∧ rowsumCheck rodas3 0 0 = true ∧
    rowsumCheck rodas4 (tenTo 15) (tenTo 15) = true :=
  ⟨ros2_checks.2.2.2.1, ros3_checks.2.2.2.1, ros4_checks.2.2.1, rodas3_checks.2.2.2.1,
    rodas4_checks.2.2.1⟩

/-! ### `R(∞) = 1 − bᵀB⁻¹𝟙`  (`rinfCheck t lo hi` : `lo ≤ |R(∞)| ≤ hi`) -/

theorem C08_Rinf_ros2   : rinfCheck ros2   0 tol14 = true :=
  rinfCheck_mono (Rat.le_refl) (by decide +kernel) ros2_checks.2.2.2.2
theorem C08_Rinf_ros3   : rinfCheck ros3   0 tol14 = true :=
  rinfCheck_mono (Rat.le_refl) zero_le_tol14 ros3_checks.2.2.2.2
theorem C08_Rinf_rodas3 : rinfCheck rodas3 0 tol14 = true :=
  rinfCheck_mono (Rat.le_refl) zero_le_tol14 rodas3_checks.2.2.2.2
theorem C08_Rinf_rodas4 : rinfCheck rodas4 0 tol14 = true :=
  rinfCheck_mono (Rat.le_refl) zero_le_tol14 rodas4_checks.2.2.2
/-- the four-stage set is L-stable only to five digits: `|R(∞)| ≤ 2e-5` -/
theorem C08_Rinf_ros4   : rinfCheck ros4   0 (2 * tenTo 5) = true :=
  rinfCheck_mono (by decide +kernel) (by decide +kernel) ros4_checks.2.2.2

/-- tightest round bounds: `R(∞) = 0` exactly for `ros3`, `rodas3`, `rodas4`; `≤ 1e-16` for `ros2`
    (measured `−7.6e-17`); `1.5e-5 ≤ |R(∞)| ≤ 1.6e-5` for `ros4` (measured `−1.519e-5`), in
    particular `ros4` is *not* L-stable to `1e-14`. -/
theorem C08_Rinf_tight :
    rinfCheck ros2 0 (tenTo 16) = true ∧ rinfCheck ros3 0 0 = true ∧
    rinfCheck rodas3 0 0 = true ∧ rinfCheck rodas4 0 0 = true ∧
    rinfCheck ros4 (15 * tenTo 6) (16 * tenTo 6) = true :=
  ⟨ros2_checks.2.2.2.2, ros3_checks.2.2.2.2, rodas3_checks.2.2.2.2, rodas4_checks.2.2.2,
    ros4_checks.2.2.2⟩

/-- the two "stiffly-stable" (RODAS) sets are stiffly accurate, exactly: last row of `A` = `m[0..s−2]`,
    `m[s−1] = 1`, `e = (0,…,0,1)`; the three ROS sets are not. -/
theorem C08_stiffly_accurate :
    stifflyAccurate rodas3 = true ∧ stifflyAccurate rodas4 = true ∧
    stifflyAccurate ros2 = false ∧ stifflyAccurate ros3 = false ∧ stifflyAccurate ros4 = false := by
  decide +kernel

/-- `estimator_of_local_order_` is `min(main order, embedded order) + 1` with the orders established above
    (`ros2`: 2, `ros3`: 3, `ros4`: 4, `rodas3`: 3, `rodas4`: 4). -/
theorem C08_order_meaning :
    orderMeaning ros2 2 1 = true ∧ orderMeaning ros3 3 2 = true ∧ orderMeaning ros4 4 3 = true ∧
    orderMeaning rodas3 3 2 = true ∧ orderMeaning rodas4 4 3 = true := by decide +kernel

/-- For the header's formulas `a = 1/g, c = −2/g, m = (3/(2g), 1/(2g)), e = (1/(2g), 1/(2g)), γ = g`
    over any field of characteristic `≠ 2`, the textbook form computed by `toTextbookK` (the same
    function that is evaluated on the generated tables) has `b = (½,½)`, `b̂ = (1,0)`,
    `alpha = (0,1)`, `gamma = (g,−g)`; the order-2 conditions of the main method and the order-1
    condition of the embedded method hold *exactly* for every `g ≠ 0`, and `R(∞) = 0` holds
    iff `2(g−1)² = 1` (which is what `g = 1 + 1/√2` solves). -/
theorem C08_ros2_exact {K : Type} [Field K] (g : K) (hg : g ≠ 0) (h2 : (2 : K) ≠ 0) :
    let T := ros2Textbook g
    T.b = [1 / 2, 1 / 2] ∧ T.bh = [1, 0] ∧ T.al = [0, 1] ∧ T.gs = [g, -g] ∧
    o1 T T.b = 0 ∧ o2 T T.b = 0 ∧ o1 T T.bh = 0 ∧
    (Rinf T T.b = 0 ↔ 2 * (g - 1) ^ 2 = 1) := by
  intro T
  simp only [T, ros2Textbook_eq g hg h2, o1, o2, Rinf, lowerSolveOnes, frac, ofN, sumTo, mget, vget,
    range2, range1, range0, List.foldl_cons, List.foldl_nil, List.nil_append, List.cons_append,
    List.getD_cons_zero, List.getD_cons_succ, List.getD_nil,
    zero_add, sub_zero, mul_zero, add_zero, one_add_one_eq_two, true_and]
  refine ⟨by field_simp; ring, by field_simp; ring, by ring, ?_⟩
  refine (Eq.congr_left (?_ : _ = (2 * (g - 1) ^ 2 - 1) / (2 * g ^ 2))).trans ?_
  · field_simp; ring
  · rw [div_eq_zero_iff, sub_eq_zero]
    exact or_iff_left (mul_ne_zero h2 (pow_ne_zero 2 hg))

/-- the hypotheses are satisfiable by the header's own `g = 1 + 1/√2` over `ℝ` -/
example : ∃ g : ℝ, g = 1 + 1 / Real.sqrt 2 ∧ g ≠ 0 ∧ (2 : ℝ) ≠ 0 ∧ 2 * (g - 1) ^ 2 = 1 := by
  have hpos : 0 < Real.sqrt 2 := Real.sqrt_pos.mpr two_pos
  refine ⟨1 + 1 / Real.sqrt 2, rfl, (add_pos one_pos (one_div_pos.mpr hpos)).ne', two_ne_zero, ?_⟩
  rw [add_sub_cancel_left, one_div, inv_pow, Real.sq_sqrt zero_le_two]
  exact mul_inv_cancel₀ two_ne_zero

/-- link to the generated table: the binary64 constants of `ros2` are the closed forms evaluated
    at `g = ros2.gamma[0]`, and `g` solves `2(g−1)² = 1`, all within `1e-15`
    (largest: defect of the quadratic, `−1.8e-16`). -/
theorem C08_ros2_closed_form :
    allWithin (tenTo 15) (ros2ClosedFormResiduals ros2) = true := by decide +kernel

#print axioms C08_stages_consistent
#print axioms C08_order_ros2
#print axioms C08_order_ros3
#print axioms C08_order_ros4
#print axioms C08_order_rodas3
#print axioms C08_order_rodas4
#print axioms C08_order_tight
#print axioms C08_order_sharp
#print axioms C08_rowsums_ros2
#print axioms C08_rowsums_ros3
#print axioms C08_rowsums_ros4
#print axioms C08_rowsums_rodas3
#print axioms C08_rowsums_rodas4
#print axioms C08_rowsums_tight
#print axioms C08_Rinf_ros2
#print axioms C08_Rinf_ros3
#print axioms C08_Rinf_ros4
#print axioms C08_Rinf_rodas3
#print axioms C08_Rinf_rodas4
#print axioms C08_Rinf_tight
#print axioms C08_stiffly_accurate
#print axioms C08_order_meaning
#print axioms C08_ros2_exact
#print axioms C08_ros2_closed_form

end Micm
