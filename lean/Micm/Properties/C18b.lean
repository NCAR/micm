/-
C18 (generated code) — the program the LLVM backend generates for the forcing and for the Jacobian
(`Model/JitProg.lean`, tied loop for loop to the textual IR the implementation emits) computes, for every table,
every lane count `L ≥ 0` and every input, what the vectorised C++ kernels of the CPU backend compute for one group
of `L` cells (`forcingVecGo`, `jacVecGo` of `Model/FlatKernels*.lean`, offsets 0: the JIT solver has exactly `L`
cells).  The contents of the `alloca`'d lane buffer on entry are arbitrary.

The only algebraic fact used is commutativity of the multiplication (`rate * yield` in the generated code,
`yield * rate` in the C++ kernel); IEEE-754 multiplication is commutative (up to NaN payloads).
-/
import Micm.Lemmas.JitProg

namespace Micm
set_option linter.unusedSectionVars false

section
variable {α : Type} [OfNat α 0] [Add α] [Sub α] [Mul α] [Div α]

/-- the size of the lane buffer is kept by the `rate calc` loops -/
theorem mul_fold_size (L : Nat) (Y : Array α) (rs : List Nat) (b : Array α) :
    (rs.foldl (fun rate i =>
      (List.range L).foldl (fun rate l => wr rate l (rd rate l * rd Y (l + i * L))) rate) b).size = b.size := by
  induction rs generalizing b with
  | nil => rfl
  | cons i rs ih => rw [List.foldl_cons, ih, foldl_wr_size]

theorem jit_forcing_go (hc : ∀ a b : α, a * b = b * a) (L : Nat) (K Y : Array α) :
    ∀ (nrs nps rids pids : List Nat) (ylds : List α) (iRxn : Nat) (F buf : Array α), buf.size = L →
      (JProg.run L (genForcingGo L nrs nps rids pids ylds iRxn) ⟨K, Y, F, buf, 0⟩).a0 = K ∧
      (JProg.run L (genForcingGo L nrs nps rids pids ylds iRxn) ⟨K, Y, F, buf, 0⟩).a1 = Y ∧
      (JProg.run L (genForcingGo L nrs nps rids pids ylds iRxn) ⟨K, Y, F, buf, 0⟩).a2 =
        forcingVecGo L Y K 0 0 nrs nps rids pids ylds iRxn F ∧
      (JProg.run L (genForcingGo L nrs nps rids pids ylds iRxn) ⟨K, Y, F, buf, 0⟩).buf.size = L := by
  intro nrs
  induction nrs with
  | nil => intro nps rids pids ylds iRxn F buf hb; simp [genForcingGo, forcingVecGo, JProg.run_nil, hb]
  | cons nr nrs ih =>
    intro nps rids pids ylds iRxn F buf hb
    cases nps with
    | nil => simp [genForcingGo, forcingVecGo, JProg.run_nil, hb]
    | cons np nps =>
      simp only [genForcingGo, forcingVecGo, forcingVecRxn]
      -- load and `rate calc` loops write the lane buffer, the two update segments write the forcing
      rw [JProg.run_append, JProg.run_append, JProg.run_append, JProg.run_append,
        JProg.run_map_arr L .a2 _ fun _ => rfl, JProg.run_map_arr L .a2 _ fun _ => rfl,
        JProg.run_map_arr L .buf _ fun _ => rfl, JProg.run_cons, JProg.run_nil, JLoop.run_eq]
      simp only [JLoc.arr, JMem.set, JMem.get, JLoop.lanes, JLoc.idx, JExpr.eval, JMem.load, laneAddr_eq,
        hc (Prod.snd _)]
      rw [fold_wr_range _ _ _ hb]
      exact ih nps _ _ _ _ _ _ (by rw [mul_fold_size, List.size_toArray, List.length_map, List.length_range])

/-- **the generated forcing function is the vectorised CPU kernel** -/
theorem C18_jit_forcing (hc : ∀ a b : α, a * b = b * a) (t : PSTables α) (L : Nat)
    (K Y F buf : Array α) (hb : buf.size = L) :
    ((t.genForcing L).run L ⟨K, Y, F, buf, 0⟩).a2 =
      forcingVecGo L Y K 0 0 t.nReact t.nProd t.reactIds t.prodIds t.yields 0 F ∧
    ((t.genForcing L).run L ⟨K, Y, F, buf, 0⟩).a0 = K ∧ ((t.genForcing L).run L ⟨K, Y, F, buf, 0⟩).a1 = Y := by
  obtain ⟨h0, h1, h2, _⟩ := jit_forcing_go hc L K Y t.nReact t.nProd t.reactIds t.prodIds t.yields 0 F buf hb
  exact ⟨h2, h0, h1⟩

/-- for a JIT solver (exactly `L` cells, one group) this is the whole `AddForcingTerms` of the CPU backend -/
theorem C18_jit_forcing_whole (hc : ∀ a b : α, a * b = b * a) (t : PSTables α) (L nRxn nSpecies : Nat) (hL : 0 < L)
    (K Y F buf : Array α) (hb : buf.size = L) :
    ((t.genForcing L).run L ⟨K, Y, F, buf, 0⟩).a2 = t.addForcingFlatVec L L nRxn nSpecies K Y F := by
  rw [(C18_jit_forcing hc t L K Y F buf hb).1]
  simp [PSTables.addForcingFlatVec, ceilDiv_self hL]

theorem jit_jacobian_go (hc : ∀ a b : α, a * b = b * a) (L : Nat) (K Y : Array α) :
    ∀ (infos : List ProcessInfo) (jr : List Nat) (jy : List α) (flat : List Nat) (J buf : Array α), buf.size = L →
      (JProg.run L (genJacobianGo L infos jr jy flat) ⟨K, Y, J, buf, 0⟩).a0 = K ∧
      (JProg.run L (genJacobianGo L infos jr jy flat) ⟨K, Y, J, buf, 0⟩).a1 = Y ∧
      (JProg.run L (genJacobianGo L infos jr jy flat) ⟨K, Y, J, buf, 0⟩).a2 = jacVecGo L K Y 0 0 0 infos jr jy flat J ∧
      (JProg.run L (genJacobianGo L infos jr jy flat) ⟨K, Y, J, buf, 0⟩).buf.size = L := by
  intro infos
  induction infos with
  | nil => intro jr jy flat J buf hb; simp [genJacobianGo, jacVecGo, JProg.run_nil, hb]
  | cons info infos ih =>
    intro jr jy flat J buf hb
    simp only [genJacobianGo, jacVecGo, jacVecEntry, lanesDo]
    rw [JProg.run_append, JProg.run_append, JProg.run_append, JProg.run_append,
      JProg.run_map_arr L .a2 _ fun _ => rfl, JProg.run_map_arr L .a2 _ fun _ => rfl,
      JProg.run_map_arr L .buf _ fun _ => rfl, JProg.run_cons, JProg.run_nil, JLoop.run_eq]
    simp only [JLoc.arr, JMem.set, JMem.get, JLoop.lanes, JLoc.idx, JExpr.eval, JMem.load, laneAddr_eq,
      hc (Prod.snd _)]
    rw [fold_wr_range _ _ _ hb]
    exact ih _ _ _ _ _ (by rw [mul_fold_size, List.size_toArray, List.length_map, List.length_range])

/-- **the generated Jacobian function is the vectorised CPU kernel** (whatever pattern the flat ids were set on:
    `flat` is an input) -/
theorem C18_jit_jacobian (hc : ∀ a b : α, a * b = b * a) (t : PSTables α) (flat : List Nat) (L : Nat)
    (K Y J buf : Array α) (hb : buf.size = L) :
    ((t.genJacobian flat L).run L ⟨K, Y, J, buf, 0⟩).a2 = jacVecGo L K Y 0 0 0 t.jInfo t.jReactIds t.jYields flat J ∧
    ((t.genJacobian flat L).run L ⟨K, Y, J, buf, 0⟩).a0 = K ∧ ((t.genJacobian flat L).run L ⟨K, Y, J, buf, 0⟩).a1 = Y := by
  obtain ⟨h0, h1, h2, _⟩ := jit_jacobian_go hc L K Y t.jInfo t.jReactIds t.jYields flat J buf hb
  exact ⟨h2, h0, h1⟩

theorem C18_jit_jacobian_whole (hc : ∀ a b : α, a * b = b * a) (t : PSTables α) (flat : List Nat)
    (L nRxn nSpecies nnz : Nat) (hL : 0 < L) (K Y J buf : Array α) (hb : buf.size = L) :
    ((t.genJacobian flat L).run L ⟨K, Y, J, buf, 0⟩).a2 = t.subtractJacobianFlatVec flat L L nRxn nSpecies nnz K Y J := by
  rw [(C18_jit_jacobian hc t flat L K Y J buf hb).1]
  simp [PSTables.subtractJacobianFlatVec, ceilDiv_self hL]

end

/-- `A + B → 2·C` (yield 2), one reaction, three species; lane buffer holds garbage on entry -/
example :
    let t : PSTables Int := { nReact := [2], reactIds := [0, 1], nProd := [1], prodIds := [2], yields := [2] }
    ((t.genForcing 2).run 2 ⟨#[3, 5], #[2, 3, 4, 5, 0, 0], #[0, 0, 0, 0, 0, 0], #[77, -9], 0⟩).a2
      = #[-24, -75, -24, -75, 48, 150] := by
  decide

#print axioms C18_jit_forcing
#print axioms C18_jit_forcing_whole
#print axioms C18_jit_jacobian
#print axioms C18_jit_jacobian_whole
end Micm
