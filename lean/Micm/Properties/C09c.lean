/-
C09 (backward-Euler part) — every Newton iterate of backward Euler conserves every linear
invariant exactly *before clipping*: `w·(y + δ) = w·y_n`, regardless of the previous iterate `y`.

Derivation: `w·rhs = w·f(y) − (w·y − w·y_n)/H = −(w·y − w·y_n)/H` (C09: `w·f = 0`), and
`(I/H − J)ᵀ w = w/H` (C09: `wᵀJ = 0`), so `w·δ = H·(w·rhs) = −(w·y − w·y_n)`.

Subject: `beStep` / `beLoop` / `beSolve` of `Micm/Model/BackwardEuler.lean`; exact arithmetic, logical rows of
one cell `c`, configuration built as the builder does (`BuiltCfg`, all four LU variants), mechanism
hypotheses exactly those of `C09_rosenbrock_attempt`: `Resolves m procs rxns` and, for every resolved
reaction, `Σ_products w·yield = Σ_reactants w`.  Numerical hypotheses: `H ≠ 0`, no zero pivot.
Vocabulary: `beUnclipped s kc r` = `Yn1 + δ`, `beNewY o s kc r` = its clamp `max(·, 0)`,
`BENoClip o kc T s n c r` = "if the iteration from `r` passes the loop head then `H ≠ 0`, no pivot of
cell `c` is zero and the clamp does not change cell `c`".
-/
import Micm.Lemmas.BackwardEuler

namespace Micm
set_option linter.unusedSectionVars false
open Finset

section Exact
variable {K : Type} [Field K]
variable (o : Ops K) {s : SolverCfg K} (p : BEParams K) (kc : Mat K) (atol : Array K) (rtol : K)
    (T : K) {n : Nat} (c : Nat) {m : NameMap} {procs : List (Process K)} {kind : LUKind}
    {jac : Pattern}

/-- **C09 for backward Euler, one iteration.**  For a loop state `r` that passes the loop head:
    1. the update `δ` (left in `forcing_`) has `w·δ = −(w·Yn1 − w·Yn)`;
    2. the un-clipped iterate has `w·(Yn1 + δ) = w·Yn` — whatever `Yn1` was;
    3. entry-wise, un-clipped = `Yn1 + δ` and the new `Yn1` is `max(un-clipped, 0)`. -/
theorem C09_be_unclipped (hb : BuiltCfg s m procs n kind jac) (rxns : List (RRxn K))
    (hr : Resolves m procs rxns) (w : Nat → K)
    (hbal : ∀ rx ∈ rxns, (rx.2.map fun p => w p.1 * p.2).sum = (rx.1.map w).sum)
    (r : BEState K) (hd : (beHead o T r).done = false) (hh : r.h ≠ 0)
    (hY : CellShape n c r.Yn1) (hf0 : CellShape n c r.sc.f0)
    (hj : CellShape s.la.A.nnz c r.sc.jac) (hl : CellShape s.la.Lp.nnz c r.sc.lower)
    (hu : CellShape s.la.Up.nnz c r.sc.upper)
    (hpiv : ∀ i, i < n → attPivot s
      (s.factor (addDiag s.diag (s.jacobian kc r.Yn1 (fillM r.sc.jac 0)) (1 / r.h))
        r.sc.lower r.sc.upper) c i ≠ 0) :
    ∑ v ∈ range n, w v * rd ((beStep o s p kc atol rtol T r).sc.f0.getD c #[]) v
      = - (∑ v ∈ range n, w v * rd (r.Yn1.getD c #[]) v - ∑ v ∈ range n, w v * rd (r.Yn.getD c #[]) v) ∧
    ∑ v ∈ range n, w v * rd ((beUnclipped s kc r).getD c #[]) v
      = ∑ v ∈ range n, w v * rd (r.Yn.getD c #[]) v ∧
    (∀ v, v < n → rd ((beUnclipped s kc r).getD c #[]) v
      = rd (r.Yn1.getD c #[]) v + rd ((beStep o s p kc atol rtol T r).sc.f0.getD c #[]) v) ∧
    (∀ v, v < n → rd ((beNewY o s kc r).getD c #[]) v
      = cmax o (rd ((beUnclipped s kc r).getD c #[]) v) 0) := by
  have hsc : (beStep o s p kc atol rtol T r).sc.f0 = beResidual s kc r := by
    rw [beStep_sc o s p kc atol rtol T r hd]
  obtain ⟨h1, h2⟩ := be_unclipped_conserves kc c hb rxns hr w hbal r hh hY hf0 hj hl hu hpiv
  rw [hsc]
  exact ⟨h1, h2, fun v hv => rd_beUnclipped kc c s r hY v hv, fun v hv => rd_beNewY o kc c r hY v hv⟩

/-- **the whole solve, nothing clipped**: if along the loop (iterations `k < fuel`) every Newton
    iteration made has `H ≠ 0`, no zero pivot in cell `c`, and a clamp that does not change cell `c`,
    then `w·Y[c]` is the same after `beSolve` as before — for any status (also at the
    `AcceptingUnconvergedIntegration` exit, where `Y` is an un-converged iterate), any parameters -/
theorem C09_be_solve (hb : BuiltCfg s m procs n kind jac) (rxns : List (RRxn K))
    (hr : Resolves m procs rxns) (w : Nat → K)
    (hbal : ∀ rx ∈ rxns, (rx.2.map fun p => w p.1 * p.2).sum = (rx.1.map w).sum)
    (Y : Mat K) (sc : Scratch K) (fuel : Nat)
    (hY : CellShape n c Y) (hf0 : CellShape n c sc.f0)
    (hj : CellShape s.la.A.nnz c sc.jac) (hl : CellShape s.la.Lp.nnz c sc.lower)
    (hu : CellShape s.la.Up.nnz c sc.upper)
    (hnc : ∀ k, k < fuel → BENoClip o kc T s n c
      ((beStep o s p kc atol rtol T)^[k] (beInit (beInitialH o p T) Y sc))) :
    ∑ v ∈ range n, w v * rd ((beSolve o s p kc atol rtol T Y sc fuel).Y.getD c #[]) v
      = ∑ v ∈ range n, w v * rd (Y.getD c #[]) v ∧
    ∑ v ∈ range n, w v * rd ((beSolve o s p kc atol rtol T Y sc fuel).sc.ynew.getD c #[]) v
      = ∑ v ∈ range n, w v * rd (Y.getD c #[]) v := by
  have h := BEConsInv_loop o p kc atol rtol T c hb rxns hr w hbal (wdot w n (Y.getD c #[])) fuel
    (beInit (beInitialH o p T) Y sc) ⟨hY, hY, hf0, hj, hl, hu, rfl, rfl⟩ hnc
  rw [beSolve_eq]
  exact ⟨h.sum1, h.sum⟩

end Exact

section Clamp
variable {K : Type} [Field K] [LinearOrder K] [IsStrictOrderedRing K]

/-- "nothing was clipped": over an ordered field the clamp is the identity on non-negative entries,
    so a non-negative un-clipped iterate is the new `Yn1` and carries `w·Yn` -/
theorem C09_be_not_clipped {o : Ops K} (ho : OrderedOps o) {s : SolverCfg K} (kc : Mat K) {n : Nat}
    (c : Nat) (r : BEState K) (hY : CellShape n c r.Yn1)
    (hpos : ∀ v, v < n → 0 ≤ rd ((beUnclipped s kc r).getD c #[]) v) :
    ∀ v, v < n → rd ((beNewY o s kc r).getD c #[]) v = rd ((beUnclipped s kc r).getD c #[]) v := by
  intro v hv
  rw [rd_beNewY o kc c r hY v hv, ho.cmax_eq]
  exact max_eq_left (hpos v hv)

end Clamp

/-! ### example: `A → B` conserves `A + B` -/

namespace BEEx

/-- `C09_be_solve` on the run `time_step = 1`, `h_start = 1/4` (three accepted outer iterations), every
    LU variant. -/
theorem exConserved (kind : LUKind) :
    ∑ v ∈ range 2, w v * rd ((run kind { params with hstart := 1/4 } 1 8).Y.getD 0 #[]) v
      = ∑ v ∈ range 2, w v * rd ((#[#[1, 0]] : Mat ℚ).getD 0 #[]) v := by
  unfold run
  refine (C09_be_solve ratOps { params with hstart := 1/4 } #[#[1]] #[1/10, 1/10] (1/10) 1 0
    (exBuilt kind) rxns exResolves w exBalanced #[#[1, 0]] (scratch kind) 8 ?_ ?_ ?_ ?_ ?_ ?_).1
  · decide +kernel
  · cases kind <;> decide +kernel
  · cases kind <;> decide +kernel
  · cases kind <;> decide +kernel
  · cases kind <;> decide +kernel
  · unfold BENoClip
    cases kind <;> decide +kernel

example : (run .doolittle { params with hstart := 1/4 } 1 8).Y = #[#[32/75, 43/75]] ∧
    (run .doolittle { params with hstart := 1/4 } 1 8).status = .converged ∧
    (32/75 : ℚ) + 43/75 = 1 := by decide +kernel

/-- The hypotheses of `C09_be_unclipped` at the initial state are `BEEx.exNewtonHyps` (C05b); from
    `y = y_n = (1, 0)`, `δ = (−½, ½)` has `w·δ = 0`. -/
example : beUnclipped (cfg .mozart) #[#[1]] (init .mozart params 1) = #[#[1/2, 1/2]] ∧
    beResidual (cfg .mozart) #[#[1]] (init .mozart params 1) = #[#[-1/2, 1/2]] := by decide +kernel

end BEEx

#print axioms C09_be_unclipped
#print axioms C09_be_solve
#print axioms C09_be_not_clipped
#print axioms BEEx.exConserved

end Micm
