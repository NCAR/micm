/-
C14 (continued) — the solution reported per species name.

"… Consequently the solution reported per species name is independent of the order in which species
were listed and of the reordering option …"

Two successful `build`s of the same reactions whose systems have the same unique names — the same
`SystemDecl` with the reordering option on/off, or the species listed in another order (gas phase
and/or other phases; in particular another iteration order of the phase map) — produce two species
maps that are bijections of the same names onto `0 … n−1` (`C14_bijection`), so they differ by a
permutation `σ` of the indices: `species_map₂ = relabel σ species_map₁`.
With concentrations and absolute tolerances set *by name* (`ByName`: the value stored for a name is
the same through both maps; this is what `SetAbsoluteTolerances` does), the two `rosSolve` runs —
any LU variant, CSR/CSC, group lengths on each side — return the same status, final time, counters
and step history, and the same concentration for every species name; likewise for `beSolve`.
This is `C12_solve_relabel` applied to `σ`: exact arithmetic over any field `K`, arbitrary
primitives `Ops K`, no pivot vanishes in either run.

`NmBij m n`: `m` is a sorted bijection of its keys onto `0 … n−1`; `nameSigma m₁ m₂`: index ↦ name
in `m₁` ↦ index in `m₂` (`Micm/Lemmas/RelabelNames.lean`).
-/
import Micm.Lemmas.RelabelNames
import Micm.Properties.C12b
import Micm.Properties.C14

namespace Micm
variable {K : Type} [Field K]

/-- The species map of a successful `build` is a sorted bijection of the system's unique names onto
    `0 … nSpecies−1`, and the process-set tables are built from it. -/
theorem C14_build_bijection {dflt : K} {labelsOf : List (Process K) → List String}
    {inp : BuildInput K} {b : Built K} {sys : SystemDecl K}
    (h : build dflt labelsOf inp = .ok b) (hsys : inp.system = some sys) (hn : sys.uniqueNames.Nodup) :
    NmBij b.speciesMap b.nSpecies ∧ (nmKeys b.speciesMap).Perm sys.uniqueNames ∧
    b.nSpecies = sys.uniqueNames.length ∧
    ProcessSet.build (inp.reactions.getD []) b.speciesMap = .ok b.tables := by
  obtain ⟨-, -, hg, hp, -, -, hns, -, -⟩ := build_ok_fields h hsys
  obtain ⟨names', hperm, hidx, -, -⟩ := getSpeciesMap_ok_indexes hg hn
  have hn' : names'.Nodup := hperm.nodup_iff.2 hn
  have hlen : b.nSpecies = sys.uniqueNames.length := by rw [hns, sys.stateSize_eq]
  refine ⟨?_, (hidx.keys_perm hn').trans hperm, hlen, hp⟩
  rw [hlen, ← hperm.length_eq]
  exact hidx.bij hn'

/-- Two builds over the same names differ by a relabelling: `nameSigma` is a permutation `σ` of
    `0 … n−1` with `species_map₂ = relabel σ species_map₁`; a name with index `i` in the first map
    has index `σ i` in the second. -/
theorem C14_builds_relabel {dflt₁ dflt₂ : K} {labelsOf₁ labelsOf₂ : List (Process K) → List String}
    {inp₁ inp₂ : BuildInput K} {b₁ b₂ : Built K} {sys₁ sys₂ : SystemDecl K}
    (h₁ : build dflt₁ labelsOf₁ inp₁ = .ok b₁) (h₂ : build dflt₂ labelsOf₂ inp₂ = .ok b₂)
    (hsys₁ : inp₁.system = some sys₁) (hsys₂ : inp₂.system = some sys₂)
    (hn : sys₁.uniqueNames.Nodup) (hperm : sys₂.uniqueNames.Perm sys₁.uniqueNames) :
    b₂.nSpecies = b₁.nSpecies ∧
    (∀ i, i < b₁.nSpecies → ∀ j, j < b₁.nSpecies →
      nameSigma b₁.speciesMap b₂.speciesMap i = nameSigma b₁.speciesMap b₂.speciesMap j → i = j) ∧
    (∀ i, i < b₁.nSpecies → nameSigma b₁.speciesMap b₂.speciesMap i < b₁.nSpecies) ∧
    b₂.speciesMap = relabel (nameSigma b₁.speciesMap b₂.speciesMap) b₁.speciesMap ∧
    (∀ name, nmLookup b₂.speciesMap name
      = (nmLookup b₁.speciesMap name).map (nameSigma b₁.speciesMap b₂.speciesMap)) := by
  obtain ⟨hb₁, hk₁, hn₁, -⟩ := C14_build_bijection h₁ hsys₁ hn
  obtain ⟨hb₂, hk₂, hn₂, -⟩ := C14_build_bijection h₂ hsys₂ (hperm.nodup_iff.mpr hn)
  have e : b₂.nSpecies = b₁.nSpecies := by rw [hn₁, hn₂, hperm.length_eq]
  rw [e] at hb₂
  obtain ⟨hinj, hrng, hrel⟩ := nameSigma_spec hb₁ hb₂ (hk₁.trans (hperm.symm.trans hk₂.symm))
  refine ⟨e, hinj, hrng, hrel, fun name => ?_⟩
  conv_lhs => rw [hrel]
  exact nmLookup_relabel _ _ _

theorem C14_tolerance_by_key {dflt : K} {labelsOf : List (Process K) → List String}
    {inp : BuildInput K} {b : Built K} {sys : SystemDecl K}
    (h : build dflt labelsOf inp = .ok b) (hsys : inp.system = some sys) (hn : sys.uniqueNames.Nodup)
    (hd : ((tolAssigns sys).map (·.1)).Nodup) :
    (∀ k v, (k, v) ∈ tolAssigns sys → ∃ i, nmLookup b.speciesMap k = some i ∧ rd b.atol i = v) ∧
    (∀ i, i < b.nSpecies → (∀ kv ∈ tolAssigns sys, nmLookup b.speciesMap kv.1 ≠ some i) →
      rd b.atol i = dflt) := by
  obtain ⟨-, hgas, hph, hdef⟩ := C14_tolerances h hsys hn hd
  obtain ⟨-, -, hlen, -⟩ := C14_build_bijection h hsys hn
  refine ⟨fun k v hkv => ?_, fun i hi => hdef i (hlen ▸ hi)⟩
  rcases C14_mem_tolAssigns.mp hkv with ⟨s, hs, hv, hk⟩ | ⟨ph, hph', s, hs, hv, hk⟩
  · obtain ⟨i, -, hl, -, hr⟩ := hgas s hs v hv
    exact ⟨i, by rw [show k = s.name from hk]; exact hl, hr⟩
  · obtain ⟨i, -, hl, -, hr⟩ := hph ph hph' s hs v hv
    exact ⟨i, by rw [show k = ph.1 ++ "." ++ s.name from hk]; exact hl, hr⟩

/-- The builder sets the absolute tolerances by name: two builds over the same names with the same
    tolerance declarations (as a set of (key, value) pairs, one per key) and the same default
    produce tolerance vectors that hold the same value for every species name. -/
theorem C14_atol_by_name {dflt : K} {labelsOf₁ labelsOf₂ : List (Process K) → List String}
    {inp₁ inp₂ : BuildInput K} {b₁ b₂ : Built K} {sys₁ sys₂ : SystemDecl K}
    (h₁ : build dflt labelsOf₁ inp₁ = .ok b₁) (h₂ : build dflt labelsOf₂ inp₂ = .ok b₂)
    (hsys₁ : inp₁.system = some sys₁) (hsys₂ : inp₂.system = some sys₂)
    (hn : sys₁.uniqueNames.Nodup) (hperm : sys₂.uniqueNames.Perm sys₁.uniqueNames)
    (hd₁ : ((tolAssigns sys₁).map (·.1)).Nodup) (hd₂ : ((tolAssigns sys₂).map (·.1)).Nodup)
    (hsame : ∀ kv, kv ∈ tolAssigns sys₂ ↔ kv ∈ tolAssigns sys₁) :
    ByName b₁.speciesMap b₂.speciesMap b₁.atol b₂.atol := by
  have hn' := hperm.nodup_iff.mpr hn
  obtain ⟨hb₁, -, -, -⟩ := C14_build_bijection h₁ hsys₁ hn
  obtain ⟨hb₂, -, -, -⟩ := C14_build_bijection h₂ hsys₂ hn'
  obtain ⟨key₁, def₁⟩ := C14_tolerance_by_key h₁ hsys₁ hn hd₁
  obtain ⟨key₂, def₂⟩ := C14_tolerance_by_key h₂ hsys₂ hn' hd₂
  intro name i₁ i₂ hl₁ hl₂
  by_cases hex : ∃ v, (name, v) ∈ tolAssigns sys₁
  · obtain ⟨v, hv⟩ := hex
    obtain ⟨j₁, hj₁, hr₁⟩ := key₁ name v hv
    obtain ⟨j₂, hj₂, hr₂⟩ := key₂ name v ((hsame _).mpr hv)
    rw [hl₁] at hj₁
    rw [hl₂] at hj₂
    cases hj₁
    cases hj₂
    rw [hr₁, hr₂]
  · rw [def₁ i₁ (hb₁.lt name i₁ hl₁) (fun kv hkv hc => hex ⟨kv.2, by
        rw [← hb₁.inj kv.1 name i₁ hc hl₁]; exact hkv⟩),
      def₂ i₂ (hb₂.lt name i₂ hl₂) (fun kv hkv hc => hex ⟨kv.2, by
        rw [← hb₂.inj kv.1 name i₂ hc hl₂]; exact (hsame _).mp hkv⟩)]

theorem C14_byName_of_entries {m₁ m₂ : NameMap} {x₁ x₂ : Array K}
    (h : ∀ e₁ ∈ m₁, ∀ e₂ ∈ m₂, e₁.1 = e₂.1 → rd x₂ e₂.2 = rd x₁ e₁.2) : ByName m₁ m₂ x₁ x₂ :=
  fun name i₁ i₂ h1 h2 =>
    h (name, i₁) (nmLookup_eq_some_mem h1) (name, i₂) (nmLookup_eq_some_mem h2) rfl

theorem builds_relabel_setup
    {dflt₁ dflt₂ : K} {labelsOf₁ labelsOf₂ : List (Process K) → List String}
    {inp₁ inp₂ : BuildInput K} {b₁ b₂ : Built K} {sys₁ sys₂ : SystemDecl K} {procs : List (Process K)}
    (h₁ : build dflt₁ labelsOf₁ inp₁ = .ok b₁) (h₂ : build dflt₂ labelsOf₂ inp₂ = .ok b₂)
    (hsys₁ : inp₁.system = some sys₁) (hsys₂ : inp₂.system = some sys₂)
    (hr₁ : inp₁.reactions = some procs) (hr₂ : inp₂.reactions = some procs)
    (hn : sys₁.uniqueNames.Nodup) (hperm : sys₂.uniqueNames.Perm sys₁.uniqueNames)
    (hparam : ∀ q ∈ procs, ∀ r ∈ q.reactants, r.param = true → r.name ∉ sys₁.uniqueNames) :
    NmBij b₁.speciesMap b₁.nSpecies ∧ Mechanism procs b₁.speciesMap b₁.tables b₁.nSpecies ∧
    b₂.nSpecies = b₁.nSpecies ∧
    ∃ σ : Nat → Nat, (∀ i, i < b₁.nSpecies → ∀ j, j < b₁.nSpecies → σ i = σ j → i = j) ∧
      (∀ i, i < b₁.nSpecies → σ i < b₁.nSpecies) ∧ b₂.speciesMap = relabel σ b₁.speciesMap ∧
      ProcessSet.build procs (relabel σ b₁.speciesMap) = .ok b₂.tables := by
  obtain ⟨hb₁, hk₁, -, hp₁⟩ := C14_build_bijection h₁ hsys₁ hn
  obtain ⟨-, -, -, hp₂⟩ := C14_build_bijection h₂ hsys₂ (hperm.nodup_iff.mpr hn)
  obtain ⟨e, hinj, hrng, hrel, -⟩ := C14_builds_relabel h₁ h₂ hsys₁ hsys₂ hn hperm
  rw [hr₁, Option.getD_some] at hp₁
  rw [hr₂, Option.getD_some, hrel] at hp₂
  exact ⟨hb₁, Mechanism.of_bij hp₁ hb₁ fun q hq r hr hpar hmem => hparam q hq r hr hpar (hk₁.mem_iff.mp hmem),
    e, _, hinj, hrng, hrel, hp₂⟩

section Solve
variable (o : Ops K) (cs : Consts K) (p : RosParams K) (kc : Mat K) (rtol T : K)

/-- **C14, the solution by name.**  Two successful builds of the same reactions `procs` over systems
    with the same unique names (`sys₂.uniqueNames` a rearrangement of `sys₁.uniqueNames`; the
    reordering options, default tolerances, label functions may differ), parameterized reactants
    not being state species; `s₁`, `s₂` the solvers built from them in any two configurations;
    absolute tolerances and initial concentrations given *by name*; States of the right shapes; no
    vanishing pivot in either run.  Then both `rosSolve` runs have the same status, final time,
    step history `(H, error, accepted)` and counters, and report the same concentration for every
    species name in every cell. -/
theorem C14_solution_by_name
    {dflt₁ dflt₂ : K} {labelsOf₁ labelsOf₂ : List (Process K) → List String}
    {inp₁ inp₂ : BuildInput K} {b₁ b₂ : Built K} {sys₁ sys₂ : SystemDecl K} {procs : List (Process K)}
    (h₁ : build dflt₁ labelsOf₁ inp₁ = .ok b₁) (h₂ : build dflt₂ labelsOf₂ inp₂ = .ok b₂)
    (hsys₁ : inp₁.system = some sys₁) (hsys₂ : inp₂.system = some sys₂)
    (hr₁ : inp₁.reactions = some procs) (hr₂ : inp₂.reactions = some procs)
    (hn : sys₁.uniqueNames.Nodup) (hperm : sys₂.uniqueNames.Perm sys₁.uniqueNames)
    (hparam : ∀ q ∈ procs, ∀ r ∈ q.reactants, r.param = true → r.name ∉ sys₁.uniqueNames)
    (s₁ s₂ : SolverCfg K) (csc₁ csc₂ : Bool) (Ls₁ Ls₂ : Nat) (kind₁ kind₂ : LUKind)
    (hs₁ : CfgBuilt s₁ b₁.tables b₁.nSpecies csc₁ Ls₁ kind₁)
    (hs₂ : CfgBuilt s₂ b₂.tables b₂.nSpecies csc₂ Ls₂ kind₂)
    (nCells : Nat) (atol₁ atol₂ : Array K) (hat : ByName b₁.speciesMap b₂.speciesMap atol₁ atol₂)
    (Y₁ Y₂ : Mat K) (hYs₁ : MatShape nCells b₁.nSpecies Y₁) (hYs₂ : MatShape nCells b₂.nSpecies Y₂)
    (hY : ∀ c, c < nCells → ByName b₁.speciesMap b₂.speciesMap (Y₁.getD c #[]) (Y₂.getD c #[]))
    (sc₁ sc₂ : Scratch K) (fuel : Nat)
    (hK₁ : KShape nCells b₁.nSpecies sc₁.k) (hksz₁ : p.stages ≤ sc₁.k.size)
    (hf₁ : MatShape nCells b₁.nSpecies sc₁.f0) (hye₁ : MatShape nCells b₁.nSpecies sc₁.yerr)
    (hj₁ : MatShape nCells s₁.la.A.nnz sc₁.jac)
    (hl₁ : s₁.la.kind.inPlace = false → MatShape nCells s₁.la.Lp.nnz sc₁.lower)
    (hu₁ : s₁.la.kind.inPlace = false → MatShape nCells s₁.la.Up.nnz sc₁.upper)
    (hK₂ : KShape nCells b₂.nSpecies sc₂.k) (hksz₂ : p.stages ≤ sc₂.k.size)
    (hf₂ : MatShape nCells b₂.nSpecies sc₂.f0) (hye₂ : MatShape nCells b₂.nSpecies sc₂.yerr)
    (hj₂ : MatShape nCells s₂.la.A.nnz sc₂.jac)
    (hl₂ : s₂.la.kind.inPlace = false → MatShape nCells s₂.la.Lp.nnz sc₂.lower)
    (hu₂ : s₂.la.kind.inPlace = false → MatShape nCells s₂.la.Up.nnz sc₂.upper)
    (hpiv₁ : ∀ j, j < fuel → PivotsOK o cs p kc T s₁ nCells b₁.nSpecies
      ((rosStep o cs s₁ p kc atol₁ rtol T (hmaxEff o p T))^[j] (rosInit (initialH o cs p T) Y₁ sc₁)))
    (hpiv₂ : ∀ j, j < fuel → PivotsOK o cs p kc T s₂ nCells b₂.nSpecies
      ((rosStep o cs s₂ p kc atol₂ rtol T (hmaxEff o p T))^[j] (rosInit (initialH o cs p T) Y₂ sc₂))) :
    (rosSolve o cs s₂ p kc atol₂ rtol T Y₂ sc₂ fuel).status
        = (rosSolve o cs s₁ p kc atol₁ rtol T Y₁ sc₁ fuel).status ∧
    (rosSolve o cs s₂ p kc atol₂ rtol T Y₂ sc₂ fuel).finalTime
        = (rosSolve o cs s₁ p kc atol₁ rtol T Y₁ sc₁ fuel).finalTime ∧
    (∀ c, c < nCells → ByName b₁.speciesMap b₂.speciesMap
      ((rosSolve o cs s₁ p kc atol₁ rtol T Y₁ sc₁ fuel).Y.getD c #[])
      ((rosSolve o cs s₂ p kc atol₂ rtol T Y₂ sc₂ fuel).Y.getD c #[])) ∧
    (rosSolve o cs s₂ p kc atol₂ rtol T Y₂ sc₂ fuel).trace.map attLog
        = (rosSolve o cs s₁ p kc atol₁ rtol T Y₁ sc₁ fuel).trace.map attLog ∧
    (rosSolve o cs s₂ p kc atol₂ rtol T Y₂ sc₂ fuel).stats.numberOfSteps
        = (rosSolve o cs s₁ p kc atol₁ rtol T Y₁ sc₁ fuel).stats.numberOfSteps ∧
    (rosSolve o cs s₂ p kc atol₂ rtol T Y₂ sc₂ fuel).stats.accepted
        = (rosSolve o cs s₁ p kc atol₁ rtol T Y₁ sc₁ fuel).stats.accepted ∧
    (rosSolve o cs s₂ p kc atol₂ rtol T Y₂ sc₂ fuel).stats.rejected
        = (rosSolve o cs s₁ p kc atol₁ rtol T Y₁ sc₁ fuel).stats.rejected ∧
    (rosSolve o cs s₂ p kc atol₂ rtol T Y₂ sc₂ fuel).stats.decompositions
        = (rosSolve o cs s₁ p kc atol₁ rtol T Y₁ sc₁ fuel).stats.decompositions ∧
    (rosSolve o cs s₂ p kc atol₂ rtol T Y₂ sc₂ fuel).stats.solves
        = (rosSolve o cs s₁ p kc atol₁ rtol T Y₁ sc₁ fuel).stats.solves ∧
    (rosSolve o cs s₂ p kc atol₂ rtol T Y₂ sc₂ fuel).stats.functionCalls
        = (rosSolve o cs s₁ p kc atol₁ rtol T Y₁ sc₁ fuel).stats.functionCalls ∧
    (s₁.la.kind.inPlace = s₂.la.kind.inPlace →
      (rosSolve o cs s₂ p kc atol₂ rtol T Y₂ sc₂ fuel).stats.jacobianUpdates
        = (rosSolve o cs s₁ p kc atol₁ rtol T Y₁ sc₁ fuel).stats.jacobianUpdates) := by
  obtain ⟨hb₁, hmech, e, σ, hinj, hrng, hrel, hp₂⟩ :=
    builds_relabel_setup h₁ h₂ hsys₁ hsys₂ hr₁ hr₂ hn hperm hparam
  rw [e] at hs₂ hYs₂ hK₂ hf₂ hye₂ hpiv₂
  rw [hrel] at hat hY ⊢
  obtain ⟨g1, g2, g3, g4, g5, g6, g7, g8, g9, g10, g11⟩ :=
    C12_solve_relabel o cs p kc atol₁ atol₂ rtol T σ hinj hrng hmech hp₂ s₁ s₂ csc₁ csc₂ Ls₁ Ls₂
      kind₁ kind₂ hs₁ hs₂ nCells ((byName_relabel_iff hb₁ σ _ _).mp hat) Y₁ Y₂ hYs₁ hYs₂
      (fun c hc => (byName_relabel_iff hb₁ σ _ _).mp (hY c hc)) sc₁ sc₂ fuel
      hK₁ hksz₁ hf₁ hye₁ hj₁ hl₁ hu₁ hK₂ hksz₂ hf₂ hye₂ hj₂ hl₂ hu₂ hpiv₁ hpiv₂
  exact ⟨g1, g2, fun c hc => (byName_relabel_iff hb₁ σ _ _).mpr (g3.2.2 c hc), g4, g5, g6, g7, g8, g9,
    g10, g11⟩

/-- **C14, the solution by name, backward Euler**: the same for `beSolve` (same status, final
    time, all statistics, sequence of step sizes; same concentration per species name) -/
theorem C14_be_solution_by_name (pb : BEParams K)
    {dflt₁ dflt₂ : K} {labelsOf₁ labelsOf₂ : List (Process K) → List String}
    {inp₁ inp₂ : BuildInput K} {b₁ b₂ : Built K} {sys₁ sys₂ : SystemDecl K} {procs : List (Process K)}
    (h₁ : build dflt₁ labelsOf₁ inp₁ = .ok b₁) (h₂ : build dflt₂ labelsOf₂ inp₂ = .ok b₂)
    (hsys₁ : inp₁.system = some sys₁) (hsys₂ : inp₂.system = some sys₂)
    (hr₁ : inp₁.reactions = some procs) (hr₂ : inp₂.reactions = some procs)
    (hn : sys₁.uniqueNames.Nodup) (hperm : sys₂.uniqueNames.Perm sys₁.uniqueNames)
    (hparam : ∀ q ∈ procs, ∀ r ∈ q.reactants, r.param = true → r.name ∉ sys₁.uniqueNames)
    (s₁ s₂ : SolverCfg K) (csc₁ csc₂ : Bool) (Ls₁ Ls₂ : Nat) (kind₁ kind₂ : LUKind)
    (hs₁ : CfgBuilt s₁ b₁.tables b₁.nSpecies csc₁ Ls₁ kind₁)
    (hs₂ : CfgBuilt s₂ b₂.tables b₂.nSpecies csc₂ Ls₂ kind₂)
    (nCells : Nat) (atol₁ atol₂ : Array K) (hat : ByName b₁.speciesMap b₂.speciesMap atol₁ atol₂)
    (Y₁ Y₂ : Mat K) (hYs₁ : MatShape nCells b₁.nSpecies Y₁) (hYs₂ : MatShape nCells b₂.nSpecies Y₂)
    (hY : ∀ c, c < nCells → ByName b₁.speciesMap b₂.speciesMap (Y₁.getD c #[]) (Y₂.getD c #[]))
    (sc₁ sc₂ : Scratch K) (fuel : Nat)
    (hf₁ : MatShape nCells b₁.nSpecies sc₁.f0) (hj₁ : MatShape nCells s₁.la.A.nnz sc₁.jac)
    (hl₁ : s₁.la.kind.inPlace = false → MatShape nCells s₁.la.Lp.nnz sc₁.lower)
    (hu₁ : s₁.la.kind.inPlace = false → MatShape nCells s₁.la.Up.nnz sc₁.upper)
    (hf₂ : MatShape nCells b₂.nSpecies sc₂.f0) (hj₂ : MatShape nCells s₂.la.A.nnz sc₂.jac)
    (hl₂ : s₂.la.kind.inPlace = false → MatShape nCells s₂.la.Lp.nnz sc₂.lower)
    (hu₂ : s₂.la.kind.inPlace = false → MatShape nCells s₂.la.Up.nnz sc₂.upper)
    (hpiv₁ : ∀ j, j < fuel → BEPivotsOK o kc T s₁ nCells b₁.nSpecies
      ((beStep o s₁ pb kc atol₁ rtol T)^[j] (beInit (beInitialH o pb T) Y₁ sc₁)))
    (hpiv₂ : ∀ j, j < fuel → BEPivotsOK o kc T s₂ nCells b₂.nSpecies
      ((beStep o s₂ pb kc atol₂ rtol T)^[j] (beInit (beInitialH o pb T) Y₂ sc₂))) :
    (beSolve o s₂ pb kc atol₂ rtol T Y₂ sc₂ fuel).status
        = (beSolve o s₁ pb kc atol₁ rtol T Y₁ sc₁ fuel).status ∧
    (beSolve o s₂ pb kc atol₂ rtol T Y₂ sc₂ fuel).finalTime
        = (beSolve o s₁ pb kc atol₁ rtol T Y₁ sc₁ fuel).finalTime ∧
    (beSolve o s₂ pb kc atol₂ rtol T Y₂ sc₂ fuel).stats
        = (beSolve o s₁ pb kc atol₁ rtol T Y₁ sc₁ fuel).stats ∧
    (∀ c, c < nCells → ByName b₁.speciesMap b₂.speciesMap
      ((beSolve o s₁ pb kc atol₁ rtol T Y₁ sc₁ fuel).Y.getD c #[])
      ((beSolve o s₂ pb kc atol₂ rtol T Y₂ sc₂ fuel).Y.getD c #[])) ∧
    (beSolve o s₂ pb kc atol₂ rtol T Y₂ sc₂ fuel).trace.map (·.h)
        = (beSolve o s₁ pb kc atol₁ rtol T Y₁ sc₁ fuel).trace.map (·.h) := by
  obtain ⟨hb₁, hmech, e, σ, hinj, hrng, hrel, hp₂⟩ :=
    builds_relabel_setup h₁ h₂ hsys₁ hsys₂ hr₁ hr₂ hn hperm hparam
  rw [e] at hs₂ hYs₂ hf₂ hpiv₂
  rw [hrel] at hat hY ⊢
  obtain ⟨g1, g2, g3, g4, g5⟩ :=
    C12_be_solve_relabel o kc atol₁ atol₂ rtol T pb σ hinj hrng hmech hp₂ s₁ s₂ csc₁ csc₂ Ls₁ Ls₂
      kind₁ kind₂ hs₁ hs₂ nCells ((byName_relabel_iff hb₁ σ _ _).mp hat) Y₁ Y₂ hYs₁ hYs₂
      (fun c hc => (byName_relabel_iff hb₁ σ _ _).mp (hY c hc)) sc₁ sc₂ fuel
      hf₁ hj₁ hl₁ hu₁ hf₂ hj₂ hl₂ hu₂ hpiv₁ hpiv₂
  exact ⟨g1, g2, g3, fun c hc => (byName_relabel_iff hb₁ σ _ _).mpr (g4.2.2 c hc), g5⟩

end Solve

/-! ## Examples: C02's mechanism `s0 + s0 + s1 → 2 s2 ; s2 → s0` built from a `SystemDecl`,
    (A) reordering off vs. on — Markowitz exchanges `s0` and `s1`; (B) species listed as
    `s2, s0, s1` — a 3-cycle of the indices.  Tolerances come from the species' properties. -/

namespace C14bEx
open C12Ex

def exSys : SystemDecl ℚ :=
  { gas := [{ name := "s0", atol := some (1/10) }, { name := "s1", atol := some (1/5) },
            { name := "s2", atol := some (1/20) }], phases := [] }

def exSys' : SystemDecl ℚ :=
  { gas := [{ name := "s2", atol := some (1/20) }, { name := "s0", atol := some (1/10) },
            { name := "s1", atol := some (1/5) }], phases := [] }

def exInp (sys : SystemDecl ℚ) (reorder : Bool) : BuildInput ℚ :=
  { system := some sys, reactions := some (c02Procs ℚ), reorder := reorder }

def exB (sys : SystemDecl ℚ) (reorder : Bool) : Built ℚ :=
  match build (1/1000) (fun _ => []) (exInp sys reorder) with
  | .ok b => b
  | .error _ => default

theorem exB_ok {sys : SystemDecl ℚ} {reorder : Bool}
    (h : (build (1/1000) (fun _ => []) (exInp sys reorder)).toOption.isSome = true) :
    build (1/1000) (fun _ => []) (exInp sys reorder) = .ok (exB sys reorder) := by
  unfold exB
  revert h
  cases build (1/1000) (fun _ => []) (exInp sys reorder) with
  | ok b => exact fun _ => rfl
  | error e => exact fun h => nomatch h

theorem exBuild_off : build (1/1000) (fun _ => []) (exInp exSys false) = .ok (exB exSys false) :=
  exB_ok (by decide +kernel)
theorem exBuild_on : build (1/1000) (fun _ => []) (exInp exSys true) = .ok (exB exSys true) :=
  exB_ok (by decide +kernel)
theorem exBuild_listed : build (1/1000) (fun _ => []) (exInp exSys' false) = .ok (exB exSys' false) :=
  exB_ok (by decide +kernel)

example : (exB exSys false).speciesMap = [("s0", 0), ("s1", 1), ("s2", 2)] ∧
    (exB exSys true).speciesMap = [("s0", 1), ("s1", 0), ("s2", 2)] ∧
    (exB exSys' false).speciesMap = [("s0", 1), ("s1", 2), ("s2", 0)] ∧
    (exB exSys false).atol = #[1/10, 1/5, 1/20] ∧ (exB exSys true).atol = #[1/5, 1/10, 1/20] ∧
    (exB exSys' false).atol = #[1/20, 1/10, 1/5] := by decide +kernel

example : (List.range 3).map (nameSigma (exB exSys false).speciesMap (exB exSys true).speciesMap) = [1, 0, 2] ∧
    (List.range 3).map (nameSigma (exB exSys false).speciesMap (exB exSys' false).speciesMap) = [1, 2, 0] := by
  decide +kernel

def exCfg (b : Built ℚ) (kind : LUKind) (csc : Bool) (L : Nat) : SolverCfg ℚ :=
  let la := LinAlg.build kind
    (Pattern.mk' b.nSpecies csc L (buildJacobianSet b.nSpecies b.tables.nonZeroJacobianElements))
  { nSpecies := b.nSpecies, L := L, tables := b.tables,
    flatIds := match b.tables.jacobianFlatIds la.A with | .ok f => f | .error _ => [],
    la := la, diag := la.A.diagRanks }

def cfg₁ : SolverCfg ℚ := exCfg (exB exSys false) .doolittle false 0
def cfgA₂ : SolverCfg ℚ := exCfg (exB exSys true) .mozartInPlace true 2
def cfgB₂ : SolverCfg ℚ := exCfg (exB exSys' false) .doolittleInPlace false 3

theorem exCfg_built (b : Built ℚ) (kind : LUKind) (csc : Bool) (L : Nat)
    (h : (b.tables.jacobianFlatIds (exCfg b kind csc L).la.A).toOption.isSome = true) :
    CfgBuilt (exCfg b kind csc L) b.tables b.nSpecies csc L kind := by
  refine ⟨rfl, rfl, rfl, ?_, rfl⟩
  show _ = Except.ok (match b.tables.jacobianFlatIds (exCfg b kind csc L).la.A with
    | .ok f => f | .error _ => [])
  revert h
  cases b.tables.jacobianFlatIds (exCfg b kind csc L).la.A with
  | ok f => exact fun _ => rfl
  | error e => exact fun h => nomatch h

theorem cfg₁_built : CfgBuilt cfg₁ (exB exSys false).tables (exB exSys false).nSpecies false 0 .doolittle :=
  exCfg_built _ _ _ _ (by decide +kernel)
theorem cfgA₂_built :
    CfgBuilt cfgA₂ (exB exSys true).tables (exB exSys true).nSpecies true 2 .mozartInPlace :=
  exCfg_built _ _ _ _ (by decide +kernel)
theorem cfgB₂_built :
    CfgBuilt cfgB₂ (exB exSys' false).tables (exB exSys' false).nSpecies false 3 .doolittleInPlace :=
  exCfg_built _ _ _ _ (by decide +kernel)

/-- `s0 = 2, s1 = 7, s2 = 11` in cell 0, laid out through each of the three species maps -/
def exY₁ : Mat ℚ := #[#[2, 7, 11], #[1, 1, 1]]
def exYA₂ : Mat ℚ := #[#[7, 2, 11], #[1, 1, 1]]
def exYB₂ : Mat ℚ := #[#[11, 2, 7], #[1, 1, 1]]

theorem exParam : ∀ q ∈ c02Procs ℚ, ∀ r ∈ q.reactants, r.param = true → r.name ∉ exSys.uniqueNames := by
  decide

theorem exNodup : exSys.uniqueNames.Nodup := by decide
theorem exPerm : exSys'.uniqueNames.Perm exSys.uniqueNames := by decide

theorem exB_nSpecies : (exB exSys false).nSpecies = 3 ∧ (exB exSys true).nSpecies = 3 ∧
    (exB exSys' false).nSpecies = 3 := by decide +kernel

/-- the first build is the mechanism of C12's examples, so the first configuration is C12's
    configuration A and the first run is the run whose pivots `exPivotsA` checks -/
theorem exB_off : (exB exSys false).speciesMap = c02Map ∧ (exB exSys false).atol = exAtolA := by
  decide +kernel

theorem cfg₁_eq : cfg₁ = cfgA := by
  have h := (C14_build_bijection exBuild_off rfl exNodup).2.2.2
  rw [exB_off.1] at h
  have ht : (exB exSys false).tables = c02Tables ℚ := Except.ok.inj (h.symm.trans (c02Build ℚ))
  unfold cfg₁ cfgA exCfg solveCfg
  rw [ht, exB_nSpecies.1]
  rfl

theorem exPivots₁ : ∀ j, j < 4 → PivotsOK ratOps Ex.consts Ex.params exKc 1 cfg₁ 2 (exB exSys false).nSpecies
    ((rosStep ratOps Ex.consts cfg₁ Ex.params exKc (exB exSys false).atol (1/10) 1
        (hmaxEff ratOps Ex.params 1))^[j]
      (rosInit (initialH ratOps Ex.consts Ex.params 1) exY₁ (solveScratch cfg₁))) := by
  rw [cfg₁_eq, exB_off.2, exB_nSpecies.1]
  exact exPivotsA

theorem exPivotsA₂ : ∀ j, j < 4 → PivotsOK ratOps Ex.consts Ex.params exKc 1 cfgA₂ 2 (exB exSys true).nSpecies
    ((rosStep ratOps Ex.consts cfgA₂ Ex.params exKc (exB exSys true).atol (1/10) 1
        (hmaxEff ratOps Ex.params 1))^[j]
      (rosInit (initialH ratOps Ex.consts Ex.params 1) exYA₂ (solveScratch cfgA₂))) := by
  unfold PivotsOK
  decide +kernel

theorem exPivotsB₂ : ∀ j, j < 4 → PivotsOK ratOps Ex.consts Ex.params exKc 1 cfgB₂ 2 (exB exSys' false).nSpecies
    ((rosStep ratOps Ex.consts cfgB₂ Ex.params exKc (exB exSys' false).atol (1/10) 1
        (hmaxEff ratOps Ex.params 1))^[j]
      (rosInit (initialH ratOps Ex.consts Ex.params 1) exYB₂ (solveScratch cfgB₂))) := by
  unfold PivotsOK
  decide +kernel

theorem scratch_dense {n : Nat} (hn : n = 3) : MatShape 2 n dense0 := hn ▸ dense0_shape

theorem scratch_k (s : SolverCfg ℚ) {n : Nat} (hn : n = 3) : KShape 2 n (solveScratch s).k :=
  hn ▸ solveScratch_k s

theorem exY_shape {n : Nat} (hn : n = 3) {Y : Mat ℚ}
    (hY : Y.size = 2 ∧ ∀ c, c < 2 → (Y.getD c #[]).size = 3) : MatShape 2 n Y := hn ▸ hY

theorem exAtol_A : ByName (exB exSys false).speciesMap (exB exSys true).speciesMap
    (exB exSys false).atol (exB exSys true).atol :=
  C14_atol_by_name exBuild_off exBuild_on rfl rfl exNodup (List.Perm.refl _) (by decide) (by decide)
    (fun _ => Iff.rfl)

theorem exAtol_B : ByName (exB exSys false).speciesMap (exB exSys' false).speciesMap
    (exB exSys false).atol (exB exSys' false).atol :=
  C14_atol_by_name exBuild_off exBuild_listed rfl rfl exNodup exPerm (by decide) (by decide)
    (fun _ => (by decide +kernel : (tolAssigns exSys').Perm (tolAssigns exSys)).mem_iff)

theorem exY_A : ∀ c, c < 2 → ByName (exB exSys false).speciesMap (exB exSys true).speciesMap
    (exY₁.getD c #[]) (exYA₂.getD c #[]) :=
  fun c hc => C14_byName_of_entries ((by decide +kernel :
    ∀ c, c < 2 → ∀ e₁ ∈ (exB exSys false).speciesMap, ∀ e₂ ∈ (exB exSys true).speciesMap,
      e₁.1 = e₂.1 → rd (exYA₂.getD c #[]) e₂.2 = rd (exY₁.getD c #[]) e₁.2) c hc)

theorem exY_B : ∀ c, c < 2 → ByName (exB exSys false).speciesMap (exB exSys' false).speciesMap
    (exY₁.getD c #[]) (exYB₂.getD c #[]) :=
  fun c hc => C14_byName_of_entries ((by decide +kernel :
    ∀ c, c < 2 → ∀ e₁ ∈ (exB exSys false).speciesMap, ∀ e₂ ∈ (exB exSys' false).speciesMap,
      e₁.1 = e₂.1 → rd (exYB₂.getD c #[]) e₂.2 = rd (exY₁.getD c #[]) e₁.2) c hc)

example :=
  C14_solution_by_name ratOps Ex.consts Ex.params exKc (1/10) 1 exBuild_off exBuild_on rfl rfl rfl rfl
    exNodup (List.Perm.refl _) exParam cfg₁ cfgA₂ false true 0 2 .doolittle .mozartInPlace
    cfg₁_built cfgA₂_built 2 (exB exSys false).atol (exB exSys true).atol exAtol_A
    exY₁ exYA₂ (exY_shape exB_nSpecies.1 (by decide)) (exY_shape exB_nSpecies.2.1 (by decide)) exY_A
    (solveScratch cfg₁) (solveScratch cfgA₂) 4
    (scratch_k cfg₁ exB_nSpecies.1) (by decide) (scratch_dense exB_nSpecies.1)
    (scratch_dense exB_nSpecies.1) (solveScratch_jac cfg₁)
    (fun _ => solveScratch_lower cfg₁) (fun _ => solveScratch_upper cfg₁)
    (scratch_k cfgA₂ exB_nSpecies.2.1) (by decide) (scratch_dense exB_nSpecies.2.1)
    (scratch_dense exB_nSpecies.2.1) (solveScratch_jac cfgA₂)
    (fun h => by cases h) (fun h => by cases h) exPivots₁ exPivotsA₂

example :=
  C14_solution_by_name ratOps Ex.consts Ex.params exKc (1/10) 1 exBuild_off exBuild_listed rfl rfl rfl rfl
    exNodup exPerm exParam cfg₁ cfgB₂ false false 0 3 .doolittle .doolittleInPlace
    cfg₁_built cfgB₂_built 2 (exB exSys false).atol (exB exSys' false).atol exAtol_B
    exY₁ exYB₂ (exY_shape exB_nSpecies.1 (by decide)) (exY_shape exB_nSpecies.2.2 (by decide)) exY_B
    (solveScratch cfg₁) (solveScratch cfgB₂) 4
    (scratch_k cfg₁ exB_nSpecies.1) (by decide) (scratch_dense exB_nSpecies.1)
    (scratch_dense exB_nSpecies.1) (solveScratch_jac cfg₁)
    (fun _ => solveScratch_lower cfg₁) (fun _ => solveScratch_upper cfg₁)
    (scratch_k cfgB₂ exB_nSpecies.2.2) (by decide) (scratch_dense exB_nSpecies.2.2)
    (scratch_dense exB_nSpecies.2.2) (solveScratch_jac cfgB₂)
    (fun h => by cases h) (fun h => by cases h) exPivots₁ exPivotsB₂

theorem exRun₁ :
    (rosSolve ratOps Ex.consts cfg₁ Ex.params exKc (exB exSys false).atol (1/10) 1 exY₁
      (solveScratch cfg₁) 4).trace.length = 4 ∧
    (rosSolve ratOps Ex.consts cfg₁ Ex.params exKc (exB exSys false).atol (1/10) 1 exY₁
      (solveScratch cfg₁) 4).Y ≠ exY₁ := by
  decide +kernel

/-- Only the first run is evaluated; what is said of the other two follows from
    `C14_solution_by_name`, whose step history `attLog` holds `(H, error, accepted)`. -/
example :
    let R₁ := rosSolve ratOps Ex.consts cfg₁ Ex.params exKc (exB exSys false).atol (1/10) 1 exY₁
      (solveScratch cfg₁) 4
    let RA := rosSolve ratOps Ex.consts cfgA₂ Ex.params exKc (exB exSys true).atol (1/10) 1 exYA₂
      (solveScratch cfgA₂) 4
    let RB := rosSolve ratOps Ex.consts cfgB₂ Ex.params exKc (exB exSys' false).atol (1/10) 1 exYB₂
      (solveScratch cfgB₂) 4
    R₁.trace.length = 4 ∧ R₁.Y ≠ exY₁ ∧
    RA.trace.map (fun a => (a.h, a.accepted)) = R₁.trace.map (fun a => (a.h, a.accepted)) ∧
    RB.trace.map (fun a => (a.h, a.accepted)) = R₁.trace.map (fun a => (a.h, a.accepted)) ∧
    (∀ c, c < 2 → ∀ name ∈ ["s0", "s1", "s2"],
      (nmLookup (exB exSys true).speciesMap name).map (rd (RA.Y.getD c #[]))
        = (nmLookup (exB exSys false).speciesMap name).map (rd (R₁.Y.getD c #[])) ∧
      (nmLookup (exB exSys' false).speciesMap name).map (rd (RB.Y.getD c #[]))
        = (nmLookup (exB exSys false).speciesMap name).map (rd (R₁.Y.getD c #[]))) := by
  intro R₁ RA RB
  obtain ⟨-, -, hYA, hTA, -⟩ :=
    C14_solution_by_name ratOps Ex.consts Ex.params exKc (1/10) 1 exBuild_off exBuild_on rfl rfl rfl rfl
      exNodup (List.Perm.refl _) exParam cfg₁ cfgA₂ false true 0 2 .doolittle .mozartInPlace
      cfg₁_built cfgA₂_built 2 (exB exSys false).atol (exB exSys true).atol exAtol_A
      exY₁ exYA₂ (exY_shape exB_nSpecies.1 (by decide)) (exY_shape exB_nSpecies.2.1 (by decide)) exY_A
      (solveScratch cfg₁) (solveScratch cfgA₂) 4
      (scratch_k cfg₁ exB_nSpecies.1) (by decide) (scratch_dense exB_nSpecies.1)
      (scratch_dense exB_nSpecies.1) (solveScratch_jac cfg₁)
      (fun _ => solveScratch_lower cfg₁) (fun _ => solveScratch_upper cfg₁)
      (scratch_k cfgA₂ exB_nSpecies.2.1) (by decide) (scratch_dense exB_nSpecies.2.1)
      (scratch_dense exB_nSpecies.2.1) (solveScratch_jac cfgA₂)
      (fun h => by cases h) (fun h => by cases h) exPivots₁ exPivotsA₂
  obtain ⟨-, -, hYB, hTB, -⟩ :=
    C14_solution_by_name ratOps Ex.consts Ex.params exKc (1/10) 1 exBuild_off exBuild_listed rfl rfl rfl rfl
      exNodup exPerm exParam cfg₁ cfgB₂ false false 0 3 .doolittle .doolittleInPlace
      cfg₁_built cfgB₂_built 2 (exB exSys false).atol (exB exSys' false).atol exAtol_B
      exY₁ exYB₂ (exY_shape exB_nSpecies.1 (by decide)) (exY_shape exB_nSpecies.2.2 (by decide)) exY_B
      (solveScratch cfg₁) (solveScratch cfgB₂) 4
      (scratch_k cfg₁ exB_nSpecies.1) (by decide) (scratch_dense exB_nSpecies.1)
      (scratch_dense exB_nSpecies.1) (solveScratch_jac cfg₁)
      (fun _ => solveScratch_lower cfg₁) (fun _ => solveScratch_upper cfg₁)
      (scratch_k cfgB₂ exB_nSpecies.2.2) (by decide) (scratch_dense exB_nSpecies.2.2)
      (scratch_dense exB_nSpecies.2.2) (solveScratch_jac cfgB₂)
      (fun h => by cases h) (fun h => by cases h) exPivots₁ exPivotsB₂
  obtain ⟨-, -, -, -, hlA⟩ := C14_builds_relabel exBuild_off exBuild_on rfl rfl exNodup (List.Perm.refl _)
  obtain ⟨-, -, -, -, hlB⟩ := C14_builds_relabel exBuild_off exBuild_listed rfl rfl exNodup exPerm
  have hist : ∀ {l₁ l₂ : List (Attempt ℚ)}, l₂.map attLog = l₁.map attLog →
      l₂.map (fun a => (a.h, a.accepted)) = l₁.map (fun a => (a.h, a.accepted)) := fun h => by
    have := congrArg (List.map fun t : ℚ × ℚ × Bool => (t.1, t.2.2)) h
    rwa [List.map_map, List.map_map] at this
  exact ⟨exRun₁.1, exRun₁.2, hist hTA, hist hTB, fun c hc name _ =>
    ⟨(hYA c hc).map_lookup hlA name, (hYB c hc).map_lookup hlB name⟩⟩

end C14bEx

end Micm

#print axioms Micm.C14_build_bijection
#print axioms Micm.C14_builds_relabel
#print axioms Micm.C14_tolerance_by_key
#print axioms Micm.C14_atol_by_name
#print axioms Micm.C14_byName_of_entries
#print axioms Micm.C14_solution_by_name
#print axioms Micm.C14_be_solution_by_name
