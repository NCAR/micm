/-
C18 — JIT backend: requests the JIT cannot serve (cell count ≠ vector length) are rejected with the
documented error, never mis-computed.  Decision-logic theorems about the guards as written.
(Equivalence of the generated code with the CPU kernels is established by execution only: see
tools/check.py C18 — JIT vs CPU vs model, bit for bit.)
-/
import Micm.Model.JitGuard
namespace Micm

/-- a JIT solver can be built iff the cell count equals the vector length … -/
theorem C18_guard_build (L cells : Nat) : jitBuild L cells = .ok () ↔ cells = L := by
  unfold jitBuild jitLinearSolverGuard jitLuGuard
  by_cases h : cells > L
  · simp [h, bind, Except.bind]; omega
  · by_cases h2 : cells = L
    · simp [h2, bind, Except.bind]
    · simp [h, h2, bind, Except.bind]

/-- … and otherwise the outcome is exactly `std::system_error(MICM JIT, InvalidMatrix = 1)` -/
theorem C18_guard_error (L cells : Nat) (h : cells ≠ L) : jitBuild L cells = .error (.sys catJit 1) := by
  unfold jitBuild jitLinearSolverGuard jitLuGuard
  by_cases h1 : cells > L
  · simp [h1, bind, Except.bind]
  · simp [h1, h, bind, Except.bind]

/-- no generated function is ever applied to a matrix with another cell count: the per-call guard
    passes iff the block count equals `L` -/
theorem C18_guard_call (L blocks : Nat) : jitAlphaGuard L blocks = .ok () ↔ blocks = L := by
  unfold jitAlphaGuard
  by_cases h : L = blocks
  · simp [h]
  · simp [h]; omega

example : jitBuild 4 4 = .ok () ∧ jitBuild 4 3 = .error (.sys catJit 1) ∧ jitBuild 4 5 = .error (.sys catJit 1) :=
  ⟨(C18_guard_build 4 4).mpr rfl, C18_guard_error 4 3 (by decide), C18_guard_error 4 5 (by decide)⟩

end Micm
#print axioms Micm.C18_guard_build
#print axioms Micm.C18_guard_error
#print axioms Micm.C18_guard_call
