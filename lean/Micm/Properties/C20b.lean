/-
C20 (continued) — the documented error conditions outside the builder and the State, as decision
logic of the model functions in Model/Errors.lean and Model/Sparse.lean.
-/
import Micm.Model.Errors
namespace Micm

/-- a surface reaction is rejected iff it has more than one reactant, with (MICM Process, 1) -/
theorem C20_surface_error_iff (n : Nat) :
    (surfaceProcessCheck n = .error (.sys catProcess 1) ↔ 1 < n) ∧ (surfaceProcessCheck n = .ok () ↔ n ≤ 1) := by
  unfold surfaceProcessCheck
  by_cases h : n > 1
  · simp [h]
  · simp [h]; omega

/-- reading a species property: unsupported type ⇒ (MICM Species, 2); missing key ⇒ (MICM Species, 1); else success -/
theorem C20_property_error (ty : PropType) (present : Bool) :
    getPropertyCheck ty present =
      if ty = .unsupported then .error (.sys catSpecies 2)
      else if present then .ok () else .error (.sys catSpecies 1) := by
  cases ty <;> simp [getPropertyCheck]

/-- construction from nested vectors fails iff some row differs in length from the first, with (MICM Matrix, 2) -/
theorem C20_nested_error_iff (c : Nat) (rest : List Nat) :
    (nestedCheck (c :: rest) = .error (.sys catMatrix 2) ↔ ∃ x ∈ rest, x ≠ c) ∧
    (nestedCheck (c :: rest) = .ok (rest.length + 1, c) ↔ ∀ x ∈ rest, x = c) := by
  have hall : (c :: rest).all (· == c) = true ↔ ∀ x ∈ rest, x = c := by simp
  have hex : (∃ x ∈ rest, x ≠ c) ↔ ¬ ∀ x ∈ rest, x = c := by simp
  rw [hex, ← hall]
  show ((if (c :: rest).all (· == c) = true then _ else _) = _ ↔ _) ∧ ((if (c :: rest).all (· == c) = true then _ else _) = _ ↔ _)
  cases (c :: rest).all (· == c) <;> simp

theorem C20_nested_empty : nestedCheck [] = .ok (0, 0) := rfl

/-- row assignment fails iff the vector is shorter than the row, with (MICM Matrix, 1) -/
theorem C20_rowassign_iff (cols len : Nat) :
    (rowAssignCheck cols len = .error (.sys catMatrix 1) ↔ len < cols) ∧ (rowAssignCheck cols len = .ok () ↔ cols ≤ len) := by
  unfold rowAssignCheck
  by_cases h : len < cols
  · simp [h]
  · simp [h]; omega

/-- the two-argument `VectorIndex` is refused iff the matrix has several (or no) blocks, with (MICM Matrix, 4) -/
theorem C20_twoarg_iff (blocks : Nat) :
    (twoArgIndexCheck blocks = .error (.sys catMatrix 4) ↔ blocks ≠ 1) ∧ (twoArgIndexCheck blocks = .ok () ↔ blocks = 1) := by
  unfold twoArgIndexCheck
  by_cases h : blocks = 1
  · simp [h]
  · simp [h]

/-- `WithElement(x, y)` is refused iff an index is out of range, with ElementOutOfRange, and then nothing is inserted -/
theorem C20_builder_element_iff (n : Nat) (s : List Pair) (x y : Nat) :
    (builderWithElement n s x y = .error .elementOutOfRange ↔ (n ≤ x ∨ n ≤ y)) ∧
    (builderWithElement n s x y = .ok (setInsert (x, y) s) ↔ (x < n ∧ y < n)) := by
  unfold builderWithElement
  by_cases h : x ≥ n ∨ y ≥ n
  · have : (decide (x ≥ n) || decide (y ≥ n)) = true := by simpa using h
    simp [this]; omega
  · have : (decide (x ≥ n) || decide (y ≥ n)) = false := by
      rw [Bool.eq_false_iff]; simpa using h
    simp [this]; omega

example : surfaceProcessCheck 3 = .error (.sys catProcess 1) ∧ nestedCheck [2, 2, 3] = .error (.sys catMatrix 2)
    ∧ rowAssignCheck 3 2 = .error (.sys catMatrix 1) ∧ twoArgIndexCheck 2 = .error (.sys catMatrix 4) :=
  ⟨(C20_surface_error_iff 3).1.mpr (by decide), (C20_nested_error_iff 2 [2, 3]).1.mpr ⟨3, by simp, by decide⟩,
   (C20_rowassign_iff 3 2).1.mpr (by decide), (C20_twoarg_iff 2).1.mpr (by decide)⟩

end Micm
#print axioms Micm.C20_surface_error_iff
#print axioms Micm.C20_property_error
#print axioms Micm.C20_nested_error_iff
#print axioms Micm.C20_rowassign_iff
#print axioms Micm.C20_twoarg_iff
#print axioms Micm.C20_builder_element_iff
