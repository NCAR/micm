/-
C07 (backward-Euler part) — the step-size schedule of `BackwardEuler::Solve`.

Subject: `beStep` of `Micm/Model/BackwardEuler.lean` (one `beStep` = one Newton iteration; the tail of
an outer iteration is executed by the `beStep` that makes its last Newton iteration).  All theorems
are for an arbitrary carrier: the schedule is pure control flow.  Vocabulary
(`Micm/Lemmas/BEStep.lean`, `Lemmas/BackwardEuler.lean`):
* `beHead o T r`   the state after the `while (t < time_step)` test;
* `beConv … r`     the value of `converged` after this Newton iteration (`false` when `iterations = 0`);
* `cmin o a b`     `std::min(a, b)`;  `BECtlInv p r` the control invariants of the loop.
-/
import Micm.Lemmas.BackwardEuler

namespace Micm
set_option linter.unusedSectionVars false

section Any
variable {α : Type} [OfNat α 0] [OfNat α 1] [OfNat α 2] [Add α] [Sub α] [Mul α] [Div α]
variable (o : Ops α) (s : SolverCfg α) (p : BEParams α) (kc : Mat α) (atol : Array α) (rtol : α)
    (T : α)

/-- **failure, retried**: the outer iteration ends un-converged (`converged = false` and
    `iterations + 1 ≥ max_number_of_steps`) with `n_convergence_failures < reductions.size()`.
    Then `H ← min(H · reductions[n_convergence_failures], time_step − t)`, the failure counter is
    incremented, `n_successful_integrations ← 0`, `t` is unchanged, `Yn1 ← Yn`, the loop goes on. -/
theorem C07_be_schedule_retry (r : BEState α) (hd : (beHead o T r).done = false)
    (hc : beConv o s p kc atol rtol r = false) (hm : ¬ r.iterations + 1 < p.maxSteps)
    (hf : r.nFail < p.reductions.length) :
    let r' := beStep o s p kc atol rtol T r
    r'.h = cmin o (r.h * p.reductions[r.nFail]) (T - r.t) ∧ r'.t = r.t ∧
    r'.nFail = r.nFail + 1 ∧ r'.nSucc = 0 ∧ r'.stats.rejected = r.stats.rejected + 1 ∧
    r'.stats.accepted = r.stats.accepted ∧ r'.done = false ∧ r'.iterations = 0 ∧
    r'.Yn1 = r.Yn ∧ r'.Yn = r.Yn := by
  intro r'
  simp only [r', beStep_of_retry o s p kc atol rtol T r hd hc hm hf]
  simp [beRetry, beNewton, hd, List.getElem?_eq_getElem hf]

/-- **failure, given up**: the outer iteration ends un-converged with
    `n_convergence_failures ≥ reductions.size()`.  Then `t ← t + H` (the un-converged step is
    accepted), the status is `AcceptingUnconvergedIntegration`, the loop ends; `H` is not changed. -/
theorem C07_be_schedule_giveUp (r : BEState α) (hd : (beHead o T r).done = false)
    (hc : beConv o s p kc atol rtol r = false) (hm : ¬ r.iterations + 1 < p.maxSteps)
    (hf : p.reductions.length ≤ r.nFail) :
    let r' := beStep o s p kc atol rtol T r
    r'.status = .acceptingUnconvergedIntegration ∧ r'.done = true ∧ r'.t = r.t + r.h ∧ r'.h = r.h ∧
    r'.stats.rejected = r.stats.rejected + 1 ∧ r'.stats.accepted = r.stats.accepted ∧
    r'.Yn = r.Yn ∧ r'.Yn1 = beNewY o s kc r := by
  intro r'
  simp only [r', beStep_of_giveUp o s p kc atol rtol T r hd hc hm hf]
  simp [beGiveUp, beNewton]

/-- **success**: `converged = true`.  Then `t ← t + H`, `Yn ← Yn1`, the status is `Converged`;
    `n_successful_integrations` is incremented and, when it reaches 2, reset to 0 and `H` doubled;
    finally `H ← min(H, time_step − t)` with the *new* `t`.  The failure counter is not reset. -/
theorem C07_be_schedule_accept (r : BEState α) (hd : (beHead o T r).done = false)
    (hc : beConv o s p kc atol rtol r = true) :
    let r' := beStep o s p kc atol rtol T r
    r'.t = r.t + r.h ∧
    r'.h = cmin o (if r.nSucc + 1 ≥ 2 then r.h * 2 else r.h) (T - (r.t + r.h)) ∧
    r'.nSucc = (if r.nSucc + 1 ≥ 2 then 0 else r.nSucc + 1) ∧ r'.nFail = r.nFail ∧
    r'.status = .converged ∧ r'.stats.accepted = r.stats.accepted + 1 ∧
    r'.stats.rejected = r.stats.rejected ∧ r'.done = false ∧ r'.iterations = 0 ∧
    r'.Yn1 = beNewY o s kc r ∧ r'.Yn = beNewY o s kc r := by
  intro r'
  simp only [r', beStep_of_accept o s p kc atol rtol T r hd hc]
  simp [beAccept_eq, beNewton, hd]

/-- after one success `H` is unchanged (then clipped), after two consecutive successes doubled
    (then clipped): `n_successful_integrations ∈ {0, 1}` throughout the loop (`BECtlInv.nSucc`), so
    the two cases of `C07_be_schedule_accept` are `nSucc = 0` and `nSucc = 1` -/
theorem C07_be_schedule_double (r : BEState α) (hi : BECtlInv p r)
    (hd : (beHead o T r).done = false) (hc : beConv o s p kc atol rtol r = true) :
    (r.nSucc = 0 ∧ (beStep o s p kc atol rtol T r).h = cmin o r.h (T - (r.t + r.h)) ∧
      (beStep o s p kc atol rtol T r).nSucc = 1) ∨
    (r.nSucc = 1 ∧ (beStep o s p kc atol rtol T r).h = cmin o (r.h * 2) (T - (r.t + r.h)) ∧
      (beStep o s p kc atol rtol T r).nSucc = 0) := by
  obtain ⟨_, h2, h3, _⟩ := C07_be_schedule_accept o s p kc atol rtol T r hd hc
  have := hi.nSucc
  have h01 : r.nSucc = 0 ∨ r.nSucc = 1 := by omega
  rcases h01 with h | h
  · left; rw [h2, h3, h]; simp
  · right; rw [h2, h3, h]; simp

/-- **the `k`-th failure uses `reductions[k]`**: in every not-`done` loop state reached from the
    initial state of `beSolve` the failure counter equals `rejected` (it is never reset), so the
    failed outer iteration number `k = rejected` (counting from 0) multiplies `H` by `reductions[k]`
    if `k < reductions.size()` and gives up otherwise -/
theorem C07_be_schedule_kth (r : BEState α) (hi : BECtlInv p r) (hd0 : r.done = false) :
    r.nFail = r.stats.rejected ∧ r.nFail ≤ p.reductions.length := by
  have hna : r.status ≠ .acceptingUnconvergedIntegration := fun h => by
    rw [hi.accDone h] at hd0; cases hd0
  have := hi.rej
  simp only [hna, if_false] at this
  exact ⟨by omega, hi.nFail⟩

/-- the control invariants hold in every loop state of `beSolve` (here: where the loop stops; they
    are preserved by every iteration, `BECtlInv_step`) -/
theorem C07_be_invariants (Y : Mat α) (sc : Scratch α) (fuel : Nat) :
    BECtlInv p (beLoop o s p kc atol rtol T fuel (beInit (beInitialH o p T) Y sc)) :=
  BECtlInv_loop o s p kc atol rtol T fuel _ (BECtlInv_init p _ Y sc)

/-- **the first Newton iteration never tests convergence**: when `iterations = 0` the iteration is
    neither accepted nor (if `max_number_of_steps > 1`) rejected; it just makes the Newton update -/
theorem C07_be_inner_first (r : BEState α) (h0 : r.iterations = 0)
    (hd : (beHead o T r).done = false) :
    beConv o s p kc atol rtol r = false ∧
    (1 < p.maxSteps → beStep o s p kc atol rtol T r = beNewton o s kc (beHead o T r) ∧
      (beStep o s p kc atol rtol T r).iterations = 1 ∧
      (beStep o s p kc atol rtol T r).stats.accepted = r.stats.accepted ∧
      (beStep o s p kc atol rtol T r).stats.rejected = r.stats.rejected) := by
  have hc := beConv_first o s p kc atol rtol r h0
  refine ⟨hc, fun hm => ?_⟩
  have e := beStep_of_cont o s p kc atol rtol T r hd hc (by omega)
  rw [e]; simp [beNewton, h0]

/-- **the inner loop makes at most `max(1, max_number_of_steps)` Newton iterations**: an iteration
    with `iterations + 1 ≥ max_number_of_steps` always ends the outer iteration, and inside an outer
    iteration `iterations < max_number_of_steps` (`BECtlInv.iters`) -/
theorem C07_be_inner_bound (r : BEState α) (hd : (beHead o T r).done = false)
    (hm : ¬ r.iterations + 1 < p.maxSteps) :
    (beStep o s p kc atol rtol T r).iterations = 0 ∧
    (beStep o s p kc atol rtol T r).stats.accepted + (beStep o s p kc atol rtol T r).stats.rejected
      = r.stats.accepted + r.stats.rejected + 1 := by
  have hs := beStep_spec o s p kc atol rtol T r
  generalize beStep o s p kc atol rtol T r = r' at hs ⊢
  cases hs with
  | exit h => rw [hd] at h; cases h
  | cont _ _ h => exact absurd h hm
  | giveUp => exact ⟨rfl, (Nat.add_assoc _ _ _).symm⟩
  | retry => exact ⟨rfl, (Nat.add_assoc _ _ _).symm⟩
  | accept => exact ⟨rfl, Nat.add_right_comm _ _ _⟩

/-- a continuing iteration (`converged = false`, `iterations + 1 < max_number_of_steps`) changes
    neither `t`, `H`, the counters of successes/failures nor `Yn` -/
theorem C07_be_inner_continue (r : BEState α) (hd : (beHead o T r).done = false)
    (hc : beConv o s p kc atol rtol r = false) (hm : r.iterations + 1 < p.maxSteps) :
    let r' := beStep o s p kc atol rtol T r
    r'.t = r.t ∧ r'.h = r.h ∧ r'.nSucc = r.nSucc ∧ r'.nFail = r.nFail ∧ r'.Yn = r.Yn ∧
    r'.iterations = r.iterations + 1 ∧ r'.Yn1 = beNewY o s kc r := by
  intro r'
  simp only [r', beStep_of_cont o s p kc atol rtol T r hd hc hm]
  simp [beNewton]

/-- **C07 for backward Euler, summary**: an iteration that passes the loop head does exactly one of
    (a) continue the inner loop (nothing of the schedule changes),
    (b) `k`-th failure with `k = n_convergence_failures < reductions.size()`:
        `H ← min(H·reductions[k], time_step − t)`, `t` unchanged, loop goes on,
    (c) failure with `n_convergence_failures ≥ reductions.size()`:
        `AcceptingUnconvergedIntegration`, `t ← t + H`, loop ends,
    (d) success: `t ← t + H`, `H` doubled iff this is the second success in a row, then
        `H ← min(H, time_step − t)`; status `Converged`. -/
theorem C07_be_schedule (r : BEState α) (hd : (beHead o T r).done = false) :
    let r' := beStep o s p kc atol rtol T r
    (beConv o s p kc atol rtol r = false ∧ r.iterations + 1 < p.maxSteps ∧
      r'.t = r.t ∧ r'.h = r.h ∧ r'.nSucc = r.nSucc ∧ r'.nFail = r.nFail ∧
      r'.iterations = r.iterations + 1) ∨
    (∃ hf : r.nFail < p.reductions.length,
      beConv o s p kc atol rtol r = false ∧ ¬ r.iterations + 1 < p.maxSteps ∧
      r'.h = cmin o (r.h * p.reductions[r.nFail]) (T - r.t) ∧ r'.t = r.t ∧
      r'.nFail = r.nFail + 1 ∧ r'.nSucc = 0 ∧ r'.done = false ∧ r'.iterations = 0) ∨
    (p.reductions.length ≤ r.nFail ∧
      beConv o s p kc atol rtol r = false ∧ ¬ r.iterations + 1 < p.maxSteps ∧
      r'.status = .acceptingUnconvergedIntegration ∧ r'.done = true ∧ r'.t = r.t + r.h ∧ r'.h = r.h) ∨
    (beConv o s p kc atol rtol r = true ∧ r'.status = .converged ∧ r'.t = r.t + r.h ∧
      r'.h = cmin o (if r.nSucc + 1 ≥ 2 then r.h * 2 else r.h) (T - (r.t + r.h)) ∧
      r'.nSucc = (if r.nSucc + 1 ≥ 2 then 0 else r.nSucc + 1) ∧ r'.nFail = r.nFail ∧
      r'.done = false ∧ r'.iterations = 0) := by
  intro r'
  cases hc : beConv o s p kc atol rtol r
  · by_cases hm : r.iterations + 1 < p.maxSteps
    · obtain ⟨a1, a2, a3, a4, _, a6, _⟩ := C07_be_inner_continue o s p kc atol rtol T r hd hc hm
      exact Or.inl ⟨rfl, hm, a1, a2, a3, a4, a6⟩
    · by_cases hf : r.nFail < p.reductions.length
      · obtain ⟨a1, a2, a3, a4, _, _, a7, a8, _⟩ := C07_be_schedule_retry o s p kc atol rtol T r hd hc hm hf
        exact Or.inr (Or.inl ⟨hf, rfl, hm, a1, a2, a3, a4, a7, a8⟩)
      · obtain ⟨a1, a2, a3, a4, _⟩ :=
          C07_be_schedule_giveUp o s p kc atol rtol T r hd hc hm (by omega)
        exact Or.inr (Or.inr (Or.inl ⟨by omega, rfl, hm, a1, a2, a3, a4⟩))
  · obtain ⟨a1, a2, a3, a4, a5, _, _, a8, a9, _⟩ := C07_be_schedule_accept o s p kc atol rtol T r hd hc
    exact Or.inr (Or.inr (Or.inr ⟨rfl, a5, a1, a2, a3, a4, a8, a9⟩))

end Any

/-! ### examples on `A → B` over `ℚ` -/

namespace BEEx

/-- reductions `½, ¼`, `max_number_of_steps = 1` (every outer iteration fails): `H = 1, ½, ⅛`,
    then the third failure gives up with `t = ⅛` -/
example :
    let q : BEParams ℚ := { params with maxSteps := 1, reductions := [1/2, 1/4] }
    (List.range 4).map (fun k => ((iter .doolittle q 1 k).h, (iter .doolittle q 1 k).t,
      (iter .doolittle q 1 k).nFail, (iter .doolittle q 1 k).done))
      = [(1, 0, 0, false), (1/2, 0, 1, false), (1/8, 0, 2, false), (1/8, 1/8, 2, true)] := by
  decide +kernel

/-- `h_start = ⅛`, `time_step = 1`: successes at `H = ⅛, ⅛` (doubling), `¼, ¼` (doubling), then `½`
    clipped to `time_step − t = ¼`; `t` reaches exactly `1`. -/
example : (run .mozart { params with hstart := 1/8 } 1 40).status = .converged ∧
    (run .mozart { params with hstart := 1/8 } 1 40).finalTime = 1 ∧
    ((run .mozart { params with hstart := 1/8 } 1 40).trace.map (·.h)).dedup = [1/8, 1/4] ∧
    (run .mozart { params with hstart := 1/8 } 1 40).stats.accepted = 5 := by
  decide +kernel

/-- the hypotheses of `C07_be_schedule_retry` hold in the first loop state of the first example -/
example :
    let q : BEParams ℚ := { params with maxSteps := 1, reductions := [1/2, 1/4] }
    (beHead ratOps 1 (iter .doolittle q 1 0)).done = false ∧
    beConv ratOps (cfg .doolittle) q #[#[1]] #[1/10, 1/10] (1/10) (iter .doolittle q 1 0) = false ∧
    ¬ (iter .doolittle q 1 0).iterations + 1 < q.maxSteps ∧
    (iter .doolittle q 1 0).nFail < q.reductions.length := by
  decide +kernel

end BEEx

#print axioms C07_be_schedule
#print axioms C07_be_schedule_retry
#print axioms C07_be_schedule_giveUp
#print axioms C07_be_schedule_accept
#print axioms C07_be_schedule_double
#print axioms C07_be_schedule_kth
#print axioms C07_be_invariants
#print axioms C07_be_inner_first
#print axioms C07_be_inner_bound
#print axioms C07_be_inner_continue

end Micm
